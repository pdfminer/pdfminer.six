/-
`group_textboxes` on the scaled page runs in lockstep with the run on the page (`Sim`, `Step.sim`): the heap entries
correspond, with distances times `s²`, so a heap order that ignores this factor pops corresponding entries, and the
planes answer corresponding queries alike.  Hence the group hierarchy, and with it all of `analyze`, commutes with
scaling.
-/
import PdfVerif.Lemmas.LayoutScale2
import PdfVerif.Lemmas.LayoutGroups
namespace PdfVerif.Layout
open PdfVerif PdfVerif.Gen.Layout
open PdfVerif.Plane (WfRect bboxOf PObj remove_ok)
open PdfVerif.Props.C20 (Reach plane_iter)

def scE (s : Rat) (e : HEntry) : HEntry := { e with d := s * s * e.d }

theorem popMin_map {le : Cmp} (f : HEntry → HEntry) (hf : ∀ a b, le (f a) (f b) = le a b) (h : List HEntry) :
    popMin le (h.map f) = (popMin le h).map (fun pr => (f pr.1, pr.2.map f)) := by
  fun_induction popMin le h with
  | case1 => rfl
  | case2 e rest hr ih => simp [popMin, ih, hr]
  | case3 e rest m rest' hr hle ih => simp [popMin, ih, hr, hf, hle]
  | case4 e rest m rest' hr hle ih => simp [popMin, ih, hr, hf, hle]

section
variable {s : Rat} (hs : 0 < s)
include hs

theorem hle_scE (a b : HEntry) : HEntry.le (scE s a) (scE s b) = HEntry.le a b := by
  have e : s * s * a.d = s * s * b.d ↔ a.d = b.d := mul_right_inj' (mul_pos hs hs).ne'
  unfold HEntry.le scE
  by_cases h : a.d = b.d <;> simp [h, e, lt_scale (mul_pos hs hs)]

theorem scP_injective : Function.Injective (scP s) := by
  rintro ⟨_, _, _, _, _⟩ ⟨_, _, _, _, _⟩ h
  simpa only [scP, PObj.mk.injEq, mul_right_inj' hs.ne'] using h

theorem wfRect_scP {o : PObj} (h : WfRect (bboxOf o)) : WfRect (bboxOf (scP s o)) := by
  simpa only [WfRect, bboxOf, scP, le_scale hs] using h

theorem isany_query_scale (a b : BB) : isany_query (scaleBB s a) (scaleBB s b) = scRect s (isany_query a b) := by
  simp only [isany_query, Spec.scaleBB, scRect, min_scale hs, max_scale hs]

theorem reach_remove_scale {p q : Plane.Plane} {L : List PObj} (hp : Reach p L) (hq : Reach q (L.map (scP s)))
    {o : PObj} (ho : o ∈ L) :
    Reach (Plane.remove p o).1 (L.erase o) ∧ Reach (Plane.remove q (scP s o)).1 ((L.erase o).map (scP s)) ∧
      (Plane.remove p o).2 = true ∧ (Plane.remove q (scP s o)).2 = true := by
  refine ⟨hp.remove o ho, ?_, remove_ok _ _ ?_, remove_ok _ _ ?_⟩
  · rw [List.map_erase (scP_injective hs)]
    exact hq.remove _ (List.mem_map_of_mem ho)
  · exact (Plane.mem_iter.mp (plane_iter hp ▸ ho)).2
  · exact (Plane.mem_iter.mp (plane_iter hq ▸ List.mem_map_of_mem ho)).2

end

theorem scaleNode_bb (s : Rat) (n : Node) : (scaleNode s n).bb = scaleBB s n.bb := by cases n <;> rfl
theorem scaleNode_isVert (s : Rat) (n : Node) : (scaleNode s n).isVert = n.isVert := by cases n <;> rfl
theorem nodePObj_scale (s : Rat) (k : Nat) (n : Node) : nodePObj k (scaleNode s n) = scP s (nodePObj k n) := by
  simp [nodePObj, scP, scaleNode_bb, Spec.scaleBB]
theorem pobjBB_scP (s : Rat) (o : PObj) : pobjBB (scP s o) = scaleBB s (pobjBB o) := rfl

theorem wf_union {a b : BB} (ha : WfBB a) : WfBB (a.union b) :=
  ⟨le_trans (min_le_left _ _) (le_trans ha.1 (le_max_left _ _)),
   le_trans (min_le_left _ _) (le_trans ha.2 (le_max_left _ _))⟩

/-- The states of the loop on a page and on the scaled page: entries, nodes and plane objects correspond (distances
times `s²`, boxes times `s`), everything else is equal.  `L` lists the live objects of the unscaled plane; the
last two fields concern the unscaled run only. -/
structure Sim (s : Rat) (a b : GState) (L : List PObj) : Prop where
  heap : b.heap = a.heap.map (scE s)
  done : b.done = a.done
  nodes : b.nodes = a.nodes.map (scaleNode s)
  tie : b.tie = a.tie
  err : b.err = a.err
  ra : Reach a.plane L
  rb : Reach b.plane (L.map (scP s))
  lnodes : ∀ o ∈ L, ∃ n, a.nodes[o.id]? = some n ∧ o = nodePObj o.id n
  wf : ∀ n ∈ a.nodes, WfBB n.bb

theorem live_sim {s : Rat} {a b : GState} {L : List PObj} (h : Sim s a b L) (e : HEntry) :
    live b (scE s e) = live a e := by
  simp only [live, h.done, scE]

theorem mem_L_of_live {s : Rat} {boxes : List Box} {a b : GState} {L : List PObj} (hc : CInv boxes a)
    (h : Sim s a b L) {k : Nat} {n : Node} (hk : a.nodes[k]? = some n) (hd : k ∉ a.done) : nodePObj k n ∈ L := by
  obtain ⟨x, hx, rfl⟩ := hc.liveIn k (List.getElem?_eq_some_iff.mp hk).1 hd
  rw [plane_iter h.ra] at hx
  obtain ⟨n', hn', hxe⟩ := h.lnodes x hx
  cases hk.symm.trans hn'
  exact hxe ▸ hx

section
variable {s : Rat} (hs : 0 < s)
include hs

theorem isany_sim {a b : GState} {L : List PObj} (h : Sim s a b L) (e : HEntry) {n1 : Node} (n2 : Node)
    (h1 : a.nodes[e.id1]? = some n1) :
    (!(scE s e).skip && isany b.plane (scE s e).id1 (scE s e).id2 (scaleNode s n1).bb (scaleNode s n2).bb)
      = (!e.skip && isany a.plane e.id1 e.id2 n1.bb n2.bb) := by
  have hq : WfRect (isany_query n1.bb n2.bb) := wf_union (h.wf n1 (List.mem_of_getElem? h1))
  simp only [isany, scaleNode_bb, isany_query_scale hs, find_scale hs h.ra h.rb _ hq, List.any_map]
  rfl

theorem tieAfter_sim {a b : GState} {L : List PObj} (h : Sim s a b L) (e : HEntry) (heap : List HEntry) :
    tieAfter b (scE s e) (heap.map (scE s)) = tieAfter a e heap := by
  rw [tieAfter, tieAfter, h.tie, List.any_map]
  congr 2
  funext x
  simp only [Function.comp, live_sim h]
  simp only [scE, beq_eq_decide, mul_right_inj' (mul_pos hs hs).ne']

theorem Step.sim {le : Cmp} (hle : ∀ x y, le (scE s x) (scE s y) = le x y) {boxes : List Box} {a a' b : GState}
    {L : List PObj} (hc : CInv boxes a) (hib : GInv b) (h : Sim s a b L)
    (ha : Step le a a') : ∃ b' L', Step le b b' ∧ Sim s a' b' L' := by
  have hpopb : ∀ {e : HEntry} {heap : List HEntry}, popMin le a.heap = some (e, heap) →
      popMin le b.heap = some (scE s e, heap.map (scE s)) :=
    fun hp => by rw [h.heap, popMin_map (scE s) hle, hp]; rfl
  have hgetb : ∀ {k : Nat} {n : Node}, a.nodes[k]? = some n → b.nodes[k]? = some (scaleNode s n) :=
    fun hk => by rw [h.nodes, List.getElem?_map, hk]; rfl
  cases ha with
  | @dead e heap hp hl =>
    exact ⟨_, L, .dead (hpopb hp) ((live_sim h e).trans hl), { h with heap := rfl }⟩
  | dangling hp hl hn => exact (hc.not_dangling hp hn).elim
  | @requeue e heap n1 n2 hp hl h1 h2 hb =>
    exact ⟨_, L, .requeue (hpopb hp) ((live_sim h e).trans hl) (hgetb h1) (hgetb h2) ((isany_sim hs h e n2 h1).trans hb),
      { h with heap := by simp [scE], tie := tieAfter_sim hs h e heap }⟩
  | @merge e heap n1 n2 hp hl hn1 hn2 hb =>
    refine ⟨_, ((L.erase (nodePObj e.id1 n1)).erase (nodePObj e.id2 n2)) ++ [nodePObj a.nodes.length (mergedNode n1 n2)],
      .merge (hpopb hp) ((live_sim h e).trans hl) (hgetb hn1) (hgetb hn2) ((isany_sim hs h e n2 hn1).trans hb), ?_⟩
    have hwg : WfBB (mergedNode n1 n2).bb := wf_union (h.wf n1 (List.mem_of_getElem? hn1))
    have ho1 := mem_L_of_live hc h hn1 (live_ids hl).1
    have ho2 : nodePObj e.id2 n2 ∈ L.erase (nodePObj e.id1 n1) :=
      (List.mem_erase_of_ne fun heq => hc.inv.heapNe e (popMin_mem hp) (congrArg PObj.id heq).symm).mpr
        (mem_L_of_live hc h hn2 (live_ids hl).2)
    obtain ⟨ra1, rb1, e1a, e1b⟩ := reach_remove_scale hs h.ra h.rb ho1
    obtain ⟨ra2, rb2, e2a, e2b⟩ := reach_remove_scale hs ra1 rb1 ho2
    rw [← nodePObj_scale] at e1b
    rw [← nodePObj_scale, ← nodePObj_scale] at rb2 e2b
    replace ra2 : Reach (planeWithout a e n1 n2) _ := ra2
    replace rb2 : Reach (planeWithout b (scE s e) (scaleNode s n1) (scaleNode s n2)) _ := rb2
    have hgs : mergedNode (scaleNode s n1) (scaleNode s n2) = scaleNode s (mergedNode n1 n2) := by
      simp only [mergedNode, scaleNode, scaleNode_isVert, scaleNode_bb, union_scale hs]
    have hlen : b.nodes.length = a.nodes.length := by rw [h.nodes, List.length_map]
    -- the number of the new node is above every identifier that either plane has seen
    have ra3 := ra2.add (nodePObj a.nodes.length (mergedNode n1 n2))
      (fun o' ho' => Nat.ne_of_lt (hc.inv.seqLt o' (by rwa [planeWithout_seq] at ho'))) hwg
    have rb3 := rb2.add (scP s (nodePObj a.nodes.length (mergedNode n1 n2)))
      (fun o' ho' => Nat.ne_of_lt (hlen ▸ hib.seqLt o' (by rwa [planeWithout_seq] at ho'))) (wfRect_scP hs hwg)
    refine { heap := ?_, done := congrArg (e.id2 :: e.id1 :: ·) h.done, nodes := ?_, tie := tieAfter_sim hs h e heap,
             err := ?_, ra := ra3, rb := ?_, lnodes := ?_, wf := ?_ }
    ·
      simp only [mergeState, List.map_append, List.map_map, plane_iter rb2, plane_iter ra2, hgs, hlen]
      simp only [Function.comp_def, scE, scaleNode_bb, pobjBB_scP, dist_scale hs]
      rfl
    · simp [mergeState, h.nodes, hgs]
    · simp only [mergeState, h.err, e1a, e2a]
      rw [show (scE s e).id1 = e.id1 from rfl, show (scE s e).id2 = e.id2 from rfl, e1b, e2b]
    · simp only [mergeState, hgs, hlen, nodePObj_scale]
      simpa [List.map_append] using rb3
    · intro o ho
      rcases List.mem_append.mp ho with ho | ho
      · obtain ⟨n, hn, hoe⟩ := h.lnodes o (List.mem_of_mem_erase (List.mem_of_mem_erase ho))
        exact ⟨n, (List.getElem?_append_left (List.getElem?_eq_some_iff.mp hn).1).trans hn, hoe⟩
      · cases List.mem_singleton.mp ho
        exact ⟨mergedNode n1 n2, by simp [mergeState, nodePObj], rfl⟩
    · intro n hn
      rcases List.mem_append.mp hn with hn | hn
      · exact h.wf n hn
      · exact List.mem_singleton.mp hn ▸ hwg

theorem gtbLoop_sim {le : Cmp} (hle : ∀ x y, le (scE s x) (scE s y) = le x y) {boxes : List Box}
    (fuel : Nat) (a b : GState) (L : List PObj) (hc : CInv boxes a) (hib : GInv b) (h : Sim s a b L) :
    (∃ L', Sim s (gtbLoop le fuel a).1 (gtbLoop le fuel b).1 L') ∧ (gtbLoop le fuel b).2 = (gtbLoop le fuel a).2 := by
  fun_induction gtbLoop le fuel a generalizing b L with
  | case1 a => exact ⟨⟨L, h⟩, by simp only [gtbLoop, h.heap, List.isEmpty_map]⟩
  | case2 fuel a ha =>
    have hb : gtbStep le b = none := by rw [gtbStep_eq_none] at ha ⊢; rw [h.heap, ha]; rfl
    simp only [gtbLoop, hb, and_true]
    exact ⟨L, h⟩
  | case3 fuel a a' ha ih =>
    obtain ⟨b', L', hb', hsim'⟩ := Step.sim hs hle hc hib h (Step.of_gtbStep ha)
    simp only [gtbLoop, hb'.gtbStep_eq]
    exact ih b' L' ((Step.of_gtbStep ha).cinv hc) (hb'.inv hib).1 hsim'

theorem initPairs_scale (bbs : List BB) : initPairs (bbs.map (scaleBB s)) = (initPairs bbs).map (scE s) := by
  simp only [initPairs, List.zipIdx_map, List.flatMap_map, List.map_flatMap, List.filter_map, List.map_map]
  congr 1
  funext x
  congr 1
  funext y
  simp only [Function.comp, scE, Prod.map, id, dist_scale hs]

theorem gtbInit_sim (B : BB) (hB : B.x0 ≤ B.x1 ∧ B.y0 ≤ B.y1) (boxes : List Box) (hwf : ∀ b ∈ boxes, WfBB b.bb) :
    Sim s (gtbInit B boxes) (gtbInit (scaleBB s B) (boxes.map (scaleBox s)))
      (boxes.zipIdx.map fun (x : Box × Nat) => nodePObj x.2 (.leaf x.1)) := by
  have hpob : ((boxes.map (scaleBox s)).zipIdx.map fun (x : Box × Nat) => nodePObj x.2 (.leaf x.1))
      = (boxes.zipIdx.map fun (x : Box × Nat) => nodePObj x.2 (.leaf x.1)).map (scP s) :=
    zipIdx_map_comm (scaleBox s) (fun b k => nodePObj k (.leaf b)) (scP s)
      (fun b k => nodePObj_scale s k (.leaf b)) boxes
  have hwfo : ∀ o ∈ (boxes.zipIdx.map fun (x : Box × Nat) => nodePObj x.2 (Node.leaf x.1)), WfRect (bboxOf o) := by
    intro o ho
    obtain ⟨x, hx, rfl⟩ := List.mem_map.mp ho
    exact hwf x.1 (List.fst_mem_of_mem_zipIdx hx)
  have hnd := zipIdx_ids_nodup boxes
  refine { heap := ?_, done := rfl, nodes := ?_, tie := rfl, err := rfl, ra := reach_mkPlane B _ hB hwfo hnd,
           rb := ?_, lnodes := ?_, wf := ?_ }
  · simp only [gtbInit, List.map_map]
    rw [← initPairs_scale hs, List.map_map]
    rfl
  · simp only [gtbInit, List.map_map]; rfl
  · show Reach (mkPlane (scaleBB s B) _) _
    rw [hpob]
    refine reach_mkPlane _ _ (wfBB_scale hs hB) (fun o ho => ?_) (by rwa [List.map_map])
    obtain ⟨o', ho', rfl⟩ := List.mem_map.mp ho
    exact wfRect_scP hs (hwfo o' ho')
  · intro o ho
    obtain ⟨x, hx, rfl⟩ := List.mem_map.mp ho
    exact ⟨.leaf x.1, by simp [gtbInit, nodePObj, List.mem_zipIdx_iff_getElem?.mp hx], rfl⟩
  · intro n hn
    obtain ⟨b, hb, rfl⟩ := List.mem_map.mp hn
    exact hwf b hb

/-- `group_textboxes` commutes with scaling, for every heap order that scaling of the distances leaves unchanged
(the implementation's `HEntry.le`: `hle_scE`). -/
theorem groupTextboxes_scale {le : Cmp} (hle : ∀ x y, le (scE s x) (scE s y) = le x y) (B : BB)
    (hB : B.x0 ≤ B.x1 ∧ B.y0 ≤ B.y1) (boxes : List Box) (hwf : ∀ b ∈ boxes, WfBB b.bb) :
    groupTextboxes le (scaleBB s B) (boxes.map (scaleBox s))
      = ((groupTextboxes le B boxes).1.map (scaleNode s), (groupTextboxes le B boxes).2) := by
  obtain ⟨⟨L', hs'⟩, hfl⟩ := gtbLoop_sim hs hle (boxes := boxes) (gtbFuel boxes.length) _ _ _ (gtbInit_cinv B boxes)
    (gtbInit_inv _ _) (gtbInit_sim hs B hB boxes hwf)
  simp only [groupTextboxes, List.length_map]
  rw [hfl, hs'.tie, hs'.err, plane_iter hs'.rb, plane_iter hs'.ra, hs'.nodes]
  congr 1
  rw [List.filterMap_map, List.map_filterMap]
  apply List.filterMap_congr
  intro o _
  simp [Function.comp, scP, List.getElem?_map]

end


theorem leaves_scaleNode (s : Rat) (n : Node) : (scaleNode s n).leaves = n.leaves.map (scaleBox s) := by
  induction n with
  | leaf b => rfl
  | grp t bb l r ihl ihr => simp [scaleNode, Node.leaves, ihl, ihr]

theorem assign_scaleNode (s : Rat) (n : Node) (k : Nat) :
    (scaleNode s n).assign k = (scaleNode s (n.assign k).1, (n.assign k).2) := by
  induction n generalizing k with
  | leaf b => rfl
  | grp t bb l r ihl ihr => simp only [scaleNode, Node.assign, ihl, ihr]

section
variable {s : Rat} (hs : 0 < s)
include hs

theorem analyze_scaleNode (bf : Rat) (n : Node) : (scaleNode s n).analyze bf = scaleNode s (n.analyze bf) := by
  induction n with
  | leaf b => simp only [scaleNode, Node.analyze, boxAnalyze_scale hs]
  | grp t bb l r ihl ihr =>
    have hk : ∀ x : BB, groupKey t bf (scaleBB s x) = s * groupKey t bf x := by
      intro x
      cases t <;> simp only [groupKey, Bool.false_eq_true, if_false, if_true, key_lrtb_scale hs, key_tbrl_scale hs]
    simp only [scaleNode, Node.analyze, ihl, ihr, scaleNode_bb, hk, lt_scale hs]
    split <;> rfl

theorem analyzeGroups_scale (bf : Rat) : ∀ (ns : List Node) (k : Nat),
    analyzeGroups bf (ns.map (scaleNode s)) k = (analyzeGroups bf ns k).map (scaleNode s)
  | [], _ => rfl
  | n :: rest, k => by
    simp only [List.map_cons, analyzeGroups, analyze_scaleNode hs, assign_scaleNode]
    rw [analyzeGroups_scale bf rest]

omit hs in
/-- For a numeric `boxes_flow`, `finalBoxes` returns the boxes looked up among the leaves of the hierarchy and sorted by
`index`; that expression commutes with scaling. -/
theorem lookup_sort_scale (leaves boxes : List Box) :
    ((boxes.map (scaleBox s)).map fun b => ((leaves.map (scaleBox s)).find? (fun b' => b'.bid == b.bid)).getD b).mergeSort
        (fun a b => decide (a.index ≤ b.index))
      = ((boxes.map fun b => (leaves.find? (fun b' => b'.bid == b.bid)).getD b).mergeSort
        (fun a b => decide (a.index ≤ b.index))).map (scaleBox s) := by
  rw [List.map_mergeSort (r := fun a b => decide (a.index ≤ b.index)) (s := fun a b => decide (a.index ≤ b.index))
      (f := scaleBox s) (fun a _ b _ => rfl), List.map_map, List.map_map]
  congr 2
  funext b
  simp only [Function.comp, List.find?_map]
  exact Option.getD_map (scaleBox s) b _

theorem finalBoxes_scale {le : Cmp} (hle : ∀ x y, le (scE s x) (scE s y) = le x y) (p : LAParams) (B : BB)
    (hB : B.x0 ≤ B.x1 ∧ B.y0 ≤ B.y1) (boxes : List Box) (hwf : ∀ b ∈ boxes, WfBB b.bb) :
    finalBoxes le p (scaleBB s B) (boxes.map (scaleBox s))
      = ((finalBoxes le p B boxes).1.map (scaleBox s),
         (finalBoxes le p B boxes).2.1.map (·.map (scaleNode s)), (finalBoxes le p B boxes).2.2) := by
  cases hbf : p.boxes_flow with
  | none =>
    rw [finalBoxes_none_scale hs p hbf]
    simp [finalBoxes, hbf]
  | some bf =>
    simp only [finalBoxes, hbf, groupTextboxes_scale hs hle B hB boxes hwf, analyzeGroups_scale hs, Option.map_some,
      List.flatMap_map, leaves_scaleNode, ← List.map_flatMap]
    exact Prod.ext (lookup_sort_scale _ _) rfl

/-- Scale invariance of the whole layout analysis, numeric `boxes_flow` included: analysing the page scaled by
`s > 0` gives the scaled result. -/
theorem analyze_scale {le : Cmp} (hle : ∀ x y, le (scE s x) (scE s y) = le x y) (p : LAParams) (B : BB)
    (hB : B.x0 ≤ B.x1 ∧ B.y0 ≤ B.y1) (items : List Item) :
    analyze le p (scaleBB s B) (items.map (scaleItem s)) = scaleResult s (analyze le p B items) :=
  analyze_scale_of hs p B hB items (fun boxes hwf => finalBoxes_scale hs hle p B hB boxes hwf)

end

end PdfVerif.Layout
