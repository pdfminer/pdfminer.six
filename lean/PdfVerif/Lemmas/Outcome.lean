/-
How a computation in `Except ε` ends.  `Outcome E V r`: `r` is an error satisfying `E` or a value satisfying `V`.
The statements about the fuelled walks and the decoders of C13 all have this shape (which errors, what the value
obeys); on a constructor `Outcome` reduces to `E e` / `V a`, so a leaf of a case analysis is closed by the fact itself.
-/

namespace PdfVerif

def Outcome {ε α : Type} (E : ε → Prop) (V : α → Prop) : Except ε α → Prop
  | .error e => E e
  | .ok a => V a

namespace Outcome
variable {ε α β : Type} {E E' : ε → Prop} {V V' : α → Prop} {W : β → Prop} {r : Except ε α}

theorem error_of (h : Outcome E V r) {e : ε} (hr : r = .error e) : E e := by
  subst hr; exact h

theorem ok_of (h : Outcome E V r) {a : α} (hr : r = .ok a) : V a := by
  subst hr; exact h

theorem imp (h : Outcome E V r) (hE : ∀ e, E e → E' e) (hV : ∀ a, V a → V' a) : Outcome E' V' r := by
  cases r with
  | error e => exact hE e h
  | ok a => exact hV a h

theorem mono (h : Outcome E V r) (hV : ∀ a, V a → V' a) : Outcome E V' r :=
  h.imp (fun _ he => he) hV

theorem bind {f : α → Except ε β} (h : Outcome E V r) (hf : ∀ a, V a → Outcome E W (f a)) :
    Outcome E W (r >>= f) := by
  cases r with
  | error e => exact h
  | ok a => exact hf a h

end Outcome

end PdfVerif
