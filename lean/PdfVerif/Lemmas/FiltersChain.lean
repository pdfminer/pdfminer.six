/-
Name dispatch of `decodeStep` over the regenerated `LITERALS_*` tuples.  The proofs only use
membership in the tuple and the (decided) fact that the tuples tested earlier in the `if` chain do not
contain the name, so adding an alias to a tuple keeps them valid while overlapping tuples break them.
-/
import PdfVerif.Spec.FilterEnc

namespace PdfVerif.Filters
open PdfVerif PdfVerif.FilterEnc PdfVerif.Gen.Filters

def thenPredictor (pr : Option Parms) (r : Except Err Bytes) : Except Err Bytes :=
  match r with
  | .ok d => applyPredictor pr d
  | .error e => .error e

theorem lzw_not_earlier : ∀ n ∈ LITERALS_LZW_DECODE, LITERALS_FLATE_DECODE.contains n = false := by decide

theorem a85_not_earlier : ∀ n ∈ LITERALS_ASCII85_DECODE,
    LITERALS_FLATE_DECODE.contains n = false ∧ LITERALS_LZW_DECODE.contains n = false := by decide

theorem ahx_not_earlier : ∀ n ∈ LITERALS_ASCIIHEX_DECODE,
    LITERALS_FLATE_DECODE.contains n = false ∧ LITERALS_LZW_DECODE.contains n = false ∧
    LITERALS_ASCII85_DECODE.contains n = false := by decide

theorem rl_not_earlier : ∀ n ∈ LITERALS_RUNLENGTH_DECODE,
    LITERALS_FLATE_DECODE.contains n = false ∧ LITERALS_LZW_DECODE.contains n = false ∧
    LITERALS_ASCII85_DECODE.contains n = false ∧ LITERALS_ASCIIHEX_DECODE.contains n = false := by decide

theorem decodeStep_fl (inflate : Bytes → Bytes) (name : Bytes) (pr : Option Parms) (d : Bytes)
    (h : name ∈ LITERALS_FLATE_DECODE) :
    decodeStep inflate (name, pr) d = thenPredictor pr (.ok (inflate d)) := by
  have h1 : LITERALS_FLATE_DECODE.contains name = true := by simpa using h
  simp only [decodeStep, h1, if_true]
  rfl

theorem decodeStep_lzw (inflate : Bytes → Bytes) (name : Bytes) (pr : Option Parms) (d : Bytes)
    (h : name ∈ LITERALS_LZW_DECODE) :
    decodeStep inflate (name, pr) d = thenPredictor pr (lzwdecode d) := by
  have h0 := lzw_not_earlier name h
  have h1 : LITERALS_LZW_DECODE.contains name = true := by simpa using h
  simp only [decodeStep, h0, h1, Bool.false_eq_true, if_false, if_true]
  rfl

theorem decodeStep_a85 (inflate : Bytes → Bytes) (name : Bytes) (pr : Option Parms) (d : Bytes)
    (h : name ∈ LITERALS_ASCII85_DECODE) :
    decodeStep inflate (name, pr) d = thenPredictor pr (ascii85decode d) := by
  obtain ⟨h0, h0'⟩ := a85_not_earlier name h
  have h1 : LITERALS_ASCII85_DECODE.contains name = true := by simpa using h
  simp only [decodeStep, h0, h0', h1, Bool.false_eq_true, if_false, if_true]
  rfl

theorem decodeStep_ahx (inflate : Bytes → Bytes) (name : Bytes) (pr : Option Parms) (d : Bytes)
    (h : name ∈ LITERALS_ASCIIHEX_DECODE) :
    decodeStep inflate (name, pr) d = thenPredictor pr (asciihexdecode d) := by
  obtain ⟨h0, h0', h0''⟩ := ahx_not_earlier name h
  have h1 : LITERALS_ASCIIHEX_DECODE.contains name = true := by simpa using h
  simp only [decodeStep, h0, h0', h0'', h1, Bool.false_eq_true, if_false, if_true]
  rfl

theorem decodeStep_rl (inflate : Bytes → Bytes) (name : Bytes) (pr : Option Parms) (d : Bytes)
    (h : name ∈ LITERALS_RUNLENGTH_DECODE) :
    decodeStep inflate (name, pr) d = thenPredictor pr (rldecode d) := by
  obtain ⟨h0, h0', h0'', h0'''⟩ := rl_not_earlier name h
  have h1 : LITERALS_RUNLENGTH_DECODE.contains name = true := by simpa using h
  simp only [decodeStep, h0, h0', h0'', h0''', h1, Bool.false_eq_true, if_false, if_true]
  rfl

end PdfVerif.Filters
