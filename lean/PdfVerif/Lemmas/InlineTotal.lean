/-
The inline-image scanner on EVERY byte string (no assumption about the payload): what a successful
scan has consumed (`scan_sound`), and that `finish` only ever returns a prefix of the body.
-/
import PdfVerif.Lemmas.Inline

namespace PdfVerif.InlineLemmas
open PdfVerif PdfVerif.Inline

theorem scan_sound (l : Bytes) (i : Nat) (hist : Bytes) (n m : Nat) (eof : Bool) (hi : i ≤ 2) (hinv : StateInv i hist)
    (h : scan EI i l n = some (m, eof)) :
    ∃ k pre tail, m = n + k ∧ k ≤ l.length ∧ hist ++ l.take k = pre ++ tail ∧
      ((eof = false ∧ ∃ ws, isSpace ws = true ∧ tail = [69, 73, ws]) ∨
       (eof = true ∧ k = l.length ∧ tail = [69, 73])) := by
  fun_induction scan EI i l n generalizing hist with
  | case1 n =>
    cases h
    obtain ⟨pre, hpre⟩ := hinv.1 rfl
    exact ⟨0, pre, [69, 73], rfl, Nat.le_refl _, by simpa using hpre, .inr ⟨rfl, rfl, rfl⟩⟩
  | case2 => cases h
  | case3 i c cs n i' hgt =>
    cases h
    obtain ⟨h2, hsp, _⟩ := (step_inv i c hist hi hinv).resolve_left (fun hl => Nat.not_le_of_gt hgt hl.1)
    obtain ⟨pre, hpre⟩ := hinv.1 h2
    exact ⟨1, pre, [69, 73, c], rfl, by simp, by simp [hpre], .inl ⟨rfl, c, hsp, rfl⟩⟩
  | case4 i c cs n i' hgt ih =>
    obtain ⟨hle, hinv'⟩ := (step_inv i c hist hi hinv).resolve_right (fun hr => hgt (Nat.le_of_eq hr.2.2.symm))
    obtain ⟨k, pre, tail, hk, hkl, hpre, htail⟩ := ih (hist ++ [c]) hle hinv' h
    refine ⟨k + 1, pre, tail, by omega, Nat.succ_le_succ hkl, by simpa using hpre, ?_⟩
    exact htail.imp id (fun ⟨he, hk, ht⟩ => ⟨he, congrArg (· + 1) hk, ht⟩)

theorem stripEolRev_drop (r : Bytes) : ∃ k, stripEolRev r = r.drop k := by
  fun_cases stripEolRev r
  · exact ⟨2, rfl⟩
  · exact ⟨1, rfl⟩
  · exact ⟨1, rfl⟩
  · exact ⟨0, rfl⟩

theorem stripEol_prefix (d : Bytes) : stripEol d <+: d := by
  obtain ⟨k, hk⟩ := stripEolRev_drop d.reverse
  rw [stripEol, hk]
  simpa using List.reverse_prefix.mpr (List.drop_suffix k d.reverse)

theorem finish_prefix (L : Option Nat) (body d : Bytes) (n m : Nat) (h : finish L body n = some (d, m)) :
    d <+: body ∧ m = n := by
  revert h
  fun_cases finish L body n <;> rintro ⟨⟩
  · exact ⟨List.take_prefix _ _, rfl⟩
  · exact ⟨stripEol_prefix _, rfl⟩
  · exact ⟨stripEol_prefix _, rfl⟩

end PdfVerif.InlineLemmas
