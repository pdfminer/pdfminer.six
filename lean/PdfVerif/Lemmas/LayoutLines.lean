/-
The two loops of `group_textlines` over its `boxes` dictionary, for arbitrary neighbour lists: one iteration of the
first loop (`gtlStep`) files the new box under the line, its neighbours and the members of the boxes these were in;
the dictionary stays a partition of the lines seen so far (`PInv`, `RunInv`); the second loop yields every box once.
Hence `gtl_partition`: every line number is a member of exactly one yielded box.
-/
import Mathlib.Data.List.Perm.Subperm
import Mathlib.Data.List.Nodup
import PdfVerif.Model.Layout
namespace PdfVerif.Layout
open PdfVerif PdfVerif.Gen.Layout

def keys (d : BoxDict) : List Nat := d.map (·.1)

theorem mem_keys {d : BoxDict} {k : Nat} : k ∈ keys d ↔ ∃ b, (k, b) ∈ d := by
  simp [keys]

theorem dictGet_some_iff {d : BoxDict} (hk : (keys d).Nodup) {k : Nat} {b : TBox} :
    dictGet d k = some b ↔ (k, b) ∈ d := by
  induction d with
  | nil => simp [dictGet]
  | cons e r ih =>
    obtain ⟨k', b'⟩ := e
    have hk' := List.nodup_cons.mp hk
    have ih' := ih hk'.2
    simp only [dictGet] at ih' ⊢
    by_cases h : k' = k
    · subst h
      have : (k', b) ∉ r := fun hm => hk'.1 (mem_keys.mpr ⟨b, hm⟩)
      simp [this, eq_comm]
    · simp [h, ih', Ne.symm h]

theorem dictGet_none_iff {d : BoxDict} {k : Nat} : dictGet d k = none ↔ k ∉ keys d := by
  simp only [dictGet, Option.map_eq_none_iff, List.find?_eq_none, beq_iff_eq, keys, List.mem_map, not_exists, not_and]

theorem mem_dictErase {d : BoxDict} {k k' : Nat} {b : TBox} :
    (k', b) ∈ dictErase d k ↔ (k', b) ∈ d ∧ k' ≠ k := by
  simp [dictErase]

theorem keys_filter_nodup {d : BoxDict} (p : Nat × TBox → Bool) (h : (keys d).Nodup) : (keys (d.filter p)).Nodup :=
  List.Nodup.sublist (List.Sublist.map _ List.filter_sublist) h

theorem keys_dictErase_nodup {d : BoxDict} (k : Nat) (h : (keys d).Nodup) : (keys (dictErase d k)).Nodup :=
  keys_filter_nodup _ h

theorem mem_dictSet {d : BoxDict} {k k' : Nat} {b b' : TBox} :
    (k', b') ∈ dictSet d k b ↔ ((k', b') ∈ d ∧ k' ≠ k) ∨ (k' = k ∧ b' = b) := by
  simp [dictSet, mem_dictErase]

theorem keys_dictSet_nodup {d : BoxDict} (k : Nat) (b : TBox) (h : (keys d).Nodup) : (keys (dictSet d k b)).Nodup := by
  simp only [dictSet, keys, List.map_append, List.map_cons, List.map_nil]
  rw [List.nodup_append]
  refine ⟨keys_dictErase_nodup k h, by simp, ?_⟩
  intro a ha c hc
  simp only [List.mem_singleton] at hc
  subst hc
  simp only [List.mem_map] at ha
  obtain ⟨e, he, rfl⟩ := ha
  exact (mem_dictErase.mp he).2

theorem mem_uniq {l : List Nat} {x : Nat} : x ∈ uniq l ↔ x ∈ l := by
  fun_induction uniq l with
  | case1 => simp
  | case2 a r ih => by_cases h : x = a <;> simp [ih, h]

theorem nodup_uniq (l : List Nat) : (uniq l).Nodup := by
  fun_induction uniq l with
  | case1 => simp
  | case2 a r ih => simpa using ih.sublist List.filter_sublist

theorem collect_fst (d : BoxDict) (ms nbs : List Nat) :
    (collect d ms nbs).1 = d.filter (fun e => !nbs.contains e.1) := by
  have herase : ∀ (d : BoxDict) o rest, (dictErase d o).filter (fun e => !rest.contains e.1)
      = d.filter (fun e => !(o :: rest).contains e.1) := fun d o rest => by
    rw [dictErase, List.filter_filter]
    exact List.filter_congr fun e _ => by rw [List.contains_cons, Bool.not_or, Bool.and_comm]; rfl
  fun_induction collect d ms nbs with
  | case1 => simp
  | case2 d ms o rest b hg ih => exact ih.trans (herase d o rest)
  | case3 d ms o rest hg ih =>
    -- nothing to erase
    have : dictErase d o = d := List.filter_eq_self.mpr fun e he => by
      simpa using fun h : e.1 = o => dictGet_none_iff.mp hg (h ▸ mem_keys.mpr ⟨e.2, he⟩)
    rw [ih, ← herase, this]

theorem collect_snd (d : BoxDict) (ms nbs : List Nat) (hk : (keys d).Nodup) (m : Nat) :
    m ∈ (collect d ms nbs).2 ↔ (m ∈ ms ∨ m ∈ nbs ∨ ∃ o ∈ nbs, ∃ b, (o, b) ∈ d ∧ m ∈ b.members) := by
  fun_induction collect d ms nbs with
  | case1 => simp
  | case2 d ms o rest bo hg ih =>
    have hbo : (o, bo) ∈ d := (dictGet_some_iff hk).mp hg
    have huniq : ∀ b, (o, b) ∈ d ↔ b = bo := fun b =>
      ⟨fun hb => Option.some.inj (hg ▸ (dictGet_some_iff hk).mpr hb).symm, fun h => h ▸ hbo⟩
    simp only [ih (keys_dictErase_nodup o hk), List.mem_append, List.mem_cons, List.not_mem_nil, or_false,
      exists_eq_or_imp, mem_dictErase, huniq, exists_eq_left]
    constructor
    · rintro (((h | h) | h) | h | ⟨o', ho', b, ⟨hb, _⟩, hm⟩)
      · exact Or.inl h
      · exact Or.inr (Or.inl (Or.inl h))
      · exact Or.inr (Or.inr (Or.inl h))
      · exact Or.inr (Or.inl (Or.inr h))
      · exact Or.inr (Or.inr (Or.inr ⟨o', ho', b, hb, hm⟩))
    · rintro (h | (h | h) | (hm | ⟨o', ho', b, hb, hm⟩))
      · exact Or.inl (Or.inl (Or.inl h))
      · exact Or.inl (Or.inl (Or.inr h))
      · exact Or.inr (Or.inl h)
      · exact Or.inl (Or.inr hm)
      · by_cases hoo : o' = o
        · subst hoo
          rw [(huniq b).mp hb] at hm; exact Or.inl (Or.inr hm)
        · exact Or.inr (Or.inr ⟨o', ho', b, ⟨hb, hoo⟩, hm⟩)
  | case3 d ms o rest hg ih =>
    have hno : ∀ b, (o, b) ∉ d := fun b hb => (dictGet_none_iff.mp hg) (mem_keys.mpr ⟨b, hb⟩)
    simp only [ih hk, List.mem_append, List.mem_cons, List.not_mem_nil, or_false,
      exists_eq_or_imp, hno, false_and, exists_false, false_or, or_assoc]
theorem foldl_dictSet_spec (B : TBox) : ∀ (ms : List Nat) (d : BoxDict), (keys d).Nodup →
    (keys (ms.foldl (fun d m => dictSet d m B) d)).Nodup ∧
    ∀ k b, (k, b) ∈ ms.foldl (fun d m => dictSet d m B) d ↔ (((k, b) ∈ d ∧ k ∉ ms) ∨ (k ∈ ms ∧ b = B)) := by
  intro ms
  induction ms with
  | nil => intro d h; simp [h]
  | cons m rest ih =>
    intro d h
    have := ih (dictSet d m B) (keys_dictSet_nodup m B h)
    simp only [List.foldl_cons]
    refine ⟨this.1, ?_⟩
    intro k b
    rw [this.2, mem_dictSet]
    simp only [List.mem_cons, not_or]
    constructor
    · rintro (⟨(⟨h1, h2⟩ | ⟨h1, h2⟩), h3⟩ | ⟨h1, h2⟩)
      · exact Or.inl ⟨h1, h2, h3⟩
      · exact Or.inr ⟨Or.inl h1, h2⟩
      · exact Or.inr ⟨Or.inr h1, h2⟩
    · rintro (⟨h1, h2, h3⟩ | ⟨h1 | h1, h2⟩)
      · exact Or.inl ⟨Or.inl ⟨h1, h2⟩, h3⟩
      · by_cases hr : k ∈ rest
        · exact Or.inr ⟨hr, h2⟩
        · exact Or.inl ⟨Or.inr ⟨h1, h2⟩, hr⟩
      · exact Or.inr ⟨h1, h2⟩

/-- The set of lines that end up in the box created for line `i`. -/
def inNew (d : BoxDict) (i : Nat) (nbs : List Nat) (m : Nat) : Prop :=
  m = i ∨ m ∈ nbs ∨ ∃ o ∈ nbs, ∃ b, (o, b) ∈ d ∧ m ∈ b.members

theorem gtlStep_spec (d : BoxDict) (i : Nat) (nbs : List Nat) (hk : (keys d).Nodup) :
    (keys (gtlStep d i nbs)).Nodup ∧
    ∃ B : TBox, B.bid = i ∧ B.members.Nodup ∧ (∀ m, m ∈ B.members ↔ inNew d i nbs m) ∧
      ∀ k b, (k, b) ∈ gtlStep d i nbs ↔ (((k, b) ∈ d ∧ ¬ inNew d i nbs k) ∨ (inNew d i nbs k ∧ b = B)) := by
  have hk1 : (keys (collect d [i] nbs).1).Nodup := by
    rw [collect_fst]; exact keys_filter_nodup _ hk
  have hms : ∀ m, m ∈ uniq (collect d [i] nbs).2 ↔ inNew d i nbs m := by
    intro m
    rw [mem_uniq, collect_snd d [i] nbs hk]
    simp [inNew]
  have hf := foldl_dictSet_spec ⟨i, uniq (collect d [i] nbs).2⟩ (uniq (collect d [i] nbs).2) (collect d [i] nbs).1 hk1
  refine ⟨hf.1, ⟨i, uniq (collect d [i] nbs).2⟩, rfl, nodup_uniq _, hms, ?_⟩
  intro k b
  show (k, b) ∈ List.foldl _ _ _ ↔ _
  rw [hf.2, collect_fst, List.mem_filter, hms]
  refine or_congr_left (and_congr_left fun h2 => and_iff_left ?_)
  -- a key among the neighbours would be a member of the new box
  simpa using fun hn : k ∈ nbs => h2 (Or.inr (Or.inl hn))

/-- The `boxes` dictionary is a partition: it has one entry per line, the box of a line has the line among its
members and is filed under each of them, and two boxes with the same `bid` (the line they were created for) are the
same box. -/
structure PInv (d : BoxDict) : Prop where
  keysNodup : (keys d).Nodup
  self : ∀ k b, (k, b) ∈ d → k ∈ b.members
  closed : ∀ k b, (k, b) ∈ d → ∀ m ∈ b.members, (m, b) ∈ d
  membersNodup : ∀ k b, (k, b) ∈ d → b.members.Nodup
  bidInj : ∀ k b k' b', (k, b) ∈ d → (k', b') ∈ d → b.bid = b'.bid → b = b'

theorem pinv_unique {d : BoxDict} (h : PInv d) {k : Nat} {b b' : TBox} (h1 : (k, b) ∈ d) (h2 : (k, b') ∈ d) : b = b' :=
  Option.some.inj (((dictGet_some_iff h.keysNodup).mpr h1).symm.trans ((dictGet_some_iff h.keysNodup).mpr h2))

theorem gtlStep_pinv {d : BoxDict} (h : PInv d) (i : Nat) (nbs : List Nat)
    (hself : i ∈ nbs ∨ i ∉ keys d) (hfresh : ∀ k b, (k, b) ∈ d → b.bid ≠ i) :
    PInv (gtlStep d i nbs) := by
  obtain ⟨hkn, B, hBid, hBn, hBm, hmem⟩ := gtlStep_spec d i nbs h.keysNodup
  -- an old box that meets the new member set lies inside it entirely
  have hwhole : ∀ k b, (k, b) ∈ d → ∀ m ∈ b.members, inNew d i nbs m → inNew d i nbs k := by
    intro k b hkb m hm hin
    have hmb : (m, b) ∈ d := h.closed k b hkb m hm
    have hkmem : k ∈ b.members := h.self k b hkb
    rcases hin with rfl | hin | ⟨o, ho, b', hob', hmb'⟩
    · -- m = i is a key, so i is its own neighbour
      rcases hself with hs | hs
      · exact Or.inr (Or.inr ⟨m, hs, b, hmb, hkmem⟩)
      · exact absurd (mem_keys.mpr ⟨b, hmb⟩) hs
    · exact Or.inr (Or.inr ⟨m, hin, b, hmb, hkmem⟩)
    · have hmb'' : (m, b') ∈ d := h.closed o b' hob' m hmb'
      have : b = b' := pinv_unique h hmb hmb''
      subst this
      exact Or.inr (Or.inr ⟨o, ho, b, hob', hkmem⟩)
  refine ⟨hkn, ?_, ?_, ?_, ?_⟩
  · intro k b hkb
    rcases (hmem k b).mp hkb with ⟨h1, _⟩ | ⟨h1, rfl⟩
    · exact h.self k b h1
    · exact (hBm k).mpr h1
  · intro k b hkb m hm
    rcases (hmem k b).mp hkb with ⟨h1, h2⟩ | ⟨_, rfl⟩
    · refine (hmem m b).mpr (Or.inl ⟨h.closed k b h1 m hm, ?_⟩)
      intro hin
      exact h2 (hwhole k b h1 m hm hin)
    · exact (hmem m b).mpr (Or.inr ⟨(hBm m).mp hm, rfl⟩)
  · intro k b hkb
    rcases (hmem k b).mp hkb with ⟨h1, _⟩ | ⟨_, rfl⟩
    · exact h.membersNodup k b h1
    · exact hBn
  · intro k b k' b' hkb hkb' hbid
    rcases (hmem k b).mp hkb with ⟨h1, _⟩ | ⟨_, rfl⟩ <;> rcases (hmem k' b').mp hkb' with ⟨h1', _⟩ | ⟨_, rfl⟩
    · exact h.bidInj k b k' b' h1 h1' hbid
    · exact absurd (hbid.trans hBid) (hfresh k b h1)
    · exact absurd (hbid.symm.trans hBid) (hfresh k' b' h1')
    · rfl


/-- The dictionary after the first loop has run for the lines `seen`.  `emptyCase`: when no line has a neighbour
(negative `line_margin`) a line is not even its own neighbour, and the box created for it is new only because the line
has no entry before its turn. -/
structure RunInv (n : Nat) (nb : Nat → List Nat) (seen : List Nat) (d : BoxDict) : Prop where
  p : PInv d
  cover : ∀ i ∈ seen, i ∈ keys d
  bids : ∀ k b, (k, b) ∈ d → b.bid ∈ seen
  lt : ∀ k ∈ keys d, k < n
  emptyCase : (∀ i, nb i = []) → ∀ k ∈ keys d, k ∈ seen

theorem gtlStep_run {n : Nat} {nb : Nat → List Nat} {seen : List Nat} {d : BoxDict}
    (h : RunInv n nb seen d) (i : Nat) (hi : i < n) (his : i ∉ seen)
    (hnb : ∀ j ∈ nb i, j < n) (H : (∀ i, i < n → i ∈ nb i) ∨ (∀ i, nb i = [])) :
    RunInv n nb (i :: seen) (gtlStep d i (nb i)) := by
  have hself : i ∈ nb i ∨ i ∉ keys d := by
    rcases H with H | H
    · exact Or.inl (H i hi)
    · exact Or.inr (fun hk => his (h.emptyCase H i hk))
  have hfresh : ∀ k b, (k, b) ∈ d → b.bid ≠ i := fun k b hkb hbid => his (hbid ▸ h.bids k b hkb)
  have hp := gtlStep_pinv h.p i (nb i) hself hfresh
  obtain ⟨_, B, hBid, _, hBm, hmem⟩ := gtlStep_spec d i (nb i) h.p.keysNodup
  refine ⟨hp, ?_, ?_, ?_, ?_⟩
  · intro j hj
    simp only [List.mem_cons] at hj
    rcases hj with rfl | hj
    · exact mem_keys.mpr ⟨B, (hmem j B).mpr (Or.inr ⟨Or.inl rfl, rfl⟩)⟩
    · obtain ⟨b, hb⟩ := mem_keys.mp (h.cover j hj)
      by_cases hin : inNew d i (nb i) j
      · exact mem_keys.mpr ⟨B, (hmem j B).mpr (Or.inr ⟨hin, rfl⟩)⟩
      · exact mem_keys.mpr ⟨b, (hmem j b).mpr (Or.inl ⟨hb, hin⟩)⟩
  · intro k b hkb
    rcases (hmem k b).mp hkb with ⟨h1, _⟩ | ⟨_, rfl⟩
    · exact List.mem_cons_of_mem _ (h.bids k b h1)
    · rw [hBid]; exact List.mem_cons_self
  · intro k hk
    obtain ⟨b, hkb⟩ := mem_keys.mp hk
    rcases (hmem k b).mp hkb with ⟨h1, _⟩ | ⟨hin, _⟩
    · exact h.lt k (mem_keys.mpr ⟨b, h1⟩)
    · rcases hin with rfl | hin | ⟨o, _, b', hob', hm⟩
      · exact hi
      · exact hnb k hin
      · exact h.lt k (mem_keys.mpr ⟨b', h.p.closed o b' hob' k hm⟩)
  · intro He k hk
    obtain ⟨b, hkb⟩ := mem_keys.mp hk
    rcases (hmem k b).mp hkb with ⟨h1, _⟩ | ⟨hin, _⟩
    · exact List.mem_cons_of_mem _ (h.emptyCase He k (mem_keys.mpr ⟨b, h1⟩))
    · rw [He i] at hin
      rcases hin with rfl | hin | ⟨o, ho, _⟩
      · exact List.mem_cons_self
      · simp at hin
      · simp at ho

/-- The first loop keeps `RunInv`, and with it any property `P` of the dictionary that one iteration keeps (`gtl_cls`
in LayoutBoxes.lean carries the writing direction of the members along in this way). -/
theorem gtlDict_induct {n : Nat} {nb : Nat → List Nat} (hnb : ∀ i, ∀ j ∈ nb i, j < n)
    (H : (∀ i, i < n → i ∈ nb i) ∨ (∀ i, nb i = [])) {P : BoxDict → Prop}
    (hstep : ∀ seen d i, RunInv n nb seen d → P d → P (gtlStep d i (nb i))) :
    ∀ (idx seen : List Nat) (d : BoxDict), RunInv n nb seen d → P d → (∀ i ∈ idx, i < n) →
      (seen.reverse ++ idx).Nodup → RunInv n nb (idx.reverse ++ seen) (gtlDict nb d idx) ∧ P (gtlDict nb d idx) := by
  intro idx
  induction idx with
  | nil => intro seen d h hP _ _; exact ⟨by simpa [gtlDict] using h, hP⟩
  | cons i rest ih =>
    intro seen d h hP hlt hnd
    have his : i ∉ seen := by
      intro hc
      rw [List.nodup_append] at hnd
      exact hnd.2.2 i (List.mem_reverse.mpr hc) i List.mem_cons_self rfl
    have := ih (i :: seen) _ (gtlStep_run h i (hlt i List.mem_cons_self) his (hnb i) H) (hstep seen d i h hP)
      (fun j hj => hlt j (List.mem_cons_of_mem _ hj)) (by simpa [List.reverse_cons, List.append_assoc] using hnd)
    simpa [gtlDict, List.reverse_cons, List.append_assoc] using this

theorem gtlDict_range {n : Nat} {nb : Nat → List Nat} (hnb : ∀ i, ∀ j ∈ nb i, j < n)
    (H : (∀ i, i < n → i ∈ nb i) ∨ (∀ i, nb i = [])) {P : BoxDict → Prop} (h0 : P [])
    (hstep : ∀ seen d i, RunInv n nb seen d → P d → P (gtlStep d i (nb i))) :
    RunInv n nb (List.range n).reverse (gtlDict nb [] (List.range n)) ∧ P (gtlDict nb [] (List.range n)) := by
  have h0' : RunInv n nb [] [] := by
    refine ⟨⟨by simp [keys], ?_, ?_, ?_, ?_⟩, by simp, ?_, by simp [keys], by simp [keys]⟩ <;> simp
  simpa using gtlDict_induct hnb H hstep (List.range n) [] [] h0' h0 (fun i hi => List.mem_range.mp hi)
    (by simpa using List.nodup_range)

theorem gtlYield_spec {d : BoxDict} (hp : PInv d) (idx done : List Nat) :
    (∀ t ∈ gtlYield d done idx, t.bid ∉ done ∧ ∃ i ∈ idx, (i, t) ∈ d) ∧
    (gtlYield d done idx).Pairwise (fun a b => a.bid ≠ b.bid) ∧
    (∀ i ∈ idx, ∀ t, (i, t) ∈ d → t.bid ∈ done ∨ t ∈ gtlYield d done idx) := by
  -- when the box of line `i` is absent or already yielded, the claim for `i :: rest` is that for `rest`
  have skip : ∀ {done : List Nat} {i : Nat} {rest : List Nat} {ys : List TBox},
      ((∀ t ∈ ys, t.bid ∉ done ∧ ∃ j ∈ rest, (j, t) ∈ d) ∧ ys.Pairwise (fun a b => a.bid ≠ b.bid) ∧
        (∀ j ∈ rest, ∀ t, (j, t) ∈ d → t.bid ∈ done ∨ t ∈ ys)) →
      (∀ t, (i, t) ∈ d → t.bid ∈ done) →
      (∀ t ∈ ys, t.bid ∉ done ∧ ∃ j ∈ i :: rest, (j, t) ∈ d) ∧ ys.Pairwise (fun a b => a.bid ≠ b.bid) ∧
        (∀ j ∈ i :: rest, ∀ t, (j, t) ∈ d → t.bid ∈ done ∨ t ∈ ys) := by
    intro done i rest ys ih hi
    refine ⟨fun t ht => ?_, ih.2.1, List.forall_mem_cons.mpr ⟨fun t ht => Or.inl (hi t ht), ih.2.2⟩⟩
    obtain ⟨h1, j, hj, hjt⟩ := ih.1 t ht
    exact ⟨h1, j, List.mem_cons_of_mem _ hj, hjt⟩
  fun_induction gtlYield d done idx with
  | case1 => simp
  | case2 done i rest hg ih =>
    exact skip ih fun t ht => absurd (mem_keys.mpr ⟨t, ht⟩) (dictGet_none_iff.mp hg)
  | case3 done i rest t0 hg hdone ih =>
    have ht0 : (i, t0) ∈ d := (dictGet_some_iff hp.keysNodup).mp hg
    exact skip ih fun t ht => by rw [pinv_unique hp ht ht0]; simpa using hdone
  | case4 done i rest t0 hg hdone ih =>
    have ht0 : (i, t0) ∈ d := (dictGet_some_iff hp.keysNodup).mp hg
    have hnd : t0.bid ∉ done := by simpa using hdone
    refine ⟨?_, ?_, ?_⟩
    · intro t ht
      rcases List.mem_cons.mp ht with rfl | ht
      · exact ⟨hnd, i, List.mem_cons_self, ht0⟩
      · obtain ⟨h1, j, hj, hjt⟩ := ih.1 t ht
        exact ⟨fun hc => h1 (List.mem_cons_of_mem _ hc), j, List.mem_cons_of_mem _ hj, hjt⟩
    · exact List.pairwise_cons.mpr ⟨fun t ht heq => (ih.1 t ht).1 (heq ▸ List.mem_cons_self), ih.2.1⟩
    · intro j hj t hjt
      rw [List.mem_cons]
      rcases List.mem_cons.mp hj with rfl | hj
      · exact Or.inr (Or.inl (pinv_unique hp hjt ht0))
      · rcases ih.2.2 j hj t hjt with h1 | h1
        · rcases List.mem_cons.mp h1 with h1 | h1
          · exact Or.inr (Or.inl (hp.bidInj j t i t0 hjt ht0 h1))
          · exact Or.inl h1
        · exact Or.inr (Or.inr h1)
/-- `group_textlines` partitions the lines: whatever the neighbour lists are - as long as every line
is its own neighbour (or no line has any neighbour) - the boxes that the second loop yields contain
every line number `0..n-1` exactly once. -/
theorem gtl_partition (n : Nat) (nb : Nat → List Nat) (hnb : ∀ i, ∀ j ∈ nb i, j < n)
    (H : (∀ i, i < n → i ∈ nb i) ∨ (∀ i, nb i = [])) :
    ((gtlYield (gtlDict nb [] (List.range n)) [] (List.range n)).flatMap (·.members)).Perm (List.range n)
    ∧ (∀ t ∈ gtlYield (gtlDict nb [] (List.range n)) [] (List.range n), t.members ≠ [] ∧ t.bid < n)
    ∧ (gtlYield (gtlDict nb [] (List.range n)) [] (List.range n)).Pairwise (fun a b => a.bid ≠ b.bid) := by
  have hrun := (gtlDict_range hnb H (P := fun _ => True) trivial (fun _ _ _ _ _ => trivial)).1
  set d := gtlDict nb [] (List.range n) with hd
  have hy := gtlYield_spec hrun.p (List.range n) []
  refine ⟨?_, ?_, hy.2.1⟩
  · rw [List.perm_ext_iff_of_nodup ?_ List.nodup_range]
    · intro j
      simp only [List.mem_flatMap, List.mem_range]
      constructor
      · rintro ⟨t, ht, hjt⟩
        obtain ⟨_, i, _, hit⟩ := hy.1 t ht
        exact hrun.lt j (mem_keys.mpr ⟨t, hrun.p.closed i t hit j hjt⟩)
      · intro hj
        have : j ∈ keys d := hrun.cover j (by simpa using hj)
        obtain ⟨t, hjt⟩ := mem_keys.mp this
        rcases hy.2.2 j (List.mem_range.mpr hj) t hjt with h | h
        · simp at h
        · exact ⟨t, h, hrun.p.self j t hjt⟩
    · refine List.nodup_flatMap.mpr ⟨?_, ?_⟩
      · intro t ht
        obtain ⟨_, i, _, hit⟩ := hy.1 t ht
        exact hrun.p.membersNodup i t hit
      · refine hy.2.1.imp_of_mem ?_
        intro a b ha hb hab m hma hmb
        obtain ⟨_, i, _, hia⟩ := hy.1 a ha
        obtain ⟨_, i', _, hib⟩ := hy.1 b hb
        have h1 := hrun.p.closed i a hia m hma
        have h2 := hrun.p.closed i' b hib m hmb
        exact hab (by rw [pinv_unique hrun.p h1 h2])
  · intro t ht
    obtain ⟨_, i, _, hit⟩ := hy.1 t ht
    refine ⟨fun he => ?_, ?_⟩
    · have := hrun.p.self i t hit
      rw [he] at this; simp at this
    · have := hrun.bids i t hit
      simpa using List.mem_range.mp (by simpa using this)

end PdfVerif.Layout
