/-
ASCII85: `base64.a85decode` inverts the group encoder (`a85decode_body`), and the strip regexes of
`ascii85decode` remove exactly the framing the encoder adds (`ascii85decode_a85Enc`).
-/
import PdfVerif.Lemmas.FiltersCodec

namespace PdfVerif.Filters
open PdfVerif PdfVerif.FilterEnc


theorem a85loop_skip (x : UInt8) (h : isA85Ignore x = true) (curr : List Nat) (rest : Bytes) :
    a85loop curr (x :: rest) = a85loop curr rest := by
  have hx : x = 32 ∨ x = 9 ∨ x = 10 ∨ x = 13 ∨ x = 11 := by simpa [isA85Ignore, or_assoc] using h
  rcases hx with rfl | rfl | rfl | rfl | rfl <;> simp [a85loop, isA85Ignore]

-- for `i = n + 6` the tests `i == 1`, … of `ws6` evaluate to `false`
theorem ws6_cases : ∀ i : Nat, ws6 i = [] ∨ ∃ w, ws6 i = [w] ∧ isWs w = true ∧ isA85Ignore w = true ∧ w ≠ 126
  | 0 => .inl rfl
  | 1 => .inr ⟨32, rfl, by decide⟩
  | 2 => .inr ⟨9, rfl, by decide⟩
  | 3 => .inr ⟨10, rfl, by decide⟩
  | 4 => .inr ⟨13, rfl, by decide⟩
  | 5 => .inr ⟨11, rfl, by decide⟩
  | _ + 6 => .inl rfl

theorem a85loop_ws6 (i : Nat) (curr : List Nat) (rest : Bytes) :
    a85loop curr (ws6 i ++ rest) = a85loop curr rest := by
  rcases ws6_cases i with h | ⟨w, h, _, hw, _⟩
  · rw [h]; rfl
  · rw [h]; exact a85loop_skip w hw curr rest


theorem be32_be32val (a b c d : UInt8) : be32 (be32val a b c d) = [a, b, c, d] := by
  have ha := a.toNat_lt
  have hb := b.toNat_lt
  have hc := c.toNat_lt
  have hd := d.toNat_lt
  have byte : ∀ (x : UInt8) (n : Nat), n = x.toNat → UInt8.ofNat n = x := fun x n h => h ▸ UInt8.ofNat_toNat
  unfold be32 be32val
  rw [byte a _ (by omega), byte b _ (by omega), byte c _ (by omega), byte d _ (by omega)]

theorem be32val_lt (a b c d : UInt8) : be32val a b c d < 4294967296 := by
  have ha := a.toNat_lt
  have hb := b.toNat_lt
  have hc := c.toNat_lt
  have hd := d.toNat_lt
  unfold be32val; omega

theorem byte_zero_of_toNat (a : UInt8) (h : a.toNat = 0) : a = 0 := by
  have := UInt8.ofNat_toNat (x := a); rw [h] at this; exact this.symm

theorem be32val_add_low (a b c : UInt8) (e : Nat) :
    (e < 256 → be32val a b c 0 + e = be32val a b c (UInt8.ofNat e)) ∧
    (e < 65536 → be32val a b 0 0 + e = be32val a b (UInt8.ofNat (e / 256)) (UInt8.ofNat (e % 256))) ∧
    (e < 16777216 → be32val a 0 0 0 + e =
      be32val a (UInt8.ofNat (e / 65536)) (UInt8.ofNat (e / 256 % 256)) (UInt8.ofNat (e % 256))) := by
  have h0 : (0 : UInt8).toNat = 0 := rfl
  refine ⟨fun he => ?_, fun he => ?_, fun he => ?_⟩
  · simp only [be32val, h0, toNat_ofNat_lt e he]; omega
  · simp only [be32val, h0, toNat_ofNat_lt (e / 256) (by omega), toNat_ofNat_lt (e % 256) (by omega)]; omega
  · simp only [be32val, h0, toNat_ofNat_lt (e / 65536) (by omega), toNat_ofNat_lt (e / 256 % 256) (by omega),
      toNat_ofNat_lt (e % 256) (by omega)]
    omega


theorem a85loop_nil (curr : List Nat) : a85loop curr [] = .ok ([], curr) := by
  rw [a85loop]

theorem a85loop_digit (curr : List Nat) (x : UInt8) (rest : Bytes) (hx : 33 ≤ x.toNat ∧ x.toNat ≤ 117)
    (hlen : curr.length < 4) : a85loop curr (x :: rest) = a85loop (curr ++ [x.toNat]) rest := by
  rw [a85loop]
  have h5 : ((curr ++ [x.toNat]).length == 5) = false := by simp; omega
  simp only [hx, and_self, if_true, h5, Bool.false_eq_true, if_false]

theorem a85loop_digit5 (curr : List Nat) (x : UInt8) (rest : Bytes) (hx : 33 ≤ x.toNat ∧ x.toNat ≤ 117)
    (hlen : curr.length = 4) (hacc : a85acc (curr ++ [x.toNat]) < 4294967296) :
    a85loop curr (x :: rest) =
      match a85loop [] rest with
      | .ok (out, c) => .ok (be32 (a85acc (curr ++ [x.toNat])) ++ out, c)
      | .error e => .error e := by
  rw [a85loop]
  have h5 : ((curr ++ [x.toNat]).length == 5) = true := by simp; omega
  have hge : ¬ (a85acc (curr ++ [x.toNat]) ≥ 4294967296) := by omega
  simp only [hx, and_self, if_true, h5, hge, if_false]
  rfl

theorem a85loop_z (rest : Bytes) :
    a85loop [] (122 :: rest) =
      match a85loop [] rest with
      | .ok (out, c) => .ok ([0, 0, 0, 0] ++ out, c)
      | .error e => .error e := by
  have h : ¬ (33 ≤ (122 : UInt8).toNat ∧ (122 : UInt8).toNat ≤ 117) := by decide
  simp only [a85loop, h, if_false]
  simp only [beq_self_eq_true, if_true, List.isEmpty_nil, Bool.not_true, Bool.false_eq_true, if_false]
  rfl

theorem a85acc_append (l r : List Nat) : a85acc (l ++ r) = a85acc l * 85 ^ r.length + a85acc r := by
  unfold a85acc
  rw [List.foldl_append]
  generalize List.foldl (fun acc x => 85 * acc + (x - 33)) 0 l = s
  induction r generalizing s with
  | nil => simp
  | cons x r ih =>
    rw [List.foldl_cons, List.foldl_cons, ih, ih (85 * 0 + (x - 33)), List.length_cons, Nat.pow_succ]
    generalize 85 ^ r.length = p
    rw [Nat.add_mul, Nat.mul_zero, Nat.zero_add, Nat.add_assoc, Nat.mul_assoc, ← Nat.mul_assoc s p 85,
      Nat.mul_comm (s * p) 85]

theorem a85acc_pad (l r r' : List Nat) (hlen : r'.length = r.length) (hle : a85acc r ≤ a85acc r') :
    a85acc (l ++ r') = a85acc (l ++ r) + (a85acc r' - a85acc r) := by
  rw [a85acc_append, a85acc_append, hlen, Nat.add_assoc, Nat.add_sub_cancel' hle]

def a85digit (d : Nat) : UInt8 := UInt8.ofNat (d + 33)

theorem a85digit_ok {d : Nat} (hd : d < 85) :
    (a85digit d).toNat = d + 33 ∧ 33 ≤ (a85digit d).toNat ∧ (a85digit d).toNat ≤ 117 := by
  rw [a85digit, toNat_ofNat_lt (d + 33) (by omega)]
  omega

theorem a85loop_push (curr ds : List Nat) (rest : Bytes) (hds : ∀ d ∈ ds, d < 85) (hlen : curr.length + ds.length ≤ 4) :
    a85loop curr (ds.map a85digit ++ rest) = a85loop (curr ++ ds.map (· + 33)) rest := by
  induction ds generalizing curr with
  | nil => simp
  | cons d ds ih =>
    have hd := a85digit_ok (hds d (List.mem_cons_self ..))
    simp only [List.length_cons] at hlen
    rw [List.map_cons, List.cons_append, a85loop_digit curr _ _ hd.2 (by omega), hd.1,
      ih _ (fun e he => hds e (List.mem_cons_of_mem _ he)) (by simp; omega)]
    simp

theorem a85loop_group (curr ds : List Nat) (rest : Bytes) (hds : ∀ d ∈ ds, d < 85) (hlen : curr.length + ds.length = 5)
    (hne : ds ≠ []) (a b c d : UInt8) (hacc : a85acc (curr ++ ds.map (· + 33)) = be32val a b c d) :
    a85loop curr (ds.map a85digit ++ rest) =
      match a85loop [] rest with
      | .ok (out, c') => .ok ([a, b, c, d] ++ out, c')
      | .error e => .error e := by
  induction ds generalizing curr with
  | nil => exact absurd rfl hne
  | cons x ds ih =>
    have hx := a85digit_ok (hds x (List.mem_cons_self ..))
    simp only [List.length_cons] at hlen
    cases ds with
    | nil =>
      simp only [List.map_cons, List.map_nil] at hacc
      rw [List.map_cons, List.map_nil, List.cons_append, List.nil_append,
        a85loop_digit5 curr _ rest hx.2 (by simpa using hlen) (by rw [hx.1, hacc]; exact be32val_lt a b c d),
        hx.1, hacc, be32_be32val]
    | cons y ys =>
      rw [List.map_cons, List.cons_append, a85loop_digit curr _ _ hx.2 (by simp at hlen; omega), hx.1]
      exact ih (curr ++ [x + 33]) (fun e he => hds e (List.mem_cons_of_mem _ he)) (by simp at hlen ⊢; omega) (by simp)
        (by simpa using hacc)

theorem a85digits_spec (v : Nat) (hv : v < 4294967296) :
    ∃ d0 d1 d2 d3 d4, (d0 < 85 ∧ d1 < 85 ∧ d2 < 85 ∧ d3 < 85 ∧ d4 < 85) ∧
      a85acc [d0 + 33, d1 + 33, d2 + 33, d3 + 33, d4 + 33] = v ∧
      a85digits v = [a85digit d0, a85digit d1, a85digit d2, a85digit d3, a85digit d4] := by
  refine ⟨v / 52200625 % 85, v / 614125 % 85, v / 7225 % 85, v / 85 % 85, v % 85, ?_, ?_, rfl⟩
  · exact ⟨Nat.mod_lt _ (by decide), Nat.mod_lt _ (by decide), Nat.mod_lt _ (by decide), Nat.mod_lt _ (by decide),
      Nat.mod_lt _ (by decide)⟩
  · -- successive division by 85 keeps the numbers `omega` sees small
    have e1 : v / 7225 = v / 85 / 85 := (Nat.div_div_eq_div_mul v 85 85).symm
    have e2 : v / 614125 = v / 85 / 85 / 85 := by rw [Nat.div_div_eq_div_mul, Nat.div_div_eq_div_mul]
    have e3 : v / 52200625 = v / 85 / 85 / 85 / 85 := by
      rw [Nat.div_div_eq_div_mul, Nat.div_div_eq_div_mul, Nat.div_div_eq_div_mul]
    rw [e1, e2, e3]
    simp only [a85acc, List.foldl, Nat.add_sub_cancel, Nat.mul_zero, Nat.zero_add]
    omega

/-- A last group of one to four digits `ds`, white space, then the padding: `n + 1` of the `u`s (digit
value 84) complete the group, the other `m` are left in `curr`. -/
theorem a85loop_partial (ds : List Nat) (hds : ∀ d ∈ ds, d < 85) (n m i : Nat) (hlen : ds.length + n = 4) (hm : m ≤ 4)
    (a b c d : UInt8) (hacc : a85acc (ds.map (· + 33) ++ List.replicate (n + 1) 117) = be32val a b c d) :
    a85loop [] (ds.map a85digit ++ ws6 i ++ (List.replicate (n + 1) 117 ++ List.replicate m 117)) =
      .ok ([a, b, c, d], List.replicate m 117) := by
  have hu : ∀ k, List.replicate k (117 : UInt8) = (List.replicate k 84).map a85digit := fun k =>
    show List.replicate k (a85digit 84) = _ from List.map_replicate.symm
  have hu' : ∀ k, (List.replicate k 84).map (· + 33) = List.replicate k 117 := fun k => List.map_replicate
  have h84 : ∀ k, ∀ e ∈ List.replicate k 84, e < 85 := fun k e he => by rw [List.eq_of_mem_replicate he]; decide
  have hrest : a85loop [] (List.replicate m 117) = .ok ([], List.replicate m 117) := by
    have := a85loop_push [] (List.replicate m 84) [] (h84 m) (by simpa using hm)
    rwa [List.append_nil, a85loop_nil, List.nil_append, hu', ← hu] at this
  rw [List.append_assoc, a85loop_push [] ds _ hds (by simp; omega), a85loop_ws6, hu (n + 1),
    a85loop_group _ _ _ (h84 _) (by simp; omega) (by simp) a b c d (by rw [hu']; exact hacc), hrest]
  rfl

/-- The decoding loop over the encoder's body followed by the four padding `u`s yields the data,
then `4 - |curr|` junk bytes (which `a85decode` cuts off). -/
theorem a85_body_loop (cs : List Nat) (x : Bytes) :
    ∃ junk c, a85loop [] (a85Body cs x ++ [117, 117, 117, 117]) = .ok (x ++ junk, c) ∧
      junk.length = 4 - c.length ∧ c.length ≤ 4 := by
  fun_induction a85Body cs x with
  | case1 cs a b c d rest ih =>
    obtain ⟨junk, cc, hl, hj, hc⟩ := ih
    refine ⟨junk, cc, ?_, hj, hc⟩
    by_cases hz : (be32val a b c d == 0 && hd0 cs % 2 == 1) = true
    · simp only [hz, if_true, List.append_assoc, List.cons_append, List.nil_append]
      rw [a85loop_z, a85loop_ws6, hl]
      have h0 : be32val a b c d = 0 := by
        simp only [Bool.and_eq_true, beq_iff_eq] at hz; exact hz.1
      have h4 : [a, b, c, d] = [0, 0, 0, 0] := by rw [← be32_be32val a b c d, h0]; rfl
      cases h4
      rfl
    · simp only [hz, Bool.false_eq_true, if_false, List.append_assoc]
      obtain ⟨d0, d1, d2, d3, d4, hd, hv, hdig⟩ := a85digits_spec _ (be32val_lt a b c d)
      rw [hdig]
      refine (a85loop_group [] [d0, d1, d2, d3, d4] _ (by simp; omega) rfl (by simp) a b c d hv).trans ?_
      rw [a85loop_ws6, hl]
      rfl
  | case2 cs a b c =>
    -- the digits `d0 … d3` are followed by `u` = 84 instead of `d4`
    obtain ⟨d0, d1, d2, d3, d4, hd, hv, hdig⟩ := a85digits_spec _ (be32val_lt a b c 0)
    have hj := (be32val_add_low a b c (a85acc [117] - a85acc [d4 + 33])).1
      (Nat.lt_of_le_of_lt (Nat.sub_le _ _) (by decide))
    rw [← hv] at hj
    rw [hdig]
    refine ⟨_, _, a85loop_partial [d0, d1, d2, d3] (by simp; omega) 0 3 _ rfl (by omega) a b c _ (Eq.trans ?_ hj),
      rfl, by decide⟩
    exact a85acc_pad [d0 + 33, d1 + 33, d2 + 33, d3 + 33] [d4 + 33] [117] rfl (by simp only [a85acc, List.foldl]; omega)
  | case3 cs a b =>
    obtain ⟨d0, d1, d2, d3, d4, hd, hv, hdig⟩ := a85digits_spec _ (be32val_lt a b 0 0)
    have hj := (be32val_add_low a b 0 (a85acc [117, 117] - a85acc [d3 + 33, d4 + 33])).2.1
      (Nat.lt_of_le_of_lt (Nat.sub_le _ _) (by decide))
    rw [← hv] at hj
    rw [hdig]
    refine ⟨_, _, a85loop_partial [d0, d1, d2] (by simp; omega) 1 2 _ rfl (by omega) a b _ _ (Eq.trans ?_ hj),
      rfl, by decide⟩
    exact a85acc_pad [d0 + 33, d1 + 33, d2 + 33] [d3 + 33, d4 + 33] [117, 117] rfl
      (by simp only [a85acc, List.foldl]; omega)
  | case4 cs a =>
    obtain ⟨d0, d1, d2, d3, d4, hd, hv, hdig⟩ := a85digits_spec _ (be32val_lt a 0 0 0)
    have hj := (be32val_add_low a 0 0 (a85acc [117, 117, 117] - a85acc [d2 + 33, d3 + 33, d4 + 33])).2.2
      (Nat.lt_of_le_of_lt (Nat.sub_le _ _) (by decide))
    rw [← hv] at hj
    rw [hdig]
    refine ⟨_, _, a85loop_partial [d0, d1] (by simp; omega) 2 1 _ rfl (by omega) a _ _ _ (Eq.trans ?_ hj),
      rfl, by decide⟩
    exact a85acc_pad [d0 + 33, d1 + 33] [d2 + 33, d3 + 33, d4 + 33] [117, 117, 117] rfl
      (by simp only [a85acc, List.foldl]; omega)
  | case5 cs =>
    exact ⟨[], [117, 117, 117, 117], by decide, rfl, by decide⟩

theorem a85decode_body (cs : List Nat) (x : Bytes) : a85decode (a85Body cs x) = .ok x := by
  obtain ⟨junk, c, hl, hj, hc⟩ := a85_body_loop cs x
  rw [a85decode_lit]
  rw [hl]
  simp only
  by_cases hp : 4 - c.length = 0
  · have : junk = [] := List.eq_nil_of_length_eq_zero (by omega)
    simp [hp, this]
  · have h1 : (4 - c.length != 0) = true := by simp [hp]
    simp only [h1, if_true, List.length_append, hj]
    rw [Nat.add_sub_cancel, List.take_left' rfl]


/-- The bytes `a85decode` does not skip. -/
def core (d : Bytes) : Bytes := d.filter (fun c => !isA85Ignore c)

theorem core_append (a b : Bytes) : core (a ++ b) = core a ++ core b := List.filter_append ..

theorem a85loop_core (d : Bytes) : ∀ curr, a85loop curr d = a85loop curr (core d) := by
  induction d with
  | nil => intro curr; rfl
  | cons x rest ih =>
    intro curr
    by_cases hx : isA85Ignore x = true
    · have : core (x :: rest) = core rest := by simp [core, hx]
      rw [a85loop_skip x hx, this]; exact ih curr
    · have : core (x :: rest) = x :: core rest := by simp [core, hx]
      rw [this, a85loop, a85loop]
      simp only [ih]

theorem core_eq_decode {d e : Bytes} (h : core d = core e) : a85decode d = a85decode e := by
  rw [a85decode_lit, a85decode_lit, a85loop_core (d ++ _), a85loop_core (e ++ _), core_append, core_append, h]

theorem ws6_isWs (i : Nat) : ∀ w ∈ ws6 i, isWs w = true := by
  rcases ws6_cases i with h | ⟨w, h, hw, _⟩
  · simp [h]
  · simp [h, hw]

theorem dropWhile_ws6 (i : Nat) (l : Bytes) : (ws6 i ++ l).dropWhile isWs = l.dropWhile isWs :=
  List.dropWhile_append_of_pos (ws6_isWs i)

theorem dropWhile_ws6_nil (i : Nat) : (ws6 i).dropWhile isWs = [] := by
  simpa using dropWhile_ws6 i []

theorem ws6_reverse (i : Nat) : (ws6 i).reverse = ws6 i := by
  rcases ws6_cases i with h | ⟨w, h, _⟩ <;> rw [h] <;> rfl

theorem core_ws6 (i : Nat) : core (ws6 i) = [] := by
  rcases ws6_cases i with h | ⟨w, h, _, hw, _⟩
  · rw [h]; rfl
  · simp [h, core, hw]

theorem core_append_ws6 (d : Bytes) (i : Nat) : core (d ++ ws6 i) = core d := by
  rw [core_append, core_ws6, List.append_nil]

/-- A byte that may occur around/inside the encoder's output: not `~`, and ignorable if blank. -/
def A85Ok (c : UInt8) : Prop := c ≠ 126 ∧ (isWs c = true → isA85Ignore c = true)

theorem ws6_mem_ok (i : Nat) : ∀ c ∈ ws6 i, A85Ok c := by
  rcases ws6_cases i with h | ⟨w, h, _, hw, hne⟩
  · simp [h]
  · simp [h, A85Ok, hw, hne]

theorem append_ws6_ok {d : Bytes} (hd : ∀ c ∈ d, A85Ok c) (i : Nat) : ∀ c ∈ d ++ ws6 i, A85Ok c :=
  List.forall_mem_append.mpr ⟨hd, ws6_mem_ok i⟩

def rstrip (d : Bytes) : Bytes := (d.reverse.dropWhile isWs).reverse

theorem core_dropWhile (l : Bytes) (h : ∀ c ∈ l, A85Ok c) : core (l.dropWhile isWs) = core l := by
  induction l with
  | nil => rfl
  | cons x l ih =>
    by_cases hx : isWs x = true
    · have hig := (h x (List.mem_cons_self ..)).2 hx
      rw [List.dropWhile_cons_of_pos hx, ih (fun c hc => h c (List.mem_cons_of_mem _ hc))]
      simp [core, hig]
    · rw [List.dropWhile_cons_of_neg hx]

theorem core_rstrip (d : Bytes) (h : ∀ c ∈ d, A85Ok c) : core (rstrip d) = core d := by
  unfold rstrip core
  rw [List.filter_reverse]
  have := core_dropWhile d.reverse (fun c hc => h c (List.mem_reverse.mp hc))
  unfold core at this
  rw [this, List.filter_reverse, List.reverse_reverse]

theorem stripEnd_no_tilde (d : Bytes) (h : ∀ c ∈ d, c ≠ 126) : stripEnd d = d := by
  have hsub : ∀ c ∈ d.reverse.dropWhile isWs, c ≠ 126 := fun c hc =>
    h c (List.mem_reverse.mp ((List.dropWhile_sublist _).subset hc))
  fun_cases stripEnd d with
  | case1 t heq => exact absurd rfl (hsub 126 (by rw [heq]; simp))
  | case2 t heq t2 heq2 =>
    have : (126 : UInt8) ∈ t := (List.dropWhile_sublist _).subset (by rw [heq2]; simp)
    exact absurd rfl (hsub 126 (by rw [heq]; simp [this]))
  | case3 | case4 => rfl

theorem stripEnd_tilde (d : Bytes) (a c : Nat) :
    stripEnd (d ++ ws6 a ++ [126] ++ ws6 c) = rstrip (d ++ ws6 a) := by
  unfold stripEnd rstrip
  have : (d ++ ws6 a ++ [126] ++ ws6 c).reverse = ws6 c ++ (126 :: (d ++ ws6 a).reverse) := by simp [ws6_reverse]
  rw [this, dropWhile_ws6, List.dropWhile_cons_of_neg (by decide)]
  rfl

theorem stripEnd_tilde_gt (d : Bytes) (a b c : Nat) :
    stripEnd (d ++ ws6 a ++ [126] ++ ws6 b ++ [62] ++ ws6 c) = rstrip (d ++ ws6 a) := by
  unfold stripEnd rstrip
  have : (d ++ ws6 a ++ [126] ++ ws6 b ++ [62] ++ ws6 c).reverse
      = ws6 c ++ (62 :: (ws6 b ++ (126 :: (d ++ ws6 a).reverse))) := by simp [ws6_reverse]
  rw [this, dropWhile_ws6, List.dropWhile_cons_of_neg (by decide)]
  simp only
  rw [dropWhile_ws6, List.dropWhile_cons_of_neg (by decide)]
  rfl

/-- The end-of-data forms of the encoder: nothing, `~`, `~>`, with white space around. -/
inductive A85Post : Bytes → Prop
  | none (i : Nat) : A85Post (ws6 i)
  | tilde (i k : Nat) : A85Post (ws6 i ++ [126] ++ ws6 k)
  | tildeGt (i j k : Nat) : A85Post (ws6 i ++ [126] ++ ws6 j ++ [62] ++ ws6 k)

theorem a85Post_form : ∀ m a b c : Nat, A85Post (a85Post m a b c)
  | 0, _, _, _ => .none _
  | 1, _, _, _ => .tilde _ _
  | _ + 2, _, _, _ => .tildeGt _ _ _

theorem stripEnd_post (d : Bytes) (hd : ∀ c ∈ d, A85Ok c) {p : Bytes} (hp : A85Post p) :
    core (stripEnd (d ++ p)) = core d := by
  cases hp with
  | none i => rw [stripEnd_no_tilde _ (fun e he => (append_ws6_ok hd i e he).1), core_append_ws6]
  | tilde i k =>
    rw [← List.append_assoc, ← List.append_assoc, stripEnd_tilde, core_rstrip _ (append_ws6_ok hd i), core_append_ws6]
  | tildeGt i j k =>
    rw [← List.append_assoc, ← List.append_assoc, ← List.append_assoc, ← List.append_assoc, stripEnd_tilde_gt,
      core_rstrip _ (append_ws6_ok hd i), core_append_ws6]

theorem A85Post.dropWhile {p : Bytes} (hp : A85Post p) : A85Post (p.dropWhile isWs) := by
  cases hp with
  | none i => rw [dropWhile_ws6_nil]; exact .none 0
  | tilde i k =>
    rw [List.append_assoc, dropWhile_ws6, List.singleton_append, List.dropWhile_cons_of_neg (by decide)]
    exact .tilde 0 k
  | tildeGt i j k =>
    have : ws6 i ++ [126] ++ ws6 j ++ [62] ++ ws6 k = ws6 i ++ (126 :: (ws6 j ++ [62] ++ ws6 k)) := by simp
    rw [this, dropWhile_ws6, List.dropWhile_cons_of_neg (by decide)]
    exact .tildeGt 0 j k

theorem dropLt_ne (c : UInt8) (r : Bytes) (h : c ≠ 60) : dropLt (c :: r) = c :: r := by
  unfold dropLt
  split
  · rename_i t heq
    simp only [List.cons.injEq] at heq
    exact (h heq.1).elim
  · rfl

/-- No `~` where the start pattern wants it: nothing is stripped. -/
theorem stripStart_stop (d : Bytes) (c : UInt8) (r : Bytes)
    (h : (dropLt (d.dropWhile isWs)).dropWhile isWs = c :: r) (h126 : c ≠ 126) : stripStart d = d := by
  fun_cases stripStart d with
  | case1 t heq => rw [h] at heq; exact absurd (List.cons.inj heq).1 h126
  | case2 => rfl

theorem stripStart_tilde (w rest : Bytes) (hw : ∀ c ∈ w, isWs c = true) :
    stripStart (w ++ [126] ++ rest) = rest.dropWhile isWs := by
  unfold stripStart
  rw [List.append_assoc, List.dropWhile_append_of_pos hw, List.singleton_append, List.dropWhile_cons_of_neg (by decide),
    dropLt_ne 126 rest (by decide), List.dropWhile_cons_of_neg (by decide)]
  rfl

theorem stripStart_lt_tilde (w : Bytes) (b : Nat) (rest : Bytes) (hw : ∀ c ∈ w, isWs c = true) :
    stripStart (w ++ [60] ++ ws6 b ++ [126] ++ rest) = rest.dropWhile isWs := by
  unfold stripStart
  rw [List.append_assoc, List.append_assoc, List.append_assoc, List.dropWhile_append_of_pos hw, List.singleton_append,
    List.dropWhile_cons_of_neg (by decide)]
  show (match (ws6 b ++ ([126] ++ rest)).dropWhile isWs with | 126 :: t => t.dropWhile isWs | _ => _) = _
  rw [dropWhile_ws6, List.singleton_append, List.dropWhile_cons_of_neg (by decide)]
  rfl

theorem stripStart_pre : ∀ m a b c : Nat,
    (∃ i, a85Pre m a b c = ws6 i) ∨ ∀ rest, stripStart (a85Pre m a b c ++ rest) = rest.dropWhile isWs
  | 0, _, _, _ => .inl ⟨_, rfl⟩
  | 1, a, _, c => .inr fun rest => by
    show stripStart (ws6 (a % 6) ++ [126] ++ ws6 (c % 6) ++ rest) = _
    rw [List.append_assoc, stripStart_tilde _ _ (ws6_isWs _), dropWhile_ws6]
  | _ + 2, a, b, c => .inr fun rest => by
    show stripStart (ws6 (a % 6) ++ [60] ++ ws6 (b % 6) ++ [126] ++ ws6 (c % 6) ++ rest) = _
    rw [List.append_assoc, stripStart_lt_tilde _ _ _ (ws6_isWs _), dropWhile_ws6]


theorem isWs_toNat_le (c : UInt8) (h : isWs c = true) : c.toNat ≤ 32 := by
  simp only [isWs, Bool.or_eq_true, beq_iff_eq] at h
  rcases h with ((((h | h) | h) | h) | h) | h <;> (rw [h]; decide)

theorem digit_props (d : Nat) (hd : d < 85) :
    isWs (UInt8.ofNat (d + 33)) = false ∧ UInt8.ofNat (d + 33) ≠ 126 ∧ A85Ok (UInt8.ofNat (d + 33)) := by
  have ht := toNat_ofNat_lt (d + 33) (by omega)
  have hws : isWs (UInt8.ofNat (d + 33)) = false := by
    cases h : isWs (UInt8.ofNat (d + 33)) with
    | false => rfl
    | true => have := isWs_toNat_le _ h; omega
  have hne : UInt8.ofNat (d + 33) ≠ 126 := fun h => by
    rw [h] at ht
    have h126 : (126 : UInt8).toNat = 126 := rfl
    omega
  exact ⟨hws, hne, hne, fun h => by rw [hws] at h; cases h⟩

theorem a85digits_mem_ok (v : Nat) : ∀ c ∈ a85digits v, A85Ok c := by
  intro c hc
  simp only [a85digits, List.mem_cons, List.not_mem_nil, or_false] at hc
  rcases hc with rfl | rfl | rfl | rfl | rfl
  all_goals exact (digit_props _ (Nat.mod_lt _ (by omega))).2.2

theorem a85Body_mem_ok (cs : List Nat) (x : Bytes) : ∀ c ∈ a85Body cs x, A85Ok c := by
  fun_induction a85Body cs x with
  | case1 cs a b c d rest ih =>
    refine List.forall_mem_append.mpr ⟨append_ws6_ok (fun e he => ?_) _, ih⟩
    split at he
    · obtain rfl := List.mem_singleton.mp he
      exact ⟨by decide, by decide⟩
    · exact a85digits_mem_ok _ e he
  | case2 | case3 | case4 => exact append_ws6_ok (fun c hc => a85digits_mem_ok _ c (List.mem_of_mem_take hc)) _
  | case5 cs => intro e he; cases he

/-- A non-empty body starts with a digit or `z`; if it starts with `<` (which is a digit) the next
byte is a digit too - so `start_re` cannot match inside the data. -/
theorem a85Body_head (cs : List Nat) (x : Bytes) (hx : x ≠ []) :
    ∃ c0 r, a85Body cs x = c0 :: r ∧ isWs c0 = false ∧ c0 ≠ 126 ∧
      (c0 = 60 → ∃ c1 r', r = c1 :: r' ∧ isWs c1 = false ∧ c1 ≠ 126) := by
  have dp := fun v k => digit_props (v / k % 85) (Nat.mod_lt _ (by omega))
  match x, hx with
  | [_], _ | [_, _], _ | [_, _, _], _ =>
    exact ⟨_, _, by simp only [a85Body, a85digits, List.take, List.cons_append]; rfl, (dp _ _).1, (dp _ _).2.1,
      fun _ => ⟨_, _, rfl, (dp _ _).1, (dp _ _).2.1⟩⟩
  | a :: b :: c :: d :: rest, _ =>
    by_cases hz : (be32val a b c d == 0 && hd0 cs % 2 == 1) = true
    · exact ⟨122, _, by simp only [a85Body, hz, if_true, List.cons_append, List.nil_append]; rfl, by decide, by decide,
        fun h => absurd h (by decide)⟩
    · exact ⟨_, _, by simp only [a85Body, hz, Bool.false_eq_true, if_false, a85digits, List.cons_append]; rfl,
        (dp _ _).1, (dp _ _).2.1, fun _ => ⟨_, _, rfl, (dp _ _).1, (dp _ _).2.1⟩⟩

/-- The empty payload without a start marker.  (For `~>` the start pattern eats the `~` and `>` is
decoded as a lone digit, which yields nothing.) -/
theorem ascii85_empty_mode0 (a : Nat) {p : Bytes} (hp : A85Post p) : ascii85decode (ws6 a ++ p) = .ok [] := by
  have hw : ∀ i, ∀ c ∈ ws6 a ++ ws6 i, isWs c = true := fun i c hc => by
    rcases List.mem_append.mp hc with hc | hc <;> exact ws6_isWs _ c hc
  unfold ascii85decode
  cases hp with
  | none i =>
    have hs : stripStart (ws6 a ++ ws6 i) = ws6 a ++ ws6 i := by
      unfold stripStart
      rw [dropWhile_ws6, dropWhile_ws6_nil]
      rfl
    rw [hs, stripEnd_no_tilde _ (fun e he => (append_ws6_ok (ws6_mem_ok a) i e he).1)]
    exact (core_eq_decode (e := []) (by rw [core_append_ws6, core_ws6]; rfl)).trans (by decide)
  | tilde i k =>
    rw [← List.append_assoc, ← List.append_assoc, stripStart_tilde _ _ (hw i), dropWhile_ws6_nil]
    decide
  | tildeGt i j k =>
    have : ws6 a ++ (ws6 i ++ [126] ++ ws6 j ++ [62] ++ ws6 k) = ws6 a ++ ws6 i ++ [126] ++ (ws6 j ++ 62 :: ws6 k) := by
      simp
    rw [this, stripStart_tilde _ _ (hw i), dropWhile_ws6, List.dropWhile_cons_of_neg (by decide),
      stripEnd_no_tilde _ (fun e he => ?_)]
    · exact (core_eq_decode (e := [62]) (core_append_ws6 [62] k)).trans (by decide)
    · rcases List.mem_cons.mp he with rfl | he
      · decide
      · exact (ws6_mem_ok k e he).1

theorem ascii85decode_a85Enc (cs : List Nat) (pre post : Nat × Nat × Nat × Nat) (x : Bytes) :
    ascii85decode (a85Enc cs pre post x) = .ok x := by
  obtain ⟨m, a, b, c⟩ := pre
  obtain ⟨m', a', b', c'⟩ := post
  unfold a85Enc
  simp only
  have hp := a85Post_form m' a' b' c'
  generalize a85Post m' a' b' c' = p at hp ⊢
  have hB := a85Body_mem_ok cs x
  -- after the start pattern, what stands before the end marker need only agree with the body up to blanks
  have hfinal : ∀ X : Bytes, (∀ e ∈ X, A85Ok e) → core X = core (a85Body cs x) → a85decode (stripEnd (X ++ p)) = .ok x := by
    intro X hX hc
    rw [core_eq_decode ((stripEnd_post X hX hp).trans hc)]
    exact a85decode_body cs x
  by_cases hx : x = []
  · subst hx
    have hb : a85Body cs [] = [] := by simp [a85Body]
    rw [hb, List.append_nil]
    rcases stripStart_pre m a b c with ⟨i, hi⟩ | hs
    · rw [hi]; exact ascii85_empty_mode0 i hp
    · unfold ascii85decode
      rw [hs]
      exact (core_eq_decode (e := []) (stripEnd_post [] (fun _ h => nomatch h) hp.dropWhile)).trans (by decide)
  · obtain ⟨c0, r, hbody, hws0, h126, hlt⟩ := a85Body_head cs x hx
    have hdw : (a85Body cs x ++ p).dropWhile isWs = a85Body cs x ++ p := by
      rw [hbody]; exact List.dropWhile_cons_of_neg (by simp [hws0])
    unfold ascii85decode
    rcases stripStart_pre m a b c with ⟨i, hi⟩ | hs
    · have hns : stripStart (ws6 i ++ a85Body cs x ++ p) = ws6 i ++ a85Body cs x ++ p := by
        have hd : (ws6 i ++ a85Body cs x ++ p).dropWhile isWs = c0 :: (r ++ p) := by
          rw [List.append_assoc, dropWhile_ws6, hdw, hbody]; rfl
        by_cases h60 : c0 = 60
        · obtain ⟨c1, r', hr, hws1, h1⟩ := hlt h60
          subst h60 hr
          exact stripStart_stop _ c1 (r' ++ p) (by rw [hd]; exact List.dropWhile_cons_of_neg (by simp [hws1])) h1
        · exact stripStart_stop _ c0 _
            (by rw [hd, dropLt_ne c0 _ h60, List.dropWhile_cons_of_neg (by simp [hws0])]) h126
      rw [hi, hns]
      exact hfinal _ (List.forall_mem_append.mpr ⟨ws6_mem_ok i, hB⟩) (by rw [core_append, core_ws6, List.nil_append])
    · rw [List.append_assoc, hs, hdw]
      exact hfinal _ hB rfl

end PdfVerif.Filters
