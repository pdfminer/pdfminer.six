/-
`LTAnno` insertion: the members of every line that `group_objects` yields are exactly what the
documented word-margin specification `Spec.lineElems` prescribes for the line's glyphs.
-/
import PdfVerif.Lemmas.LayoutSpec
import PdfVerif.Spec.LayoutAnno

namespace PdfVerif.Layout
open PdfVerif PdfVerif.Gen.Layout

theorem lineElemsFrom_snoc (v : Bool) (wm : Rat) : ∀ (gs : List Glyph) (prev a g : Glyph),
    (prev :: gs).getLast? = some a →
    Spec.lineElemsFrom v wm prev (gs ++ [g]) =
      Spec.lineElemsFrom v wm prev gs ++ (if Spec.spaceBetween v wm a.bb g.bb then [Elem.anno 32] else []) ++ [Elem.ch g]
  | [], prev, a, g, h => by
    simp only [List.getLast?_singleton, Option.some.injEq] at h
    subst h
    simp [Spec.lineElemsFrom]
  | x :: rest, prev, a, g, h => by
    have h' : (x :: rest).getLast? = some a := by simpa [List.getLast?_cons_cons] using h
    simp only [List.cons_append, Spec.lineElemsFrom]
    rw [lineElemsFrom_snoc v wm rest x a g h']
    simp [List.append_assoc]

theorem lineElems_snoc (v : Bool) (wm : Rat) (gs : List Glyph) (a g : Glyph) (h : gs.getLast? = some a) :
    Spec.lineElems v wm (gs ++ [g]) =
      Spec.lineElems v wm gs ++ (if Spec.spaceBetween v wm a.bb g.bb then [Elem.anno 32] else []) ++ [Elem.ch g] := by
  cases gs with
  | nil => simp at h
  | cons x rest =>
    simp only [List.cons_append, Spec.lineElems]
    rw [lineElemsFrom_snoc v wm rest x a g h]

/-- Invariant of an open line: `_x1` / `_y0` is the edge of the latest glyph and the members are the specified ones. -/
structure AnnoInv (wm : Rat) (l : Line) : Prop where
  last : ∀ a, l.glyphs.getLast? = some a → l.last = if l.vertical then a.bb.y0 else a.bb.x1
  elems : l.elems = Spec.lineElems l.vertical wm l.glyphs

theorem annoInv_new (wm : Rat) (v : Bool) (g : Glyph) : AnnoInv wm (newLine v g) := by
  refine ⟨?_, ?_⟩
  · intro a ha
    rw [glyphs_newLine] at ha
    simp only [List.getLast?_singleton, Option.some.injEq] at ha
    subst ha
    cases v <;> simp [newLine, next_last_h, next_last_v]
  · rw [glyphs_newLine]; simp [newLine, Spec.lineElems, Spec.lineElemsFrom]

theorem needSpace_eq_spec (wm : Rat) (l : Line) (a g : Glyph)
    (hl : l.last = if l.vertical then a.bb.y0 else a.bb.x1) :
    needSpace wm l g = Spec.spaceBetween l.vertical wm a.bb g.bb := by
  unfold Spec.spaceBetween
  fun_cases needSpace wm l g
  · rw [if_pos ‹_›] at hl ⊢; rw [hl, need_space_v_eq]
  · rw [if_neg ‹_›] at hl ⊢; rw [hl, need_space_h_eq]

theorem annoInv_add (wm : Rat) (l : Line) (a g : Glyph) (h : AnnoInv wm l) (hl : l.glyphs.getLast? = some a) :
    AnnoInv wm (l.add wm g) := by
  refine ⟨?_, ?_⟩
  · intro b hb
    rw [glyphs_add] at hb
    simp only [List.getLast?_append, List.getLast?_singleton, Option.some_or, Option.some.injEq] at hb
    subst hb
    cases hv : l.vertical <;> simp [Line.add, hv, next_last_h, next_last_v]
  · rw [glyphs_add, lineElems_snoc _ wm l.glyphs a g hl]
    show l.elems ++ _ ++ _ = _
    rw [h.elems, needSpace_eq_spec wm l a g (h.last a hl)]
    rfl

/-- Every line that `group_objects` yields has exactly the specified members. -/
theorem groupObjects_anno (p : LAParams) (gs : List Glyph) :
    ∀ l ∈ groupObjects p gs, l.elems = Spec.lineElems l.vertical p.word_margin l.glyphs := fun l hl =>
  (groupObjects_induct p (fun v g _ => annoInv_new _ v g) (fun l a g h hl _ => annoInv_add _ l a g h hl) gs l hl).elems

/-- … and after `LTTextLine.analyze` the specified members followed by the line break. -/
theorem analyze_anno (wm : Rat) (l : Line) (h : l.elems = Spec.lineElems l.vertical wm l.glyphs) :
    l.analyze.elems = Spec.lineElemsBreak l.analyze.vertical wm l.analyze.glyphs := by
  rw [glyphs_analyze]
  simp only [Line.analyze, Spec.lineElemsBreak, h]

end PdfVerif.Layout
