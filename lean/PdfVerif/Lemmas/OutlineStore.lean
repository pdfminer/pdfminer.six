/-
C17 — the walk over the object graph (`searchG`, visited set and all) yields exactly what the
term model `search` yields on the entry stored there.
-/
import PdfVerif.Lemmas.OutlineGraph
import PdfVerif.Spec.OutlineStore

namespace PdfVerif.Lemmas.OutlineStore
open PdfVerif PdfVerif.Outline PdfVerif.OutlineGraph PdfVerif.Spec.OutlineStore PdfVerif.Lemmas.OutlineGraph

/-- The ids still to be used are disjoint from `visited`, so the test against `visited` never fires; what the
walk adds to `visited` are ids of the entry. -/
theorem searchO_stored (g : Store) {ro : Option Nat} {e : Entry} {ids : List Nat} (hs : Stored g ro e ids) :
    ∀ (fuel : Nat) (vis : List Nat) (level : Nat), (∀ x ∈ ids, x ∉ vis) → unvisited g vis < fuel →
    ∃ vis', searchO g fuel vis ro level = some (search e level, vis') ∧ vis ⊆ vis' ∧ vis' ⊆ ids ++ vis := by
  induction hs with
  | nil => exact fun _ vis _ _ _ => ⟨vis, by simp [searchO, search], List.Subset.refl _, List.Subset.refl _⟩
  | mk r nd first next idsF idsN hg _ _ hrF hrN hFN ihF ihN =>
    intro fuel vis level hdis hfu
    cases fuel with
    | zero => exact absurd hfu (Nat.not_lt_zero _)
    | succ fuel =>
      have hrv : r ∉ vis := hdis r List.mem_cons_self
      have hc : vis.contains r = false := Bool.eq_false_iff.mpr fun h => hrv (List.contains_iff_mem.mp h)
      have hfuel : unvisited g (r :: vis) < fuel :=
        Nat.lt_of_lt_of_le (unvisited_lt g vis r nd hg hc) (Nat.le_of_lt_succ hfu)
      have hdisF : ∀ x ∈ idsF, x ∉ r :: vis := fun x hx hm =>
        (List.mem_cons.mp hm).elim (fun h => hrF (h ▸ hx)) (hdis x (by simp [hx]))
      obtain ⟨v2, hk, hsub2, hsup2⟩ : ∃ v2,
          searchO g fuel (r :: vis) (if nd.hasLast = true then nd.first else none) (level + 1) =
            some (if nd.hasLast = true then search first (level + 1) else [], v2) ∧
          r :: vis ⊆ v2 ∧ v2 ⊆ idsF ++ r :: vis := by
        cases nd.hasLast with
        | true => exact ihF fuel (r :: vis) (level + 1) hdisF hfuel
        | false => exact ⟨r :: vis, rfl, List.Subset.refl _, List.subset_append_right _ _⟩
      have hdisN : ∀ x ∈ idsN, x ∉ v2 := fun x hx hm =>
        (List.mem_append.mp (hsup2 hm)).elim (fun h => hFN x h hx) fun h =>
          (List.mem_cons.mp h).elim (fun h => hrN (h ▸ hx)) (hdis x (by simp [hx]))
      obtain ⟨v3, hn, hsub3, hsup3⟩ := ihN fuel v2 level hdisN
        (Nat.lt_of_le_of_lt (unvisited_mono g hsub2) hfuel)
      refine ⟨v3, ?_, fun x hx => hsub3 (hsub2 (List.mem_cons_of_mem _ hx)), fun x hx => ?_⟩
      · rw [searchO, searchG_visit g fuel vis r level nd hc hg, hk, Option.bind_some, hn]
        simp [search]
      · have h2 := @hsup2 x
        have h3 := hsup3 hx
        simp only [List.mem_append, List.mem_cons] at h2 h3 ⊢
        rcases h3 with h | h
        · simp [h]
        · rcases h2 h with h | h | h <;> simp [h]

theorem getOutlinesG_stored (g : Store) (root : Nat) (e : Entry) (ids : List Nat)
    (hs : Stored g (some root) e ids) : getOutlinesG g root = some (getOutlines e) := by
  obtain ⟨v, h, _, _⟩ := searchO_stored g hs (g.length + 1) [] 0 (fun _ _ h => nomatch h) (unvisited_lt_length g [])
  simp [getOutlinesG, show searchG g (g.length + 1) [] root 0 = _ from h, getOutlines]

end PdfVerif.Lemmas.OutlineStore
