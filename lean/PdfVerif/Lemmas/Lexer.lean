/-
The buffered layer of the lexer model (`Model/Lexer.lean`) computes what the byte automaton computes,
within the fuel bound.
-/
import PdfVerif.Model.Lexer

namespace PdfVerif.Lexer
open PdfVerif PdfVerif.Gen.LexTables

/-- Number of scanner hand-overs that can still happen without consuming a byte. -/
def rank : Mode → Nat
  | .main => 0 | .string => 0 | .dead => 0
  | .literalHex => 2 | .wopen => 2
  | _ => 1

/-- Common to all scanners at their byte: only `_parse_main` sets `_curtokenpos` (to `j`); at most one
    token, carrying `_curtokenpos`; not consuming the byte means handing over to a lower rank. -/
def Hit.Shaped (st : St) (j : Nat) (h : Hit) : Prop :=
  h.st.tpos = (if st.mode = .main then j else st.tpos) ∧
  (h.toks = [] ∨ ∃ t, h.toks = [(h.st.tpos, t)]) ∧
  (h.consumed = false → rank h.st.mode < rank st.mode)

attribute [local simp] Hit.Shaped emit rank raise in
/-- Each scanner body is a tree of tests with a record at every leaf, where the claim can be read off.
    `iteInduction` first because `split` on the long chain of `_parse_main` is very slow to check. -/
theorem hit_shaped (st : St) (c : UInt8) (j : Nat) : (atHit st c j).Shaped st j := by
  unfold atHit
  cases hm : st.mode <;>
    simp only [parseMainHit, parseCommentHit, parseLiteralHit, parseLiteralHexHit, parseNumberHit, parseFloatHit,
      parseKeywordHit, parseStringHit, parseString1Hit, parseString2Hit, parseWopenHit, parseWcloseHit,
      parseHexstringHit]
  all_goals repeat' first | (apply iteInduction <;> intro _) | split
  all_goals simp [hm]

theorem hit_tpos (st : St) (c : UInt8) (j : Nat) :
    (atHit st c j).st.tpos = if st.mode = .main then j else st.tpos :=
  (hit_shaped st c j).1

theorem hit_toks (st : St) (c : UInt8) (j : Nat) :
    (atHit st c j).toks = [] ∨ ∃ t, (atHit st c j).toks = [((atHit st c j).st.tpos, t)] :=
  (hit_shaped st c j).2.1

theorem hit_rank (st : St) (c : UInt8) (j : Nat) (h : (atHit st c j).consumed = false) :
    rank (atHit st c j).st.mode < rank st.mode :=
  (hit_shaped st c j).2.2 h

theorem rank_le_two (m : Mode) : rank m ≤ 2 := by cases m <;> simp [rank]

def stopsAt (m : Mode) (c : UInt8) : Bool :=
  match searchClass m with
  | some p => p c
  | none => true

theorem stopsAt_iff (m : Mode) (c : UInt8) :
    stopsAt m c = true ↔ searchClass m = none ∨ ∃ p, searchClass m = some p ∧ p c = true := by
  unfold stopsAt; cases searchClass m <;> simp

theorem stepN_succ (n : Nat) (st : St) (c : UInt8) (pos : Nat) :
    stepN (n + 1) st c pos =
      if stopsAt st.mode c then
        if (atHit st c pos).consumed then ((atHit st c pos).st, (atHit st c pos).toks)
        else ((stepN n (atHit st c pos).st c pos).1,
              (atHit st c pos).toks ++ (stepN n (atHit st c pos).st c pos).2)
      else (accum st [c], []) := by
  rw [stepN, stopsAt]; cases searchClass st.mode <;> rfl

theorem stepN_stable : ∀ (n : Nat) (st : St) (c : UInt8) (pos : Nat),
    rank st.mode < n → stepN (n + 1) st c pos = stepN n st c pos
  | 0, _, _, _, h => by omega
  | n + 1, st, c, pos, h => by
    rw [stepN_succ (n + 1), stepN_succ n st]
    split
    · split
      · rfl
      · rename_i hc
        have := hit_rank st c pos (by simpa using hc)
        rw [stepN_stable n _ c pos (by omega)]
    · rfl

/-- No more than `rank st.mode + 1` rounds are ever used; with `rank_le_two`, three always suffice, which is
    why `stepByte` is `stepN 3`. -/
theorem stepN_three (n : Nat) (st : St) (c : UInt8) (pos : Nat) (h : rank st.mode < n) :
    stepN n st c pos = stepN (rank st.mode + 1) st c pos := by
  induction n with
  | zero => omega
  | succ k ih =>
    by_cases hk : rank st.mode < k
    · rw [stepN_stable k st c pos hk, ih hk]
    · have : k = rank st.mode := by omega
      subst this; rfl

theorem search_append (p : UInt8 → Bool) (s : Bytes) : (search p s).1 ++ (search p s).2 = s := by
  induction s with
  | nil => rfl
  | cons c t ih => simp only [search]; split <;> simp [ih]

theorem search_pre (p : UInt8 → Bool) (s : Bytes) : ∀ x ∈ (search p s).1, p x = false := by
  induction s with
  | nil => simp [search]
  | cons c t ih =>
    simp only [search]; split
    · simp
    · rename_i hc; simpa [hc] using ih

theorem search_hit (p : UInt8 → Bool) (s : Bytes) (c : UInt8) (tl : Bytes)
    (h : (search p s).2 = c :: tl) : p c = true := by
  induction s with
  | nil => simp [search] at h
  | cons d t ih =>
    simp only [search] at h; split at h
    · rename_i hd; simp at h; rw [← h.1]; exact hd
    · exact ih h

@[simp] theorem accum_mode (st : St) (pre : Bytes) : (accum st pre).mode = st.mode := by
  unfold accum; split <;> rfl

theorem accum_nil (st : St) : accum st [] = st := by
  unfold accum; split <;> simp

theorem accum_accum (st : St) (a b : Bytes) : accum (accum st a) b = accum st (a ++ b) := by
  unfold accum; split <;> simp_all

theorem step_nonmatch (st : St) (c : UInt8) (pos : Nat) (p : UInt8 → Bool)
    (hs : searchClass st.mode = some p) (hp : p c = false) :
    stepByte st c pos = (accum st [c], []) := by
  simp [stepByte, stepN, hs, hp]

theorem step_hit (st : St) (c : UInt8) (pos : Nat)
    (hs : searchClass st.mode = none ∨ ∃ p, searchClass st.mode = some p ∧ p c = true) :
    stepByte st c pos =
      if (atHit st c pos).consumed then ((atHit st c pos).st, (atHit st c pos).toks)
      else ((stepByte (atHit st c pos).st c pos).1,
            (atHit st c pos).toks ++ (stepByte (atHit st c pos).st c pos).2) := by
  unfold stepByte
  rw [stepN_succ, if_pos ((stopsAt_iff _ _).mpr hs)]
  split
  · rfl
  · rename_i hc
    have := hit_rank st c pos (by simpa using hc)
    have := rank_le_two st.mode
    rw [stepN_stable 2 _ c pos (by omega)]

theorem fold_nonmatch (p : UInt8 → Bool) : ∀ (pre suf : Bytes) (st : St) (pos : Nat),
    searchClass st.mode = some p → (∀ x ∈ pre, p x = false) →
    foldBytes st (pre ++ suf) pos = foldBytes (accum st pre) suf (pos + pre.length)
  | [], suf, st, pos, _, _ => by simp [accum_nil]
  | c :: t, suf, st, pos, hs, hp => by
    have hc : p c = false := hp c (by simp)
    have ht : ∀ x ∈ t, p x = false := fun x hx => hp x (by simp [hx])
    simp only [List.cons_append, foldBytes, step_nonmatch st c pos p hs hc]
    rw [fold_nonmatch p t suf (accum st [c]) (pos + 1) (by simpa using hs) ht, accum_accum]
    have : pos + 1 + t.length = pos + (t.length + 1) := by omega
    simp [this]

theorem foldBytes_append : ∀ (a b : Bytes) (st : St) (pos : Nat),
    foldBytes st (a ++ b) pos =
      ((foldBytes (foldBytes st a pos).1 b (pos + a.length)).1,
       (foldBytes st a pos).2 ++ (foldBytes (foldBytes st a pos).1 b (pos + a.length)).2)
  | [], b, st, pos => by simp [foldBytes]
  | c :: t, b, st, pos => by
    simp only [List.cons_append, foldBytes]
    rw [foldBytes_append t b]
    have : pos + 1 + t.length = pos + (t.length + 1) := by omega
    simp [this]

theorem specLex_eq (data : Bytes) :
    specLex data = (foldBytes St.init data 0).2 ++ (stepByte (foldBytes St.init data 0).1 10 data.length).2 := by
  unfold specLex
  rw [foldBytes_append]
  simp [foldBytes]

theorem specLex_nil : specLex [] = [] := by decide +kernel

/-- `pre`: the bytes the scanner does not stop at (none for a scanner that looks at one byte only). -/
theorem call_eq (st : St) (rest : Bytes) (pos : Nat) :
    ∃ pre suf, rest = pre ++ suf ∧
      foldBytes st rest pos = foldBytes (accum st pre) suf (pos + pre.length) ∧
      (∀ c tl, suf = c :: tl → stopsAt st.mode c = true) ∧
      call st rest pos = match suf with
        | [] => ⟨accum st pre, [], pos + pre.length, []⟩
        | c :: tl => afterHit (atHit (accum st pre) c (pos + pre.length)) c tl (pos + pre.length) := by
  cases rest with
  | nil => exact ⟨[], [], rfl, by simp [accum_nil], by simp, by simp [call, accum_nil]⟩
  | cons c0 tl0 =>
    cases hs : searchClass st.mode with
    | none =>
      refine ⟨[], c0 :: tl0, rfl, by simp [accum_nil], ?_, by simp [call, hs, accum_nil]⟩
      intro c tl _; simp [stopsAt, hs]
    | some p =>
      refine ⟨(search p (c0 :: tl0)).1, (search p (c0 :: tl0)).2, (search_append p _).symm, ?_, ?_, ?_⟩
      · rw [← fold_nonmatch p _ _ st pos hs (search_pre p _), search_append]
      · intro c tl h; simpa [stopsAt, hs] using search_hit p _ c tl h
      · simp only [call, hs]; split <;> simp_all

theorem call_fold (st : St) (rest : Bytes) (pos : Nat) :
    foldBytes st rest pos =
      ((foldBytes (call st rest pos).st (call st rest pos).rest (call st rest pos).pos).1,
       (call st rest pos).toks ++
         (foldBytes (call st rest pos).st (call st rest pos).rest (call st rest pos).pos).2) := by
  obtain ⟨pre, suf, rfl, hf, hs, hc⟩ := call_eq st rest pos
  rw [hf, hc]
  cases suf with
  | nil => simp [foldBytes]
  | cons c tl =>
    have hstep := step_hit (accum st pre) c (pos + pre.length)
      ((stopsAt_iff _ _).mp (by simpa using hs c tl rfl))
    dsimp only [afterHit]
    split <;> rename_i hc <;> simp only [hc, if_true, Bool.false_eq_true, if_false] at hstep ⊢ <;>
      simp only [foldBytes, hstep, List.append_assoc]

theorem call_measure (st : St) (rest : Bytes) (pos : Nat) (hne : rest ≠ []) :
    3 * (call st rest pos).rest.length + rank (call st rest pos).st.mode
      < 3 * rest.length + rank st.mode := by
  obtain ⟨pre, suf, rfl, -, -, hc⟩ := call_eq st rest pos
  rw [hc]
  cases suf with
  | nil =>
    have : 0 < pre.length := List.length_pos_iff.mpr (by simpa using hne)
    simp; omega
  | cons c tl =>
    dsimp only [afterHit]
    split
    · have := rank_le_two (atHit (accum st pre) c (pos + pre.length)).st.mode
      simp; omega
    · rename_i hh
      have := hit_rank (accum st pre) c (pos + pre.length) (by simpa using hh)
      simp at this ⊢; omega

theorem call_pos (st : St) (rest : Bytes) (pos : Nat) :
    (call st rest pos).pos + (call st rest pos).rest.length = pos + rest.length := by
  obtain ⟨pre, suf, rfl, -, -, hc⟩ := call_eq st rest pos
  rw [hc]
  cases suf with
  | nil => simp
  | cons c tl => dsimp only [afterHit]; split <;> simp <;> omega

/-- The fuel: a call consumes a byte or lowers the rank (`call_measure`), the flushed newline is one more
    byte, and one round of the loop each finds the stream and then the flush buffer empty. -/
theorem runLoop_eq (b : Nat) (hb : 1 ≤ b) : ∀ (f : Nat) (eof : Bool) (st : St) (rest file : Bytes) (pos : Nat),
    (eof = true → file = []) →
    3 * (rest.length + file.length + (if eof then 0 else 1)) + rank st.mode + 1 + (if eof then 0 else 1) ≤ f →
    runLoop b f eof st rest file pos =
      some (foldBytes st (rest ++ file ++ (if eof then [] else [10])) pos).2
  | 0, _, _, _, _, _, _, h => by omega
  | f + 1, eof, st, rest, file, pos, hef, h => by
    rw [runLoop]
    -- `fillbuf` moves bytes from the stream into an empty buffer: the unread bytes are the same
    obtain ⟨buf, file', hbuf, hfile', hsplit, hnil, hef'⟩ : ∃ buf file',
        buf = (if rest.isEmpty then file.take b else rest) ∧ file' = (if rest.isEmpty then file.drop b else file) ∧
        buf ++ file' = rest ++ file ∧ (buf = [] → file' = []) ∧ (eof = true → file' = []) := by
      refine ⟨_, _, rfl, rfl, ?_, ?_, ?_⟩
      · cases rest <;> simp
      · cases rest with
        | nil => cases file <;> simp; omega
        | cons x xs => simp
      · intro he; rw [hef he]; simp
    rw [← hbuf, ← hfile', ← hsplit]
    have hlen : buf.length + file'.length = rest.length + file.length := by
      rw [← List.length_append, hsplit, List.length_append]
    cases buf with
    | nil =>
      rw [hnil rfl]
      cases eof with
      | true => rfl
      | false => exact runLoop_eq b hb f true st [10] [] pos (fun _ => rfl) (by simp at h ⊢; omega)
    | cons x xs =>
      have hm := call_measure st (x :: xs) pos (by simp)
      simp only
      rw [runLoop_eq b hb f eof _ (call st (x :: xs) pos).rest file' _ hef' (by omega)]
      simp only [List.append_assoc]
      rw [foldBytes_append (x :: xs), call_fold st (x :: xs) pos, foldBytes_append (call st (x :: xs) pos).rest]
      simp only [List.append_assoc]
      rw [call_pos]

end PdfVerif.Lexer
