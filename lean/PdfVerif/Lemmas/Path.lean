/-
Lemmas about the lexical path algebra (Model/Path.lean): joining a plain file name onto a
directory and normalising gives exactly "normalised directory / file name"; `normpath` yields
canonical components; the CMap guard and the image-name sanitiser let only plain file names through.
-/
import PdfVerif.Model.Path
import PdfVerif.Model.Image
import PdfVerif.Lemmas.ImageName

namespace PdfVerif.PathLemmas
open PdfVerif PdfVerif.Path PdfVerif.ImageName PdfVerif.ImageNameLemmas

/-- A plain path component: no `/`, and none of ``, `.`, `..`. -/
def PlainComp (f : Bytes) : Prop := (¬ 47 ∈ f) ∧ f ≠ [] ∧ f ≠ [46] ∧ f ≠ [46, 46]

theorem plainComp_of_length {f : Bytes} (h : ¬ 47 ∈ f) (hl : 3 ≤ f.length) : PlainComp f := by
  refine ⟨h, ?_, ?_, ?_⟩ <;> (rintro rfl; exact absurd hl (by decide))

/-- `splitSlash` as one equation. The model's inner `match` has a branch for `splitSlash cs = []`, which never
    happens (`splitSlash_ne_nil`); `headD`/`tail` give the same value there, so no side condition is needed. -/
theorem splitSlash_cons (c : UInt8) (cs : Bytes) : splitSlash (c :: cs) =
    if c = 47 then [] :: splitSlash cs else (c :: (splitSlash cs).headD []) :: (splitSlash cs).tail := by
  rw [splitSlash]
  cases splitSlash cs <;> rfl

theorem splitSlash_ne_nil (p : Bytes) : splitSlash p ≠ [] := by
  fun_cases splitSlash p <;> exact List.cons_ne_nil _ _

theorem splitSlash_plain (f : Bytes) (h : ¬ 47 ∈ f) : splitSlash f = [f] := by
  fun_induction splitSlash f with
  | case1 => rfl
  | case2 cs => exact absurd List.mem_cons_self h
  | case3 c cs _ x t heq ih => cases heq.symm.trans (ih fun hm => h (List.mem_cons_of_mem _ hm)); rfl
  | case4 c cs _ heq => exact absurd heq (splitSlash_ne_nil cs)

theorem splitSlash_append (a b : Bytes) : splitSlash (a ++ 47 :: b) = splitSlash a ++ splitSlash b := by
  fun_induction splitSlash a with
  | case1 => rfl
  | case2 cs ih => rw [List.cons_append, splitSlash_cons, if_pos rfl, ih]; rfl
  | case3 c cs hc x t heq ih => rw [List.cons_append, splitSlash_cons, if_neg hc, ih, heq]; rfl
  | case4 c cs _ heq => exact absurd heq (splitSlash_ne_nil cs)

theorem splitSlash_no_slash (p : Bytes) : ∀ c ∈ splitSlash p, ¬ 47 ∈ c := by
  fun_induction splitSlash p with
  | case1 => exact List.forall_mem_singleton.mpr List.not_mem_nil
  | case2 cs ih => exact List.forall_mem_cons.mpr ⟨List.not_mem_nil, ih⟩
  | case3 c cs hc x t heq ih =>
    obtain ⟨hx, ht⟩ := List.forall_mem_cons.mp (heq ▸ ih)
    exact List.forall_mem_cons.mpr ⟨fun hm => (List.mem_cons.mp hm).elim (fun e => hc e.symm) hx, ht⟩
  | case4 c cs _ heq => exact absurd heq (splitSlash_ne_nil cs)

theorem isAbs_of_not_mem {f : Bytes} (h : ¬ 47 ∈ f) : isAbs f = false := by
  cases f with
  | nil => rfl
  | cons c cs => exact beq_false_of_ne fun e => h (Option.some.inj e ▸ List.mem_cons_self)

theorem join_rel (a b : Bytes) (hb : isAbs b = false) :
    join a b = if a = [] ∨ a.getLast? = some 47 then a ++ b else a ++ 47 :: b := by
  unfold join
  rw [if_neg (Bool.eq_false_iff.mp hb)]
  simp only [Bool.or_eq_true, List.isEmpty_iff, beq_iff_eq]

theorem isAbs_join (a b : Bytes) : isAbs (join a b) = (isAbs a || isAbs b) := by
  cases hb : isAbs b with
  | true => rw [join, if_pos hb, hb, Bool.or_true]
  | false =>
    rw [join_rel a b hb, Bool.or_false]
    cases a with
    | nil => exact hb
    | cons c cs => split <;> rfl

theorem join_right_injective (d a b : Bytes) (ha : isAbs a = false) (hb : isAbs b = false)
    (h : join d a = join d b) : a = b := by
  rw [join_rel d a ha, join_rel d b hb] at h
  split at h
  · exact List.append_cancel_left h
  · exact (List.cons.inj (List.append_cancel_left h)).2

theorem normStep_skip (abs : Bool) (s : List Bytes) {c : Bytes} (h : c = [] ∨ c = [46]) : normStep abs s c = s :=
  if_pos h

theorem normStep_dotdot_nil (abs : Bool) : normStep abs [] [46, 46] = if abs then [] else [[46, 46]] := rfl

theorem normStep_dotdot_cons (abs : Bool) (t : Bytes) (rest : List Bytes) :
    normStep abs (t :: rest) [46, 46] = if t = [46, 46] then [46, 46] :: t :: rest else rest := rfl

theorem normStep_push (abs : Bool) (s : List Bytes) {c : Bytes} (h0 : c ≠ []) (h1 : c ≠ [46]) (h2 : c ≠ [46, 46]) :
    normStep abs s c = c :: s := by
  unfold normStep
  rw [if_neg (not_or.mpr ⟨h0, h1⟩), if_neg h2]

theorem foldl_normStep_append_plain (abs : Bool) (a : Bytes) {f : Bytes} (hf : PlainComp f) :
    ((splitSlash (a ++ 47 :: f)).foldl (normStep abs) []).reverse =
      ((splitSlash a).foldl (normStep abs) []).reverse ++ [f] := by
  rw [splitSlash_append, splitSlash_plain f hf.1, List.foldl_append, List.foldl_cons, List.foldl_nil,
    normStep_push abs _ hf.2.1 hf.2.2.1 hf.2.2.2, List.reverse_cons]

/-- Joining a plain file name onto a directory stays directly inside that directory. -/
theorem norm_join_plain (d f : Bytes) (hf : PlainComp f) :
    norm (join d f) = ((norm d).1, (norm d).2 ++ [f]) := by
  have hrel := isAbs_of_not_mem hf.1
  have habs : isAbs (join d f) = isAbs d := by rw [isAbs_join, hrel, Bool.or_false]
  rw [norm, habs, norm, join_rel d f hrel]
  refine congrArg (Prod.mk _) ?_
  generalize isAbs d = abs
  by_cases hd : d = []
  · subst hd
    rw [if_pos (Or.inl rfl), List.nil_append, splitSlash_plain f hf.1]
    exact congrArg List.reverse (normStep_push abs [] hf.2.1 hf.2.2.1 hf.2.2.2)
  by_cases hs : d.getLast? = some 47
  · -- `d'/`: the empty last component of the directory is dropped by normpath
    obtain ⟨d', rfl⟩ := List.getLast?_eq_some_iff.mp hs
    rw [if_pos (Or.inr hs), List.append_assoc, List.singleton_append, foldl_normStep_append_plain _ _ hf,
      splitSlash_append d' [], List.foldl_append]
    rfl
  · rw [if_neg (not_or.mpr ⟨hd, hs⟩), foldl_normStep_append_plain _ _ hf]

/-- A canonical component: not empty, not `.`, no separator; `..` only in relative paths. -/
def CanonComp (abs : Bool) (c : Bytes) : Prop :=
  c ≠ [] ∧ c ≠ [46] ∧ (¬ 47 ∈ c) ∧ (abs = true → c ≠ [46, 46])

theorem normStep_canon (abs : Bool) (stack : List Bytes) (c : Bytes) (hc : ¬ 47 ∈ c)
    (hs : ∀ x ∈ stack, CanonComp abs x) : ∀ x ∈ normStep abs stack c, CanonComp abs x := by
  -- `..` stays only where nothing can be popped: on an empty relative stack, or on top of another `..`,
  -- and then, by `hs`, the path is relative too
  fun_cases normStep abs stack c with
  | case1 => exact hs
  | case2 => exact hs
  | case3 h1 _ ha =>
    exact List.forall_mem_singleton.mpr ⟨(not_or.mp h1).1, (not_or.mp h1).2, hc, fun h => absurd h ha⟩
  | case4 h1 =>
    have htop := (List.forall_mem_cons.mp hs).1.2.2.2
    exact List.forall_mem_cons.mpr ⟨⟨(not_or.mp h1).1, (not_or.mp h1).2, hc, fun ha _ => htop ha rfl⟩, hs⟩
  | case5 => exact (List.forall_mem_cons.mp hs).2
  | case6 _ h1 h2 => exact List.forall_mem_cons.mpr ⟨⟨(not_or.mp h1).1, (not_or.mp h1).2, hc, fun _ => h2⟩, hs⟩

theorem foldl_normStep_canon (abs : Bool) (cs : List Bytes) (hcs : ∀ c ∈ cs, ¬ 47 ∈ c) :
    ∀ stack : List Bytes, (∀ x ∈ stack, CanonComp abs x) → ∀ x ∈ cs.foldl (normStep abs) stack, CanonComp abs x := by
  induction cs with
  | nil => exact fun _ hs => hs
  | cons c cs ih =>
    obtain ⟨hc, hcs⟩ := List.forall_mem_cons.mp hcs
    exact fun stack hs => ih hcs _ (normStep_canon abs stack c hc hs)

theorem norm_canon (p : Bytes) : ∀ c ∈ (norm p).2, CanonComp (isAbs p) c := fun c hc =>
  foldl_normStep_canon (isAbs p) (splitSlash p) (splitSlash_no_slash p) [] (fun _ h => absurd h List.not_mem_nil) c
    (List.mem_reverse.mp hc)

theorem basename_no_slash (p : Bytes) : ¬ 47 ∈ basename p := by
  unfold basename
  rw [List.getLastD_eq_getLast?]
  cases h : (splitSlash p).getLast? with
  | none => exact List.not_mem_nil
  | some x => exact splitSlash_no_slash p x (List.mem_of_getLast? h)

/-- `os.path.basename(f) == f` exactly when `f` contains no separator. -/
theorem basename_eq_self_iff (f : Bytes) : basename f = f ↔ ¬ 47 ∈ f :=
  ⟨fun h => h ▸ basename_no_slash f, fun h => by rw [basename, splitSlash_plain f h]; rfl⟩

/-- The translated guard of `_load_data` is the test "the file name contains a separator". -/
theorem cmapGuard_eq (name f : Bytes) : Gen.PathGen.cmapGuardRejects basename name f = !plainFile f := by
  rw [Bool.eq_iff_iff, plainFile, Bool.not_not, List.contains_iff_mem, Gen.PathGen.cmapGuardRejects, bne_iff_ne, ne_eq,
    basename_eq_self_iff, Classical.not_not]

theorem mem_stripNul {c : UInt8} {name : Bytes} : c ∈ stripNul name ↔ c ∈ name ∧ c ≠ 0 :=
  List.mem_filter.trans (and_congr_right' bne_iff_ne)

/-- What the guard needs from the regenerated format literal `"%s.pickle.gz"`: it adds at least three characters
    (so the file name is never ``, `.` or `..`) and no separator. -/
theorem cmapFormat_ok : 3 ≤ Gen.PathGen.cmapPrefix.length + Gen.PathGen.cmapSuffix.length ∧
    ¬ 47 ∈ Gen.PathGen.cmapPrefix ∧ ¬ 47 ∈ Gen.PathGen.cmapSuffix := by
  simp [Gen.PathGen.cmapPrefix, Gen.PathGen.cmapSuffix]

theorem mem_cmapFilename_slash (name : Bytes) : 47 ∈ cmapFilename name ↔ 47 ∈ name := by
  unfold cmapFilename
  rw [List.mem_append, List.mem_append, mem_stripNul]
  constructor
  · rintro ((h | h) | h)
    · exact absurd h cmapFormat_ok.2.1
    · exact h.1
    · exact absurd h cmapFormat_ok.2.2
  · exact fun h => Or.inl (Or.inr ⟨h, by decide⟩)

theorem cmapFilename_plain (name : Bytes) (h : ¬ 47 ∈ name) : PlainComp (cmapFilename name) := by
  refine plainComp_of_length (mt (mem_cmapFilename_slash name).mp h) ?_
  unfold cmapFilename
  rw [List.length_append, List.length_append]
  exact Nat.le_trans cmapFormat_ok.1 (Nat.add_le_add_right (Nat.le_add_right _ _) _)

/-- The paths `_load_data` probes: none if the requested name contains a separator, else one per directory. -/
theorem cmapProbes_eq (dirs : List Bytes) (name : Bytes) :
    cmapProbes dirs name = if 47 ∈ name then [] else dirs.map (fun d => join d (cmapFilename name)) := by
  rw [cmapProbes, cmapGuard_eq, plainFile, Bool.not_not]
  simp only [List.contains_iff_mem, mem_cmapFilename_slash]

theorem mem_cmapProbes {dirs : List Bytes} {name p : Bytes} (hp : p ∈ cmapProbes dirs name) :
    ¬ 47 ∈ name ∧ ∃ d ∈ dirs, join d (cmapFilename name) = p := by
  rw [cmapProbes_eq] at hp
  split at hp
  · exact absurd hp List.not_mem_nil
  · next h => exact ⟨h, List.mem_map.mp hp⟩

/-- Extensions the writer uses: no separator, at least 3 bytes (`.bmp`, `.jpg`, `.jp2`, `.N.WxH.img`). -/
def ValidExt (ext : Bytes) : Prop := (¬ 47 ∈ ext) ∧ 3 ≤ ext.length

/-- What the (regenerated) set of replaced characters and the replacement must satisfy for the
    sanitiser to do its job: separator and NUL are replaced, by something that is neither. -/
theorem imageReplaced_ok : (47 : UInt8) ∈ Gen.PathGen.imageReplacedChars ∧ (0 : UInt8) ∈ Gen.PathGen.imageReplacedChars ∧
    Gen.PathGen.imageReplacement ∉ Gen.PathGen.imageReplacedChars := by
  simp [Gen.PathGen.imageReplacedChars, Gen.PathGen.imageReplacement]

theorem safeName_not_replaced (name : Bytes) (c : UInt8) (hc : c ∈ Gen.PathGen.imageReplacedChars) :
    c ∉ safeName name := by
  intro h
  obtain ⟨x, _, hx⟩ := List.mem_map.mp h
  split at hx
  · exact imageReplaced_ok.2.2 (hx ▸ hc)
  · next hne => exact hne (List.contains_iff_mem.mpr (hx ▸ hc))

theorem safeName_no_slash (name : Bytes) : ¬ 47 ∈ safeName name :=
  safeName_not_replaced name 47 imageReplaced_ok.1

theorem safeName_no_nul (name : Bytes) : ¬ 0 ∈ safeName name :=
  safeName_not_replaced name 0 imageReplaced_ok.2.1

theorem safeName_length (name : Bytes) : (safeName name).length = name.length :=
  List.length_map _

theorem safeName_id (name : Bytes) (h : ∀ c ∈ name, c ∉ Gen.PathGen.imageReplacedChars) : safeName name = name := by
  unfold safeName
  conv => rhs; rw [← List.map_id name]
  exact List.map_congr_left fun c hc => if_neg (mt List.contains_iff_mem.mp (h c hc))

theorem safeName_idem (name : Bytes) : safeName (safeName name) = safeName name :=
  safeName_id _ (fun c hc hr => safeName_not_replaced name c hr hc)

theorem safeName_getElem (name : Bytes) (i : Nat) :
    (safeName name)[i]? = (name[i]?).map (fun c => if c = 0 ∨ c = 47 then Gen.PathGen.imageReplacement else c) := by
  rw [safeName, List.getElem?_map]
  simp [Gen.PathGen.imageReplacedChars]

/-- `"%d"` writes ASCII digits only. -/
theorem decRev_digits (fuel n : Nat) : ∀ c ∈ decRev fuel n, ∃ d < 10, c = UInt8.ofNat (48 + d) := by
  fun_induction decRev fuel n with
  | case1 => exact fun _ h => absurd h List.not_mem_nil
  | case2 fuel n ih =>
    refine List.forall_mem_cons.mpr ⟨⟨n % 10, Nat.mod_lt n (by decide), rfl⟩, ?_⟩
    split
    · exact fun _ h => absurd h List.not_mem_nil
    · exact ih

theorem dec_no_slash (n : Nat) : ¬ 47 ∈ dec n := fun h => by
  obtain ⟨d, hd, e⟩ := decRev_digits _ _ _ (List.mem_reverse.mp h)
  -- none of the ten digit characters is `/`
  exact absurd e (by decide +revert)

theorem decInt_no_slash (z : Int) : ¬ 47 ∈ Image.decInt z := by
  fun_cases Image.decInt z
  · exact mt List.mem_cons.mp (not_or.mpr ⟨by decide, dec_no_slash _⟩)
  · exact dec_no_slash _

theorem candidate_no_slash {name ext : Bytes} (hn : ¬ 47 ∈ name) (he : ¬ 47 ∈ ext) (k : Nat) :
    ¬ 47 ∈ candidate name ext k := by
  cases k with
  | zero => exact List.not_mem_append hn he
  | succ k => exact List.not_mem_append (List.not_mem_append (List.not_mem_append hn (by simp)) (dec_no_slash k)) he

theorem candidate_plain (name ext : Bytes) (hext : ValidExt ext) (k : Nat) :
    PlainComp (candidate (safeName name) ext k) := by
  refine plainComp_of_length (candidate_no_slash (safeName_no_slash name) hext.1 k) ?_
  obtain ⟨stem, h⟩ := candidate_suffix (safeName name) ext k
  rw [h, List.length_append]
  exact Nat.le_trans hext.2 (Nat.le_add_left _ _)

theorem validExt_append {a ext : Bytes} (ha : ¬ 47 ∈ a) (hext : ValidExt ext) : ValidExt (a ++ ext) :=
  ⟨List.not_mem_append ha hext.1, List.length_append ▸ Nat.le_trans hext.2 (Nat.le_add_left _ _)⟩

theorem decInt_natCast (n : Nat) : Image.decInt n = dec n := by
  rw [Image.decInt, if_neg (Int.not_lt.mpr (Int.natCast_nonneg n)), Int.toNat_natCast]

theorem rawExtZ_natCast (bits w h : Nat) : Image.rawExtZ bits w h = Image.rawExt bits w h := by
  rw [Image.rawExtZ, decInt_natCast, decInt_natCast, decInt_natCast, Image.rawExt]

/-- What `_create_unique_image_name` returns: one of the candidates for the sanitised name, not in the listing,
    joined onto `outdir`. -/
theorem imagePath_eq_some {outdir name ext nm p : Bytes} {existing : List Bytes}
    (h : imagePath outdir name ext existing = some (nm, p)) :
    nm ∉ existing ∧ (∃ j, nm = candidate (safeName name) ext j) ∧ p = join outdir nm := by
  obtain ⟨n, hu, he⟩ := Option.map_eq_some_iff.mp h
  obtain ⟨rfl, rfl⟩ := Prod.mk.inj he
  obtain ⟨hfresh, j, _, hj⟩ := uniqueName_fresh existing (safeName name) ext n hu
  exact ⟨hfresh, ⟨j, hj⟩, rfl⟩

end PdfVerif.PathLemmas
