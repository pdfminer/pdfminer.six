/-
C19: the rest of the `CCITTFaxDecode` parameter space and of the code space — the T.6 extension codes
`0000001xxx` other than the uncompressed-mode entry and a single EOL are rejected with `InvalidData`; every K other than -1 is rejected before the data or any other parameter
is looked at.
-/
import PdfVerif.Lemmas.CcittImage
import PdfVerif.Model.CcittStream

namespace PdfVerif.Ccitt
open PdfVerif.Gen PdfVerif.Spec

theorem ext_codes_ok : ∀ i : Fin 7,
    extCode (i.val + 1) ≠ [] ∧ isPrefix [false, false, false, false, false, false, true] (extCode (i.val + 1)) = true ∧
    Trie.follow modeTrie (extCode (i.val + 1)) = some (.leaf (.mode (.x (i.val + 1)))) := by
  decide +kernel

/-- A parser expecting a mode code that reads one of the extension codes `x1..x7` raises
`InvalidData` (the final `else` of `_parse_mode`), whatever the line state and whatever follows. -/
theorem feed_ext_code (st : St) (hacc : st.acc = .mode) (hnode : st.node = modeTrie) (n : Nat)
    (h1 : 1 ≤ n) (h7 : n ≤ 7) (pos : Nat) (rest : List Bool) :
    feedFlat st pos 0 (extCode n ++ rest) = .error .invalidData := by
  have h := ext_codes_ok ⟨n - 1, by omega⟩
  have e : n - 1 + 1 = n := by omega
  simp only [e] at h
  rw [feed_follow_leaf _ st _ _ (.mode (.x n)) h.1 (by rw [hnode]; exact h.2.2)]
  simp only [accept, hacc, parseMode, modeAction_x, afterAccept]

/-- `K` other than -1 in the dictionary: `PDFValueError`, whatever the data and the other entries
(they are not even read: an ill-typed `Columns` does not matter). -/
theorem ccittBranch_k (d : Dict) (k : Option Int) (hk : kOf d = .ok k) (hne : k ≠ some (-1))
    (data : List UInt8) : ccittBranch (.dict d) data = .error .valueError := by
  have : k ≠ some CcittCode.kGroup4 := hne
  simp only [ccittBranch, hk, this, ne_eq, not_false_eq_true, if_true]

/-- The T.4 end-of-line code (not part of T.6 data; EOFB is two of them). -/
def codeEOL : List Bool := List.replicate 11 false ++ [true]

theorem codeEOFB_eq : T6.codeEOFB = codeEOL ++ codeEOL := by decide

/-- The twelve ways in which the bits after one EOL can fail to be a second EOL. -/
def eolDeviation (k : Nat) : List Bool := if k < 11 then List.replicate k false ++ [true] else List.replicate 12 false

theorem eol_deviation_ok : ∀ k : Fin 12,
    Trie.follow modeTrie (codeEOL ++ eolDeviation k.val) = some .empty := by decide +kernel

end PdfVerif.Ccitt
