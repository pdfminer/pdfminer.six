/- C11: what `XMLConverter` writes for a hierarchy is read back as its skeleton.  `Renders w ns` says that `w`
is a run of complete tokens whose tree construction appends `ns` to the open element; it composes (`renders_append`,
`renders_elem`), so the document is assembled element by element along the recursion of the writers. -/
import PdfVerif.Lemmas.XmlLex

namespace PdfVerif.Xml
open PdfVerif.Convert

def pushK (ns : List Node) (f : Frame) : Frame := { f with kids := f.kids ++ ns }

theorem pushK_nil (f : Frame) : pushK [] f = f := by cases f; simp [pushK]
theorem pushK_pushK (a b : List Node) (f : Frame) : pushK b (pushK a f) = pushK (a ++ b) f := by
  cases f; simp [pushK]

theorem unescToks_append (a b : List Tok) :
    unescToks (a ++ b) = match unescToks a, unescToks b with
      | some x, some y => some (x ++ y)
      | _, _ => none := by
  induction a with
  | nil => cases h : unescToks b <;> simp [unescToks, h]
  | cons t a ih =>
    simp only [List.cons_append, unescToks, ih]
    cases unescTok t <;> cases unescToks a <;> cases unescToks b <;> simp

def Renders (w : Str) (ns : List Node) : Prop :=
  ∃ raw toks, w = raw.flatMap renderTok ∧ (∀ t ∈ raw, TokOk t) ∧ unescToks raw = some toks ∧
    ∀ rest f fs, build (toks ++ rest) (f :: fs) = build rest (pushK ns f :: fs)

theorem renders_nil : Renders [] [] :=
  ⟨[], [], rfl, by simp, rfl, by intro rest f fs; simp [pushK_nil]⟩

theorem renders_append {w1 w2 : Str} {n1 n2 : List Node} (h1 : Renders w1 n1) (h2 : Renders w2 n2) :
    Renders (w1 ++ w2) (n1 ++ n2) := by
  obtain ⟨r1, t1, e1, o1, u1, b1⟩ := h1
  obtain ⟨r2, t2, e2, o2, u2, b2⟩ := h2
  refine ⟨r1 ++ r2, t1 ++ t2, by rw [e1, e2, List.flatMap_append],
    fun t ht => (List.mem_append.mp ht).elim (o1 t) (o2 t), by rw [unescToks_append, u1, u2], fun rest f fs => ?_⟩
  rw [List.append_assoc, b1, b2, pushK_pushK]

def Plain (s : Str) : Prop := ∀ c ∈ s, plainChar c = true

theorem plain_valOk {s : Str} (h : Plain s) : ValOk s := fun c hc =>
  have := plainChar_iff.mp (h c hc)
  ⟨this.2.2.2.1, this.2.2.1⟩

theorem plain_tailOk {s : Str} (h : Plain s) : TailOk s := fun c hc => (plain_valOk h c hc).2

theorem nl_ok : TailOk ['\n'] ∧ unescape false ['\n'] = some ['\n'] :=
  ⟨List.forall_mem_singleton.mpr (by decide), by decide⟩

def Legal (s : Str) : Prop := ∀ c ∈ s, isXmlChar c = true

instance (n : Str) : Decidable (NameOk n) := inferInstanceAs (Decidable (_ ∧ _))

/-- In the lemmas below `as'` and the element name come from the goal (the skeleton spells them out), `as` from
`as'`, and the names are checked by `decide`. -/
def AttrsGood (as as' : List (Str × Str)) : Prop := AttrsOk as ∧ unescAttrs as = some as'

theorem good_nil : AttrsGood [] [] := ⟨fun _ h => (nomatch h), rfl⟩

theorem good_plain {k v : Str} {as as' : List (Str × Str)} (hv : Plain v) (h : AttrsGood as as')
    (hk : NameOk k := by decide +kernel) : AttrsGood ((k, v) :: as) ((k, v) :: as') := by
  refine ⟨List.forall_mem_cons.mpr ⟨⟨hk, plain_valOk hv⟩, h.1⟩, ?_⟩
  have : unescape true v = some v := unesc_plain true v hv
  simp [unescAttrs, this, h.2]

theorem good_attr {k : Str} {strip : Bool} {s : Str} {as as' : List (Str × Str)}
    (hs : Legal (maybeStrip strip s)) (h : AttrsGood as as') (hk : NameOk k := by decide +kernel) :
    AttrsGood ((k, attr strip s) :: as) ((k, maybeStrip strip s) :: as') := by
  refine ⟨List.forall_mem_cons.mpr ⟨⟨hk, fun c hc => ?_⟩, h.1⟩, ?_⟩
  · exact ⟨(attr_safe strip s c hc).2.1, (attr_safe strip s c hc).1⟩
  · simp [unescAttrs, unescape_attr strip s hs, h.2]

/-- `renderAttrs as ++ k` with the appends pushed inwards.  Applied to explicit names it unfolds to nested
`::`/`++` that associate to the right, which is the form a template takes once its own appends are
reassociated; the two are then equal by `rfl`. -/
def attrsThen (as : List (Str × Str)) (k : Str) : Str :=
  as.foldr (fun kv k => ' ' :: (kv.1 ++ '=' :: '"' :: (kv.2 ++ '"' :: k))) k

theorem attrsThen_eq (as : List (Str × Str)) (k : Str) : attrsThen as k = renderAttrs as ++ k := by
  induction as with
  | nil => rfl
  | cons kv as ih =>
    simp only [renderAttrs, attrsThen, List.foldr_cons, List.cons_append, List.append_assoc] at ih ⊢; rw [ih]

theorem renderTok_stag (n : Str) (as : List (Str × Str)) (sp sc : Bool) (tail rest : Str) :
    renderTok ⟨.stag n as sp sc, tail⟩ ++ rest = '<' :: (n ++ attrsThen as (closeStr sp sc ++ (tail ++ rest))) := by
  simp only [attrsThen_eq, renderTok, tagBody, List.cons_append, List.append_assoc]

theorem renderTok_etag (n tail : Str) : renderTok ⟨.etag n, tail⟩ = '<' :: '/' :: (n ++ '>' :: tail) := by
  simp only [renderTok, tagBody, List.cons_append, List.append_assoc, List.nil_append]

theorem unescTok_stag {n : Str} {as as' : List (Str × Str)} (sp sc : Bool) {tl tl' : Str}
    (h1 : unescAttrs as = some as') (h2 : unescape false tl = some tl') :
    unescTok ⟨.stag n as sp sc, tl⟩ = some ⟨.stag n as' sp sc, tl'⟩ := by simp [unescTok, unescTag, h1, h2]

theorem unescTok_etag (n : Str) : unescTok ⟨.etag n, ['\n']⟩ = some ⟨.etag n, ['\n']⟩ := by
  simp [unescTok, unescTag, nl_ok.2]

theorem renders_empty {w n : Str} {as as' : List (Str × Str)} (sp : Bool) (hg : AttrsGood as as')
    (hw : w = '<' :: (n ++ attrsThen as (closeStr sp true ++ ['\n']))) (hn : NameOk n := by decide +kernel) :
    Renders w [.elem n as' [], nl] := by
  refine ⟨[⟨.stag n as sp true, ['\n']⟩], [⟨.stag n as' sp true, ['\n']⟩], ?_,
    List.forall_mem_singleton.mpr ⟨⟨hn, hg.1⟩, nl_ok.1⟩, ?_, ?_⟩
  · rw [hw, List.flatMap_singleton, ← List.append_nil (renderTok _), renderTok_stag, List.append_nil]
  · simp [unescToks, unescTok_stag sp true hg.2 nl_ok.2]
  · intro rest f fs
    simp [build, pushNodes, textNodes, pushK, nl]

theorem renders_elem {w kw n : Str} {as as' : List (Str × Str)} {raw txt : Str} {kn : List Node} (sp : Bool)
    (hg : AttrsGood as as') (hraw : TailOk raw) (hun : unescape false raw = some txt) (hk : Renders kw kn)
    (hw : w = '<' :: (n ++ attrsThen as (closeStr sp false ++ (raw ++ (kw ++ '<' :: '/' :: (n ++ ['>', '\n']))))))
    (hn : NameOk n := by decide +kernel) :
    Renders w [.elem n as' (textNodes txt ++ kn), nl] := by
  obtain ⟨rk, tk, ek, ok, uk, bk⟩ := hk
  refine ⟨⟨.stag n as sp false, raw⟩ :: (rk ++ [⟨.etag n, ['\n']⟩]),
    ⟨.stag n as' sp false, txt⟩ :: (tk ++ [⟨.etag n, ['\n']⟩]), ?_, ?_, ?_, ?_⟩
  · rw [hw, ek, List.flatMap_cons, List.flatMap_append, List.flatMap_singleton, renderTok_stag, renderTok_etag]
  · intro t ht
    rcases List.mem_cons.mp ht with rfl | ht
    · exact ⟨⟨hn, hg.1⟩, hraw⟩
    rcases List.mem_append.mp ht with ht | ht
    · exact ok t ht
    · obtain rfl := List.mem_singleton.mp ht; exact ⟨hn, nl_ok.1⟩
  · simp [unescToks, unescToks_append, unescTok_stag sp false hg.2 hun, unescTok_etag, uk]
  · intro rest f fs
    simp only [List.cons_append, List.append_assoc, build, pushNodes, Option.bind]
    rw [bk]
    simp [build, pushNodes, textNodes, pushK, nl]

theorem renders_wrap {w kw n : Str} {as as' : List (Str × Str)} {kn : List Node} (hg : AttrsGood as as')
    (hk : Renders kw kn)
    (hw : w = '<' :: (n ++ attrsThen as ('>' :: '\n' :: (kw ++ '<' :: '/' :: (n ++ ['>', '\n'])))))
    (hn : NameOk n := by decide +kernel) : Renders w [.elem n as' (nl :: kn), nl] :=
  renders_elem false hg nl_ok.1 nl_ok.2 hk hw hn

theorem renders_textelem {w n : Str} {as as' : List (Str × Str)} {raw txt : Str} (hg : AttrsGood as as')
    (hraw : TailOk raw) (hun : unescape false raw = some txt)
    (hw : w = '<' :: (n ++ attrsThen as ('>' :: (raw ++ '<' :: '/' :: (n ++ ['>', '\n'])))))
    (hn : NameOk n := by decide +kernel) : Renders w [.elem n as' (textNodes txt), nl] :=
  List.append_nil (textNodes txt) ▸ renders_elem false hg hraw hun renders_nil hw hn

open PdfVerif.Gen.ConvertXml

/-- character data that needs no escaping (LTAnno text: pdfminer only creates " " and "\n") -/
def textPlainChar (c : Char) : Bool := isXmlChar c && c != '&' && c != '<' && c != '\r'
def TextPlain (s : Str) : Prop := ∀ c ∈ s, textPlainChar c = true

theorem textPlainChar_iff {c : Char} :
    textPlainChar c = true ↔ isXmlChar c = true ∧ c ≠ '&' ∧ c ≠ '<' ∧ c ≠ '\r' := by
  simp only [textPlainChar, Bool.and_eq_true, bne_iff_ne, ne_eq, and_assoc]

theorem unesc_textPlain (s : Str) (hs : TextPlain s) : unescGo false none s = some s := by
  refine unescGo_literal false s fun c hc => ?_
  obtain ⟨hx, h1, h2, h8⟩ := textPlainChar_iff.mp (hs c hc)
  exact ⟨hx, h1, h2, by simp [normLiteral, h8]⟩

theorem textPlain_tailOk {s : Str} (h : TextPlain s) : TailOk s := fun c hc =>
  (textPlainChar_iff.mp (h c hc)).2.2.1

mutual
def ItemOk (strip : Bool) : Item → Prop
  | .char f b cs nc sz t =>
      Legal (maybeStrip strip f) ∧ Plain b ∧ Plain cs ∧ Plain nc ∧ Plain sz ∧ Legal (maybeStrip strip t)
  | .anno t => TextPlain t
  | .line lw b => Plain lw ∧ Plain b
  | .rect lw b => Plain lw ∧ Plain b
  | .curve lw b p => Plain lw ∧ Plain b ∧ Plain p
  | .image w h src => Plain w ∧ Plain h ∧ (match src with | none => True | some n => Legal (maybeStrip strip n))
  | .figure n b kids => Legal (maybeStrip strip n) ∧ Plain b ∧ ItemsOk strip kids
  | .textline b kids => Plain b ∧ ItemsOk strip kids
  | .textbox i b _ kids => Plain i ∧ Plain b ∧ ItemsOk strip kids
def ItemsOk (strip : Bool) : List Item → Prop
  | [] => True
  | i :: is => ItemOk strip i ∧ ItemsOk strip is
end

mutual
def GroupOk : Group → Prop
  | .box i b => Plain i ∧ Plain b
  | .group b kids => Plain b ∧ GroupsOk kids
def GroupsOk : List Group → Prop
  | [] => True
  | g :: gs => GroupOk g ∧ GroupsOk gs
end

def PageOk (strip : Bool) (p : Page) : Prop :=
  Plain p.pageid ∧ Plain p.bbox ∧ Plain p.rotate ∧ ItemsOk strip p.kids ∧
    (match p.groups with | none => True | some gs => GroupsOk gs)

theorem plain_vertical : Plain ['v','e','r','t','i','c','a','l'] := by
  intro c hc; revert c; decide +kernel

/-- Closes `w = '<' :: (n ++ attrsThen ..)` where `w` is the flattened list of writes of one element: unfold the
writer and the regenerated templates named, reassociate every append to the right; the two sides are then the same
nested `::` / `++` (see `attrsThen`). -/
local macro "template " "[" ls:Lean.Parser.Tactic.simpLemma,* "]" : tactic =>
  `(tactic| (simp only [$ls,*, List.flatten_cons, List.flatten_nil, List.flatten_append, List.append_nil,
      List.append_assoc]; rfl))

mutual
theorem renders_item (strip : Bool) (i : Item) (h : ItemOk strip i) :
    Renders (xmlWrites strip i).flatten (itemNodes strip i) := by
  -- In every case the element name and the attribute names are read off the goal (the skeleton), and the last
  -- argument (`template`) shows that the regenerated template is the string the lemma speaks of.
  cases i with
  | char f b cs nc sz t =>
    obtain ⟨hf, hb, hcs, hnc, hsz, ht⟩ := h
    exact renders_textelem (good_attr hf (good_plain hb (good_plain hcs (good_plain hnc (good_plain hsz good_nil)))))
      (fun c hc => (writeText_safe strip t c hc).1) (unescape_writeText strip t ht)
      (by template [xmlWrites, t_render_LTChar_0, t_render_LTChar_1])
  | anno t =>
    exact renders_textelem good_nil (textPlain_tailOk h) (unesc_textPlain t h)
      (by template [xmlWrites, t_render_LTText_0])
  | line lw b | rect lw b =>
    exact renders_empty true (good_plain h.1 (good_plain h.2 good_nil))
      (by template [xmlWrites, t_render_LTLine_0, t_render_LTRect_0])
  | curve lw b p =>
    exact renders_empty false (good_plain h.1 (good_plain h.2.1 (good_plain h.2.2 good_nil)))
      (by template [xmlWrites, t_render_LTCurve_0])
  | image w hh src =>
    cases src with
    | none =>
      exact renders_empty true (good_plain h.1 (good_plain h.2.1 good_nil))
        (by template [xmlWrites, t_render_LTImage_1])
    | some n =>
      exact renders_empty true (good_attr h.2.2 (good_plain h.1 (good_plain h.2.1 good_nil)))
        (by template [xmlWrites, t_render_LTImage_0])
  | figure n b kids =>
    exact renders_wrap (good_attr h.1 (good_plain h.2.1 good_nil)) (renders_items strip kids h.2.2)
      (by template [xmlWrites, t_render_LTFigure_0, t_render_LTFigure_1])
  | textline b kids =>
    exact renders_wrap (good_plain h.1 good_nil) (renders_items strip kids h.2)
      (by template [xmlWrites, t_render_LTTextLine_0, t_render_LTTextLine_1])
  | textbox i b v kids =>
    obtain ⟨hi, hb, hk⟩ := h
    cases v with
    | false =>
      exact renders_wrap (good_plain hi (good_plain hb good_nil)) (renders_items strip kids hk)
        (by template [xmlWrites, t_render_LTTextBox_0, t_render_LTTextBox_2, t_render_LTTextBox_3])
    | true =>
      exact renders_wrap (good_plain hi (good_plain hb (good_plain plain_vertical good_nil)))
        (renders_items strip kids hk)
        (by template [xmlWrites, t_render_LTTextBox_1, t_render_LTTextBox_2, t_render_LTTextBox_3])
theorem renders_items (strip : Bool) (is : List Item) (h : ItemsOk strip is) :
    Renders (xmlWritesL strip is).flatten (itemNodesL strip is) := by
  cases is with
  | nil => exact renders_nil
  | cons i is =>
    simp only [xmlWritesL, itemNodesL, List.flatten_append]
    exact renders_append (renders_item strip i h.1) (renders_items strip is h.2)
end

mutual
theorem renders_group (g : Group) (h : GroupOk g) : Renders (groupWrites g).flatten (groupNodes g) := by
  cases g with
  | box i b =>
    exact renders_empty true (good_plain h.1 (good_plain h.2 good_nil))
      (by template [groupWrites, t_show_group_LTTextBox_0])
  | group b kids =>
    exact renders_wrap (good_plain h.1 good_nil) (renders_groups kids h.2)
      (by template [groupWrites, t_show_group_LTTextGroup_0, t_show_group_LTTextGroup_1])
theorem renders_groups (gs : List Group) (h : GroupsOk gs) : Renders (groupWritesL gs).flatten (groupNodesL gs) := by
  cases gs with
  | nil => exact renders_nil
  | cons g gs =>
    simp only [groupWritesL, groupNodesL, List.flatten_append]
    exact renders_append (renders_group g h.1) (renders_groups gs h.2)
end

theorem renders_layout (gs : Option (List Group)) (h : match gs with | none => True | some gs => GroupsOk gs) :
    Renders (layoutWrites gs).flatten (layoutNodes gs) := by
  cases gs with
  | none => exact renders_nil
  | some gs =>
    exact renders_wrap good_nil (renders_groups gs h)
      (by template [layoutWrites, t_render_LTPage_1, t_render_LTPage_2])

theorem renders_page (strip : Bool) (p : Page) (h : PageOk strip p) :
    Renders (xmlPageWrites strip p).flatten (pageNodes strip p) := by
  obtain ⟨hi, hb, hr, hk, hgs⟩ := h
  exact renders_wrap (good_plain hi (good_plain hb (good_plain hr good_nil)))
    (renders_append (renders_items strip p.kids hk) (renders_layout p.groups hgs))
    (by template [xmlPageWrites, t_render_LTPage_0, t_render_LTPage_3])

theorem renders_pages (strip : Bool) (ps : List Page) (h : ∀ p ∈ ps, PageOk strip p) :
    Renders (ps.flatMap (xmlPageWrites strip)).flatten (ps.flatMap (pageNodes strip)) := by
  induction ps with
  | nil => exact renders_nil
  | cons p ps ih =>
    obtain ⟨hp, hps⟩ := List.forall_mem_cons.mp h
    simp only [List.flatMap_cons, List.flatten_append]
    exact renders_append (renders_page strip p hp) (ih hps)

theorem renders_decl (w body : Str) (hw : w = '<' :: '?' :: (body ++ ['?', '>', '\n'])) (hb : ∀ c ∈ body, c ≠ '?') :
    Renders w [nl] := by
  refine ⟨[⟨.decl body, ['\n']⟩], [⟨.decl body, ['\n']⟩], ?_, List.forall_mem_singleton.mpr ⟨hb, nl_ok.1⟩, ?_, ?_⟩
  · simp only [hw, List.flatMap_singleton, renderTok, tagBody, List.cons_append, List.append_assoc, List.nil_append]
  · simp [unescToks, unescTok, unescTag, nl_ok.2]
  · intro rest f fs
    simp [build, pushNodes, textNodes, pushK, nl]

def CodecNameOk : Option Str → Prop
  | none => True
  | some c => ∀ ch ∈ c, ch ≠ '?'

theorem renders_doc (strip : Bool) (codec : Option Str) (ps : List Page) (hc : CodecNameOk codec)
    (h : ∀ p ∈ ps, PageOk strip p) :
    Renders (xmlDocWrites strip codec ps).flatten [nl, docSkeleton strip ps, nl] := by
  have hdecl : ∃ hd, headerWrites codec = [hd, t_write_header_2] ∧ Renders hd [nl] := by
    cases codec with
    | none =>
      exact ⟨_, rfl, renders_decl _ ['x','m','l',' ','v','e','r','s','i','o','n','=','"','1','.','0','"',' '] rfl
        (by decide +kernel)⟩
    | some c =>
      exact ⟨_, rfl, renders_decl _
        (['x','m','l',' ','v','e','r','s','i','o','n','=','"','1','.','0','"',' ','e','n','c','o','d','i','n','g','=','"']
          ++ (c ++ ['"', ' ']))
        (by simp only [t_write_header_0, List.append_assoc, List.cons_append, List.nil_append])
        (List.forall_mem_append.mpr ⟨by decide +kernel, List.forall_mem_append.mpr ⟨hc, by decide⟩⟩)⟩
  obtain ⟨hd, e, hhd⟩ := hdecl
  have := renders_append hhd (renders_wrap (n := ['p','a','g','e','s']) good_nil (renders_pages strip ps h) rfl)
  simp only [xmlDocWrites, e, List.flatten_append, List.flatten_cons, List.flatten_nil, List.append_nil,
    List.append_assoc]
  exact this

theorem parseXML_doc (strip : Bool) (codec : Option Str) (ps : List Page) (hc : CodecNameOk codec)
    (h : ∀ p ∈ ps, PageOk strip p) :
    parseXML (sinkText (xmlDocWrites strip codec ps)) = some (docSkeleton strip ps) := by
  obtain ⟨raw, toks, e, ok, u, b⟩ := renders_doc strip codec ps hc h
  have hb := b [] ⟨[], [], []⟩ []
  simp only [List.append_nil] at hb
  have hlex := lex_render raw ok
  simp [parseXML, parseNodes, sinkText, e, hlex, u, hb, build, pushK, isElem, isWsNode, nl, docSkeleton, isSpace]
  rfl

end PdfVerif.Xml
