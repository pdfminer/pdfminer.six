/-
C12: the explicit process-wide state (`Model/ProcGlobals.lean`).  Interning is idempotent, monotone and
injective; rendering a page changes nothing but the interned tables, and its result does not depend on
them nor on what the previous page left behind.
-/
import PdfVerif.Model.ProcGlobals

namespace PdfVerif.ProcGlobals

theorem find_getElem {k i : Nat} {t : List Nat} (h : find k t = some i) : t[i]? = some k := by
  fun_induction find k t generalizing i with
  | case1 => cases h
  | case2 xs => cases h; rfl
  | case3 x xs hx ih =>
    obtain ⟨j, hj, rfl⟩ := Option.map_eq_some_iff.mp h
    exact ih hj

theorem find_mono {k i : Nat} {t t' : List Nat} (hp : t <+: t') (h : find k t = some i) : find k t' = some i := by
  obtain ⟨e, rfl⟩ := hp
  fun_induction find k t generalizing i with
  | case1 => cases h
  | case2 xs => rw [List.cons_append, find, if_pos rfl]; exact h
  | case3 x xs hx ih =>
    obtain ⟨j, hj, rfl⟩ := Option.map_eq_some_iff.mp h
    rw [List.cons_append, find, if_neg hx, ih hj]; rfl

theorem find_append_self {k : Nat} {t : List Nat} (h : find k t = none) : find k (t ++ [k]) = some t.length := by
  fun_induction find k t with
  | case1 => exact if_pos rfl
  | case2 xs => cases h
  | case3 x xs hx ih => rw [List.cons_append, find, if_neg hx, ih (Option.map_eq_none_iff.mp h)]; rfl

theorem find_inj {a b i : Nat} {t : List Nat} (ha : find a t = some i) (hb : find b t = some i) : a = b :=
  Option.some.inj ((find_getElem ha).symm.trans (find_getElem hb))

theorem intern_find (t : List Nat) (n : Nat) : find n (intern t n).2 = some (intern t n).1 := by
  fun_cases intern t n with
  | case1 i h => exact h
  | case2 h => exact find_append_self h

theorem intern_name (t : List Nat) (n : Nat) : nameOf (intern t n).2 (intern t n).1 = some n :=
  find_getElem (intern_find t n)

theorem intern_of_find {t : List Nat} {n i : Nat} (h : find n t = some i) : intern t n = (i, t) := by
  unfold intern; rw [h]

theorem intern_idem (t : List Nat) (n : Nat) : intern (intern t n).2 n = intern t n :=
  intern_of_find (intern_find t n)

theorem intern_prefix (t : List Nat) (n : Nat) : t <+: (intern t n).2 := by
  fun_cases intern t n
  · exact List.prefix_refl t
  · exact List.prefix_append t [n]

theorem intern_stable {t : List Nat} {k i : Nat} (n : Nat) (h : find k t = some i) :
    find k (intern t n).2 = some i :=
  find_mono (intern_prefix t n) h

theorem internAll_prefix (names t : List Nat) : t <+: internAll t names := by
  induction names generalizing t with
  | nil => exact List.prefix_refl t
  | cons n ns ih => exact (intern_prefix t n).trans (ih _)

theorem internAll_stable {t : List Nat} {k i : Nat} (names : List Nat) (h : find k t = some i) :
    find k (internAll t names) = some i :=
  find_mono (internAll_prefix names t) h

/-- identity of symbols = equality of names, whatever was interned before and in between -/
theorem intern_inj (t : List Nat) (a b : Nat) (hist : List Nat) :
    (intern (internAll (intern t a).2 hist) b).1 = (intern t a).1 ↔ a = b := by
  -- `a` is found at its symbol in every later table; so is `b` at its own
  have ha := intern_stable b (internAll_stable hist (intern_find t a))
  have hb := intern_find (internAll (intern t a).2 hist) b
  constructor
  · intro h
    rw [h] at hb
    exact find_inj ha hb
  · rintro rfl
    exact Option.some.inj (hb.symm.trans ha)

theorem execOp_err {strict : Bool} {s : PState} (op : TOp) (h : s.err = true) : execOp strict s op = s := by
  unfold execOp; rw [if_pos h]

theorem stepOp_fst (acc : PState × Globals) (op : TOp) : (stepOp acc op).1 = execOp acc.2.strict acc.1 op := by
  fun_cases stepOp acc op
  · next h => exact (execOp_err op h).symm
  · rfl

theorem stepOp_strict (acc : PState × Globals) (op : TOp) : (stepOp acc op).2.strict = acc.2.strict := by
  fun_cases stepOp acc op <;> rfl

/-- the page state is computed from the page, `STRICT` and the start state alone -/
theorem foldl_stepOp_fst (ops : List TOp) (s : PState) (g : Globals) :
    (ops.foldl stepOp (s, g)).1 = ops.foldl (execOp g.strict) s := by
  induction ops generalizing s g with
  | nil => rfl
  | cons op ops ih =>
    rw [List.foldl_cons, List.foldl_cons, ← stepOp_fst (s, g) op, ← stepOp_strict (s, g) op]
    exact ih _ _

/-- What a modelled operation may do to the process-wide state. -/
def Globals.Le (g g' : Globals) : Prop :=
  g'.static = g.static ∧ g.lits <+: g'.lits ∧ g.kwds <+: g'.kwds

theorem Globals.Le.refl (g : Globals) : g.Le g := ⟨rfl, List.prefix_refl _, List.prefix_refl _⟩

theorem Globals.Le.trans {a b c : Globals} (h1 : a.Le b) (h2 : b.Le c) : a.Le c :=
  ⟨h2.1.trans h1.1, h1.2.1.trans h2.2.1, h1.2.2.trans h2.2.2⟩

theorem stepOp_le (acc : PState × Globals) (op : TOp) : acc.2.Le (stepOp acc op).2 := by
  fun_cases stepOp acc op
  · exact Globals.Le.refl _
  · exact ⟨rfl, internAll_prefix _ _, internAll_prefix _ _⟩

theorem foldl_stepOp_le (ops : List TOp) (acc : PState × Globals) : acc.2.Le (ops.foldl stepOp acc).2 := by
  induction ops generalizing acc with
  | nil => exact Globals.Le.refl _
  | cons op ops ih => exact (stepOp_le acc op).trans (ih _)

theorem renderPage_le (g : Globals) (left : PState) (pg : GPage) : g.Le (renderPage g left pg).2 :=
  foldl_stepOp_le _ _

theorem renderCall_le (pages : List GPage) (g : Globals) (left : PState) : g.Le (renderCall g left pages).2 := by
  induction pages generalizing g left with
  | nil => exact Globals.Le.refl g
  | cons pg rest ih => exact (renderPage_le g left pg).trans (ih _ _)

theorem runHistory_le (hist : List (List GPage)) (g : Globals) : g.Le (runHistory g hist) := by
  induction hist generalizing g with
  | nil => exact Globals.Le.refl g
  | cons c cs ih => exact (renderCall_le c g PState.init).trans (ih _)

theorem renderPage_state (g : Globals) (left : PState) (pg : GPage) :
    (renderPage g left pg).1 =
      pg.ops.foldl (execOp g.strict) (initState (initResources g.colorspaces pg.cs) PState.init) :=
  foldl_stepOp_fst _ _ _

theorem static_eq {g g' : Globals} (h : g.static = g'.static) :
    g.colorspaces = g'.colorspaces ∧ g.metrics = g'.metrics ∧ g.strict = g'.strict :=
  ⟨congrArg (·.1) h, congrArg (·.2.1) h, congrArg (·.2.2) h⟩

theorem renderPage_indep {g g' : Globals} (left left' : PState) (pg : GPage) (h : g.static = g'.static) :
    (renderPage g left pg).1 = (renderPage g' left' pg).1 := by
  obtain ⟨h1, _, h3⟩ := static_eq h
  rw [renderPage_state, renderPage_state, h1, h3]

theorem renderCall_pages (pages : List GPage) (g : Globals) (left : PState) :
    (renderCall g left pages).1 = pages.map (fun pg => (renderPage g PState.init pg).1) := by
  induction pages generalizing g left with
  | nil => rfl
  | cons pg rest ih =>
    rw [renderCall, List.map_cons, ih, renderPage_indep left PState.init pg rfl]
    exact congrArg _ (List.map_congr_left fun p _ =>
      renderPage_indep PState.init PState.init p (renderPage_le g left pg).1)

end PdfVerif.ProcGlobals
