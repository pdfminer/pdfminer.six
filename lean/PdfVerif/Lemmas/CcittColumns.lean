/-
C19: totality of the degenerate-width parser (`Model/CcittColumns.lean`): only `InvalidData`
or `IndexError` come out, never an unmodelled branch.
-/
import PdfVerif.Lemmas.CcittTotal
import PdfVerif.Model.CcittColumns

namespace PdfVerif.Ccitt
open PdfVerif.Gen

/-- The error of a result, for kernel-evaluated examples. -/
def errOf {α : Type} : Except ColErr α → Option ColErr
  | .error e => some e
  | .ok _ => none

def StepOkD : Except ColErr (St × Sig) → Prop
  | .error e => e = .invalidData ∨ e = .indexError
  | .ok (_, .eofb) => True
  | .ok (st', _) => WT st'

theorem liftErr_ok {r : Except Err (St × Sig)} (h : StepOk r) : StepOkD (liftErr r) := by
  cases r with
  | error e => simp only [StepOk] at h; subst h; exact Or.inl rfl
  | ok p => obtain ⟨st', sg⟩ := p; cases sg <;> exact h

/-- `stepBitD` is `stepBit` with the `IndexError` guard in front of `_accept`. -/
theorem stepBitD_cases (st : St) (b : Bool) :
    stepBitD st b = .error .indexError ∨ stepBitD st b = liftErr (stepBit st b) := by
  unfold stepBitD stepBit
  cases st.node with
  | empty => right; rfl
  | leaf s => right; rfl
  | node l r =>
    simp only []
    cases (if b then r else l) with
    | node a c => right; rfl
    | empty => right; rfl
    | leaf s =>
      simp only []
      by_cases hg : indexesLine st (some s) = true
      · left; simp only [hg, if_true]
      · right; simp only [hg]; rfl

theorem stepBitD_ok (st : St) (b : Bool) (h : WT st) : StepOkD (stepBitD st b) := by
  rcases stepBitD_cases st b with h1 | h1
  · rw [h1]; exact Or.inr rfl
  · rw [h1]; exact liftErr_ok (stepBit_ok st b h).1

theorem feedBitsD_ok (bits : List Bool) (st : St) (h : WT st) : StepOkD (feedBitsD st bits) := by
  fun_induction feedBitsD st bits with
  | case1 st => exact h
  | case2 st b bs e hr => have hs := stepBitD_ok st b h; rw [hr] at hs; exact hs
  | case3 st b bs st' hr ih => have hs := stepBitD_ok st b h; rw [hr] at hs; exact ih hs
  | case4 st b bs st' s _ hr => have hs := stepBitD_ok st b h; rw [hr] at hs; exact hs

theorem feedBytesD_total (data : List UInt8) (st : St) (h : WT st) :
    (∃ st', feedBytesD st data = .ok st') ∨ feedBytesD st data = .error .invalidData ∨
      feedBytesD st data = .error .indexError := by
  fun_induction feedBytesD st data with
  | case1 st => exact Or.inl ⟨st, rfl⟩
  | case2 st b bs e hr =>
    have hs := feedBitsD_ok (bitsOfByte b) st h
    rw [hr] at hs
    exact Or.inr (hs.imp (congrArg _) (congrArg _))
  | case3 st b bs st' hr => exact Or.inl ⟨st', rfl⟩
  | case4 st b bs st' s hne hr ih =>
    have hs := feedBitsD_ok (bitsOfByte b) st h
    rw [hr] at hs
    cases s with
    | eofb => exact (hne rfl).elim
    | cont | byteSkip => exact ih hs

end PdfVerif.Ccitt
