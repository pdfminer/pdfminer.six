/-
Lemmas for C04 on what `PDFPage.__init__` stores and on the page coordinate system:
`_normalize_rect` and the box defaults give normalised boxes; Rotate is reduced mod 360; a matrix
that sends every point where `specDevice` puts it gives the `LTPage` box and the glyph matrix the
specification demands.
-/
import PdfVerif.Spec.PageTree
import PdfVerif.Lemmas.RatMinMax

namespace PdfVerif.PageTree
open PdfVerif PdfVerif.Gen.PageTree PdfVerif.Gen.Utils PdfVerif.RatMinMax

theorem rat_min_max (a b : Rat) :
    min a b ≤ max a b ∧ (min a b = a ∧ max a b = b ∨ min a b = b ∧ max a b = a) := by
  rw [Rat.min_def, Rat.max_def]
  split
  · exact ⟨‹a ≤ b›, .inl ⟨rfl, rfl⟩⟩
  · exact ⟨Rat.le_of_lt (Rat.not_le.mp ‹¬a ≤ b›), .inr ⟨rfl, rfl⟩⟩

theorem rat_sub_zero (a : Rat) : a - 0 = a := by
  rw [Rat.sub_eq_add_neg, Rat.neg_zero, Rat.add_zero]

theorem ratAbs_zero_sub {w : Rat} (h : 0 ≤ w) : ratAbs (0 - w) = w := by
  unfold ratAbs
  grind

theorem normalize_rect_normalised (r : Rect) : Normalised (normalize_rect r) :=
  ⟨(rat_min_max r.1 r.2.2.1).1, (rat_min_max r.2.1 r.2.2.2).1⟩

theorem parseBox_normalised (g : Store) (v : Val) (r : Rect) (h : parseBox g v = some r) : Normalised r := by
  revert h
  fun_cases parseBox g v
  case case1 => rintro ⟨⟩; exact normalize_rect_normalised _
  all_goals nofun

theorem box_default (g : Store) (o : Option Val) (dflt : Rect) (hd : Normalised dflt) :
    Normalised ((o.bind (parseBox g)).getD dflt) := by
  cases hpb : o.bind (parseBox g) with
  | none => exact hd
  | some r =>
    obtain ⟨v, _, hv⟩ := Option.bind_eq_some_iff.mp hpb
    exact parseBox_normalised g v r hv

theorem us_letter_normalised : Normalised US_LETTER := by
  simp only [Normalised, US_LETTER]; constructor <;> decide

/-- `_parse_mediabox` is the same function with default `US_LETTER`. -/
theorem parse_cropbox_eq (o : Option Val) (f : Val → Option Rect) (dflt : Rect) :
    parse_cropbox o.isNone (o.bind f) dflt = (o.bind f).getD dflt := by
  cases o with
  | none => rfl
  | some v =>
    show (match f v with | some r => r | none => dflt) = (f v).getD dflt
    cases f v <;> rfl

theorem mkPage_mediabox (g : Store) (id : Option Nat) (res mb cb rot : Option Val) :
    (mkPage g id res mb cb rot).mediabox = (mb.bind (parseBox g)).getD US_LETTER :=
  parse_cropbox_eq mb (parseBox g) US_LETTER

theorem mkPage_cropbox (g : Store) (id : Option Nat) (res mb cb rot : Option Val) :
    (mkPage g id res mb cb rot).cropbox = (cb.bind (parseBox g)).getD (mkPage g id res mb cb rot).mediabox :=
  parse_cropbox_eq cb (parseBox g) _

theorem pyMod_360 (a : Int) : pyMod a 360 = a % 360 := Int.fmod_eq_emod_of_nonneg a (by decide)

theorem quarter_of_range (r : Int) (h0 : 0 ≤ r) (h1 : r < 360) (hq : r % 90 = 0) :
    r = 0 ∨ r = 90 ∨ r = 180 ∨ r = 270 := by omega

/-- The images of the four corners have each coordinate `0` or the full extent, so the bounding box
that `apply_matrix_rect` takes is `(0, 0, w', h')`. -/
theorem bbox_of_pointwise (m : Matrix) (rot : Int) (hrot : rot = 0 ∨ rot = 90 ∨ rot = 180 ∨ rot = 270)
    (mb : Rect) (hx : mb.1 ≤ mb.2.2.1) (hy : mb.2.1 ≤ mb.2.2.2)
    (hm : ∀ q, apply_matrix_pt m q = (specDevice rot mb q).1) (p : Point) :
    begin_page_bbox m mb = (0, 0, (specDevice rot mb p).2.1, (specDevice rot mb p).2.2) := by
  obtain ⟨x0, y0, x1, y1⟩ := mb
  obtain ⟨x, y⟩ := p
  have hw : 0 ≤ x1 - x0 := (Rat.le_iff_sub_nonneg _ _).mp hx
  have hh : 0 ≤ y1 - y0 := (Rat.le_iff_sub_nonneg _ _).mp hy
  rcases hrot with rfl | rfl | rfl | rfl <;>
    simp only [begin_page_bbox, apply_matrix_rect, hm, specDevice, Int.reduceDiv, Int.reduceToNat, turn, rot90cw,
      Rat.sub_self, rat_sub_zero, min_eq_left, min_eq_right, max_eq_left, max_eq_right, hw, hh,
      Rat.le_refl, ratAbs_zero_sub]

/-- The linear part of a matrix is recovered from the images of `p`, `p + (1, 0)` and `p + (0, 1)`;
this is how `specRender` states the glyph matrix without naming a matrix. -/
theorem linear_part (m : Matrix) (p : Point) :
    ((apply_matrix_pt m (p.1 + 1, p.2)).1 - (apply_matrix_pt m p).1,
     (apply_matrix_pt m (p.1 + 1, p.2)).2 - (apply_matrix_pt m p).2,
     (apply_matrix_pt m (p.1, p.2 + 1)).1 - (apply_matrix_pt m p).1,
     (apply_matrix_pt m (p.1, p.2 + 1)).2 - (apply_matrix_pt m p).2,
     apply_matrix_pt m p) = (m.1, m.2.1, m.2.2.1, m.2.2.2.1, apply_matrix_pt m p) := by
  obtain ⟨a, b, c, d, e, f⟩ := m
  obtain ⟨x, y⟩ := p
  simp only [apply_matrix_pt]
  grind

theorem render_of_pointwise (rot : Int) (mb : Rect) (p : Point)
    (hm : ∀ q, apply_matrix_pt (page_ctm rot mb) q = (specDevice rot mb q).1)
    (hb : begin_page_bbox (page_ctm rot mb) mb =
      (0, 0, (specDevice rot mb p).2.1, (specDevice rot mb p).2.2)) :
    render rot mb p = specRender rot mb p := by
  rw [render, specRender, hb]
  simp only [← hm]
  exact congrArg _ (linear_part _ p).symm

end PdfVerif.PageTree
