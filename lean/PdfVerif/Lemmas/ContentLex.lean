/-
C05 — the byte-level front end (`Model/ContentLex.lean`) over the lexer model of C14.
-/
import PdfVerif.Model.ContentLex
import PdfVerif.Lemmas.LexCompose

namespace PdfVerif.ContentLex
open PdfVerif PdfVerif.Lexer PdfVerif.Gen.LexTables

/-- `Model/ContentLex.lean` has its own name for the token values; the lemmas of `Lemmas/LexLive.lean`
    speak of `tokValues`. -/
theorem vals_eq_tokValues : vals = tokValues := rfl

theorem lexChunks_flatten : ∀ (chunks : List Bytes) (st1 st2 : St) (p : Nat), Live st1 st2 →
    Live (lexChunks st1 chunks).1 (foldBytes st2 chunks.flatten p).1 ∧
      (lexChunks st1 chunks).2 = vals (foldBytes st2 chunks.flatten p).2
  | [], st1, st2, p, h => by simp [lexChunks, foldBytes, h, vals]
  | b :: rest, st1, st2, p, h => by
    simp only [lexChunks, List.flatten_cons]
    rw [foldBytes_append]
    obtain ⟨h1, h2⟩ := foldBytes_live b st1 st2 0 p h
    obtain ⟨h3, h4⟩ := lexChunks_flatten rest _ _ (p + b.length) h1
    exact ⟨h3, by rw [h4, vals_eq_tokValues, tokValues_append, h2]⟩

/-- `PDFContentParser` over a `Contents` array delivers the tokens of the concatenated data. -/
theorem lexStreams_eq (streams : List Bytes) : lexStreams streams = vals (specLex streams.flatten) := by
  obtain ⟨h1, h2⟩ := lexChunks_flatten streams St.init St.init 0 (Live.refl _)
  obtain ⟨-, h4⟩ := stepN_live 3 _ _ 10 0 streams.flatten.length h1
  rw [lexStreams, specLex_eq, h2, vals_eq_tokValues, tokValues_append]
  exact congrArg _ h4

/-- The scanner is between two tokens (`_parse1 = _parse_main`): nothing pending that the next
byte could extend. White space after a complete token puts it there. -/
def Between (st : St) : Prop := st.mode = .main

/-- Token values only, and before the final flush (`foldBytes`, not `specLex`).  The second part says
that the two end states agree on what the scanners still read (`Live`), so whatever is fed next, the
flushed newline included, is read alike on both sides (`foldBytes_live`). -/
theorem lex_cut_between (a b : Bytes) (h : Between (foldBytes St.init a 0).1) :
    vals (foldBytes St.init (a ++ b) 0).2 = vals (foldBytes St.init a 0).2 ++ vals (foldBytes St.init b 0).2 ∧
    Live (foldBytes St.init (a ++ b) 0).1 (foldBytes St.init b 0).1 := by
  rw [foldBytes_append, vals_eq_tokValues]
  obtain ⟨h1, h2⟩ := foldBytes_live b (foldBytes St.init a 0).1 St.init (0 + a.length) 0 (live_main _ _ h rfl)
  exact ⟨by rw [tokValues_append, h2], h1⟩

/-- The instance of `ws_stepN` that `C05_split_at_white_space` quotes; `ws_stepN` has it for every byte
of the SPC class and every `Complete` scanner. -/
theorem between_after_space (st : St) (c : UInt8) (pos : Nat) (hc : c = 32 ∨ c = 10)
    (hm : st.mode = .main ∨ st.mode = .keyword ∨ st.mode = .number ∨ st.mode = .literal ∨ st.mode = .wclose) :
    Between (stepByte st c pos).1 := by
  have f : WsFacts c := ws_facts c (by rcases hc with rfl | rfl <;> decide +kernel)
  exact (ws_stepN pos pos f f 3 st (by rcases hm with h | h | h | h | h <;> simp [h, Complete])
    (by rcases hm with h | h | h | h | h <;> simp [h]) (by have := rank_le_two st.mode; omega)).1

end PdfVerif.ContentLex
