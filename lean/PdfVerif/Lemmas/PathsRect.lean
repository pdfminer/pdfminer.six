/-
C16 helper lemmas: what `paint_path` makes of the path appended by `re` under an arbitrary CTM; the attributes of
the shapes of ANY path (ill-formed ones included); pages run through one interpreter.
-/
import PdfVerif.Lemmas.Paths

set_option linter.constructorNameAsVariable false

namespace PdfVerif.PathLemmas
open PdfVerif PdfVerif.Paths PdfVerif.PathSpec PdfVerif.Gen.PathsGen

theorem rePath_segs (x y w h : Rat) :
    (rePath x y w h).filterMap segOfRaw =
      [PSeg.m (x, y), PSeg.l (x + w, y), PSeg.l (x + w, y + h), PSeg.l (x, y + h), PSeg.h] := rfl

/-- `p3 = p0` is the redundant-`l` test: the fourth side then coincides with the closing segment. -/
theorem paintPath_re (ctm : Matrix) (a : PaintArgs) (x y w h : Rat) :
    paintPath ctm a ((rePath x y w h).filterMap segOfRaw) =
      (let p0 := apply_matrix_pt ctm (x, y)
       let p1 := apply_matrix_pt ctm (x + w, y)
       let p2 := apply_matrix_pt ctm (x + w, y + h)
       let p3 := apply_matrix_pt ctm (x, y + h)
       let tp := [PSeg.m p0, PSeg.l p1, PSeg.l p2, PSeg.l p3, PSeg.h]
       if p3 = p0 then [mkCurve a [p0, p1, p2, p3] tp]
       else if squareCoords p0 p1 p2 p3 = true then
         [{ mkRect a (p0.1, p0.2, p2.1, p2.2) tp with pts := [p0, p1, p2, p3] }]
       else [mkCurve a [p0, p1, p2, p3, p0] tp]) := by
  rw [rePath_segs]
  by_cases h30 : apply_matrix_pt ctm (x, y + h) = apply_matrix_pt ctm (x, y) <;>
    simp [paintPath, explicitM, PSeg.isM, PSeg.isSeg, PSeg.isH, countM, List.filter, paintSingle,
      PSeg.lastPt, PSeg.letter, PSeg.mapPts, redundantL_eq, classifyShape_eq, redundantCut, redundantTail, h30]

/-- Closing point = 4th corner exactly when the matrix collapses the y direction. -/
theorem re_corner_collapses (a b c d e f x y h : Rat) (hh : h ≠ 0) :
    apply_matrix_pt (a, b, c, d, e, f) (x, y + h) = apply_matrix_pt (a, b, c, d, e, f) (x, y) ↔ c = 0 ∧ d = 0 := by
  simp only [apply_matrix_pt, Prod.mk.injEq]
  constructor
  · rintro ⟨h1, h2⟩
    exact ⟨by grind, by grind⟩
  · rintro ⟨rfl, rfl⟩
    constructor <;> grind

theorem re_square_under_ctm (a b c d e f x y w h : Rat) (hw : w ≠ 0) (hh : h ≠ 0) :
    squareCoords (apply_matrix_pt (a, b, c, d, e, f) (x, y)) (apply_matrix_pt (a, b, c, d, e, f) (x + w, y))
        (apply_matrix_pt (a, b, c, d, e, f) (x + w, y + h)) (apply_matrix_pt (a, b, c, d, e, f) (x, y + h)) = true ↔
      (a = 0 ∧ d = 0) ∨ (b = 0 ∧ c = 0) := by
  rw [squareCoords_eq]
  unfold axisAligned
  rw [decide_eq_true_eq]
  simp only [apply_matrix_pt]
  constructor
  · rintro (⟨h1, h2, _, _⟩ | ⟨h1, h2, _, _⟩)
    · exact .inl ⟨by grind, by grind⟩
    · exact .inr ⟨by grind, by grind⟩
  · rintro (⟨rfl, rfl⟩ | ⟨rfl, rfl⟩)
    · left; refine ⟨?_, ?_, ?_, ?_⟩ <;> grind
    · right; refine ⟨?_, ?_, ?_, ?_⟩ <;> grind

theorem paintPath_attrs (ctm : Matrix) (a : PaintArgs) (path : List PSeg) :
    ∀ s ∈ paintPath ctm a path, attrsOk a s := by
  fun_cases paintPath ctm a path with
  | case1 p rest path' hc =>
    intro s hs
    obtain ⟨sub, _, h⟩ := List.mem_flatMap.1 hs
    exact (paintSingle_frame _ _ _ s h).2
  | case2 p rest path' hc => exact fun s hs => (paintSingle_frame _ _ _ s hs).2
  | case3 => exact fun s hs => nomatch hs

theorem paintPath_no_m (ctm : Matrix) (a : PaintArgs) (path : List PSeg)
    (h : ∀ p rest, path ≠ PSeg.m p :: rest) : paintPath ctm a path = [] := by
  fun_cases paintPath ctm a path with
  | case3 => rfl
  | _ p rest => exact absurd rfl (h p rest)

theorem shapeOf_count (g : SGState) (st fi eo : Bool) (l : List SubPath) :
    (l.filterMap (shapeOf g st fi eo)).length = (l.filter (fun sp => !sp.segs.isEmpty)).length := by
  induction l with
  | nil => rfl
  | cons sp rest ih =>
    by_cases h : sp.segs.isEmpty = true <;> simp [shapeOf, h, ih]

/-- `init_state` overwrites every attribute the model tracks: the start state of a page does not depend on
what the previous page left behind.  (Breaks when an attribute is dropped from `init_state`.) -/
theorem initStateOn_eq (prev : IState) (ctm : Matrix) (res : List (String × CsSpec)) :
    initStateOn prev ctm res = initState ctm res := by
  simp [initStateOn, initState, initStateResets]

theorem runPagesFrom_eq (prev : IState) (pages : List PageIn) :
    runPagesFrom prev pages = pages.map (fun p => runPage p.rotate p.mb p.res p.toks) := by
  induction pages generalizing prev with
  | nil => rfl
  | cons p rest ih =>
    obtain ⟨rot, ⟨x0, y0, x1, y1⟩, res, toks⟩ := p
    simp only [runPagesFrom, initStateOn_eq, ih, List.map_cons]
    cases h : execute toks (initState (pageCtm rot x0 y0 x1 y1) res) <;> simp [runPage, h]

end PdfVerif.PathLemmas
