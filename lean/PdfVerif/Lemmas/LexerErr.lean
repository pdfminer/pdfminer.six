/-
No exception escapes from the tokenizer model: the Python primitives that can raise
(`int(self.hex, 16)`, `bytes((v,))`, `int(self.oct, 8)`, `int(m.group(0), 16)` in HEX_PAIR.sub) are
only reached with arguments on which they succeed.  The facts about the byte classes come from the
REGENERATED tables (closed forms: `Lemmas/LexTables.lean`).
-/
import PdfVerif.Lemmas.Lexer
import PdfVerif.Lemmas.LexTables

namespace PdfVerif.Lexer
open PdfVerif PdfVerif.Gen.LexTables

def digitBelow (base : Nat) (c : UInt8) : Bool :=
  match digitVal c with
  | some d => d < base
  | none => false

theorem hex_digit : ∀ c : UInt8, (!isHEX c || digitBelow 16 c) = true :=
  forall_byte _ (by simp only [isHEX_eq]; decide +kernel)

theorem oct_digit : ∀ c : UInt8, (!isOCT_STRING c || digitBelow 8 c) = true :=
  forall_byte _ (by simp only [isOCT_STRING_eq]; decide +kernel)

theorem isEND_HEX_STRING_compl (c : UInt8) : isEND_HEX_STRING c = !(isSPC c || isHEX c) := by
  simp only [isEND_HEX_STRING_eq, isSPC_eq, isHEX_eq, Bool.or_assoc]

theorem natOfDigits_some (base : Nat) : ∀ (bs : Bytes) (acc : Nat),
    (∀ c ∈ bs, digitBelow base c = true) → ∃ v, natOfDigits base bs acc = some v
  | [], acc, _ => ⟨acc, rfl⟩
  | c :: t, acc, h => by
    have hc := h c (by simp)
    unfold digitBelow at hc
    simp only [natOfDigits]
    split at hc
    · rename_i d hd
      have hlt : d < base := by simpa using hc
      simp only [hd, hlt, if_true]
      exact natOfDigits_some base t _ (fun x hx => h x (by simp [hx]))
    · simp at hc

theorem natOfDigits_bound (base : Nat) : ∀ (bs : Bytes) (acc v : Nat),
    natOfDigits base bs acc = some v → v < (acc + 1) * base ^ bs.length
  | [], acc, v, h => by simp [natOfDigits] at h; subst h; simp
  | c :: t, acc, v, h => by
    simp only [natOfDigits] at h
    split at h
    · rename_i d hd
      split at h
      · have := natOfDigits_bound base t _ v h
        rw [List.length_cons, Nat.pow_succ', ← Nat.mul_assoc]
        exact Nat.lt_of_lt_of_le this (Nat.mul_le_mul_right _ (by rw [Nat.add_mul]; omega))
      · simp at h
    · simp at h

/-- What the scanners maintain about `hex`, `oct` and the token of a hexadecimal string, so that the
    primitives that can raise do not.  `wopen`: `_parse_wopen` hands its `_curtoken` to `_parse_hexstring`
    without resetting it, so `hexstr` holds there only because that token is still empty. -/
structure Inv (st : St) : Prop where
  hex : ∀ c ∈ st.hex, isHEX c = true
  hexLen : st.hex.length ≤ 2
  oct : ∀ c ∈ st.oct, isOCT_STRING c = true
  hexstr : st.mode = .hexstring → ∀ c ∈ st.cur, isEND_HEX_STRING c = false
  wopen : st.mode = .wopen → st.cur = []

theorem inv_init : Inv St.init := by
  constructor <;> simp [St.init]

def isErr : Token → Bool
  | .err _ => true
  | _ => false

def NoErr (ts : List PTok) : Prop := ∀ t ∈ ts, isErr t.2 = false

theorem noErr_nil : NoErr [] := by simp [NoErr]

theorem noErr_append {a b : List PTok} (ha : NoErr a) (hb : NoErr b) : NoErr (a ++ b) :=
  List.forall_mem_append.mpr ⟨ha, hb⟩

theorem digitVal_of_hex {c : UInt8} (h : isHEX c = true) : ∃ d, digitVal c = some d := by
  cases hd : digitVal c with
  | some d => exact ⟨d, rfl⟩
  | none => simpa [h, digitBelow, hd] using hex_digit c

theorem hexPairs_some : ∀ (bs : Bytes), (∀ c ∈ bs, isHEX c = true) → ∃ r, hexPairs bs = some r
  | [], _ => ⟨[], rfl⟩
  | [a], h => by
    obtain ⟨d, hd⟩ := digitVal_of_hex (h a (by simp))
    simp only [hexPairs, hd]
    split <;> exact ⟨_, rfl⟩
  | a :: b :: t, h => by
    obtain ⟨x, hx⟩ := digitVal_of_hex (h a (by simp))
    obtain ⟨y, hy⟩ := digitVal_of_hex (h b (by simp))
    obtain ⟨r, hr⟩ := hexPairs_some t (fun c hc => h c (by simp [hc]))
    simp only [hexPairs, h a (by simp), h b (by simp), Bool.and_self, if_true, hx, hy, hr]
    exact ⟨_, rfl⟩

theorem pyIntBase_some (base : Nat) (bs : Bytes) (hne : bs.isEmpty = false)
    (hd : ∀ c ∈ bs, digitBelow base c = true) : ∃ v, pyIntBase base bs = some v ∧ v < base ^ bs.length := by
  obtain ⟨v, hv⟩ := natOfDigits_some base bs 0 hd
  exact ⟨v, by simp [pyIntBase, hne, hv], by simpa using natOfDigits_bound base bs 0 v hv⟩

/-- `bytes((int(self.hex, 16),))` does not raise: at most two hexadecimal digits. -/
theorem literalHex_ok (st : St) (hi : Inv st) (hne : st.hex.isEmpty = false) :
    ∃ v, pyIntBase 16 st.hex = some v ∧ v < 256 := by
  obtain ⟨v, hv, hlt⟩ := pyIntBase_some 16 st.hex hne (fun c hc => by simpa [hi.hex c hc] using hex_digit c)
  exact ⟨v, hv, Nat.lt_of_lt_of_le hlt (Nat.pow_le_pow_right (by omega) hi.hexLen)⟩

theorem oct_ok (st : St) (hi : Inv st) (hne : st.oct.isEmpty = false) : ∃ v, pyIntBase 8 st.oct = some v := by
  obtain ⟨v, hv, -⟩ := pyIntBase_some 8 st.oct hne (fun c hc => by simpa [hi.oct c hc] using oct_digit c)
  exact ⟨v, hv⟩

theorem hexstring_ok (st : St) (hi : Inv st) (hm : st.mode = .hexstring) :
    ∃ r, hexPairs (st.cur.filter (fun c => !isSPC c)) = some r := by
  apply hexPairs_some
  intro c hc
  obtain ⟨hcur, hs⟩ := List.mem_filter.mp hc
  have hs : isSPC c = false := by simpa using hs
  simpa [isEND_HEX_STRING_compl, hs] using hi.hexstr hm c hcur

def Hit.Ok (h : Hit) : Prop := Inv h.st ∧ NoErr h.toks

/-- Each hypothesis has a default proof that closes it when the hit is a record written out, so a branch of
    `hit_ok` that leaves `hex` and `oct` alone and goes neither to `_parse_hexstring` nor, with a token, to
    `_parse_wopen` is `hi.frame _`. -/
theorem Inv.frame {st : St} (hi : Inv st) (h : Hit) (hhex : h.st.hex = st.hex := by rfl)
    (hoct : h.st.oct = st.oct := by rfl) (hm : h.st.mode ≠ .hexstring := by simp [*])
    (hw : h.st.mode = .wopen → h.st.cur = [] := by simp [*])
    (ht : NoErr h.toks := by simp [NoErr, emit, isErr]) : h.Ok :=
  ⟨⟨hhex ▸ hi.hex, hhex ▸ hi.hexLen, hoct ▸ hi.oct, fun h => absurd h hm, hw⟩, ht⟩

/-- Nearly every branch is covered by `Inv.frame`; the others are the digit appended to `hex` or `oct`,
    the primitives that can raise (they do not: `literalHex_ok`, `oct_ok`, `hexstring_ok`), and
    `_parse_wopen` handing its empty token to `_parse_hexstring`. -/
theorem hit_ok (st : St) (c : UInt8) (j : Nat) (hi : Inv st) : (atHit st c j).Ok := by
  unfold atHit
  cases hm : st.mode <;> simp only
  · unfold parseMainHit
    repeat' apply iteInduction <;> intro _
    all_goals exact hi.frame _
  · unfold parseCommentHit; exact hi.frame _
  · unfold parseLiteralHit
    apply iteInduction <;> intro _
    · exact ⟨⟨by simp, by simp, hi.oct, by simp, by simp⟩, noErr_nil⟩
    · exact hi.frame _
  · unfold parseLiteralHexHit
    repeat' apply iteInduction <;> intro _
    · rename_i hc
      simp only [Bool.and_eq_true, decide_eq_true_eq] at hc
      exact ⟨⟨List.forall_mem_append.mpr ⟨hi.hex, by simpa using hc.1⟩, by simp; omega, hi.oct, by simp [hm], by simp [hm]⟩, noErr_nil⟩
    · exact hi.frame _
    · rename_i hne
      obtain ⟨v, hv, hlt⟩ := literalHex_ok st hi (by simpa using hne)
      simp only [hv, hlt, if_true]
      exact hi.frame _
  · unfold parseNumberHit
    apply iteInduction <;> intro _
    · exact hi.frame _
    · cases pyInt st.cur <;> exact hi.frame _
  · unfold parseFloatHit
    cases pyFloatOk st.cur <;> exact hi.frame _
  · refine hi.frame _ rfl rfl (by simp [parseKeywordHit]) (by simp [parseKeywordHit]) ?_
    simp only [parseKeywordHit, NoErr, emit, List.mem_singleton, forall_eq]
    split
    · rfl
    · split <;> rfl
  · unfold parseStringHit
    repeat' apply iteInduction <;> intro _
    · exact ⟨⟨hi.hex, hi.hexLen, by simp, by simp, by simp⟩, noErr_nil⟩
    · exact hi.frame _
    · exact hi.frame _
    · exact hi.frame _ (by simp [apply_ite St.hex]) (by simp [apply_ite St.oct])
  · unfold parseString1Hit
    repeat' apply iteInduction <;> intro _
    · rename_i hc
      simp only [Bool.and_eq_true, decide_eq_true_eq] at hc
      exact ⟨⟨hi.hex, hi.hexLen, List.forall_mem_append.mpr ⟨hi.oct, by simpa using hc.1⟩, by simp [hm], by simp [hm]⟩, noErr_nil⟩
    · rename_i hne
      obtain ⟨v, hv⟩ := oct_ok st hi (by simpa using hne)
      simp only [hv]
      exact hi.frame _
    · split
      · exact hi.frame _
      · repeat' apply iteInduction <;> intro _
        all_goals exact hi.frame _
  · unfold parseString2Hit; exact hi.frame _
  · unfold parseWopenHit
    apply iteInduction <;> intro _
    · exact hi.frame _
    · exact ⟨⟨hi.hex, hi.hexLen, hi.oct, by simp [hi.wopen hm], by simp⟩, noErr_nil⟩
  · unfold parseWcloseHit
    apply iteInduction <;> intro _ <;> exact hi.frame _
  · obtain ⟨r, hr⟩ := hexstring_ok st hi hm
    simp only [parseHexstringHit, hr]
    exact hi.frame _
  · exact ⟨hi, noErr_nil⟩

theorem accum_inv (st : St) (c : UInt8) (hi : Inv st) (hs : stopsAt st.mode c = false) : Inv (accum st [c]) := by
  unfold accum
  split
  · exact hi
  · refine ⟨hi.hex, hi.hexLen, hi.oct, fun hm => ?_, fun hm => ?_⟩ <;> simp only at hm <;> rw [hm] at hs
    · exact List.forall_mem_append.mpr ⟨hi.hexstr hm, by simpa [stopsAt, searchClass] using hs⟩
    · simp [stopsAt, searchClass] at hs

theorem stepN_ok : ∀ (n : Nat) (st : St) (c : UInt8) (pos : Nat), Inv st →
    Inv (stepN n st c pos).1 ∧ NoErr (stepN n st c pos).2
  | 0, st, c, pos, hi => ⟨hi, noErr_nil⟩
  | n + 1, st, c, pos, hi => by
    have hh := hit_ok st c pos hi
    have ih := stepN_ok n (atHit st c pos).st c pos hh.1
    rw [stepN_succ]
    split
    · split
      · exact hh
      · exact ⟨ih.1, noErr_append hh.2 ih.2⟩
    · rename_i hs
      exact ⟨accum_inv st c hi (by simpa using hs), noErr_nil⟩

theorem foldBytes_ok : ∀ (bytes : Bytes) (st : St) (pos : Nat), Inv st →
    Inv (foldBytes st bytes pos).1 ∧ NoErr (foldBytes st bytes pos).2
  | [], st, pos, hi => ⟨hi, noErr_nil⟩
  | c :: t, st, pos, hi => by
    have h1 := stepN_ok 3 st c pos hi
    have h2 := foldBytes_ok t (stepByte st c pos).1 (pos + 1) h1.1
    simp only [foldBytes]
    exact ⟨h2.1, noErr_append h1.2 h2.2⟩

end PdfVerif.Lexer
