/-
Lemmas for C10: digest lengths through the revision-6 hash loop, PKCS#7 unpadding as a total
function (well-formed and malformed padding), the crypt-filter map built by `init_params`, and
`_initialize_password` in two steps.  For the last, the file defines `initParams` (everything
`openHandler` does before it reads the password) and `authenticateCls` (the `authenticate` of the
class chosen); `openHandler_eq` shows that `openHandler` is the one followed by the other, and the
theorems about opening a document go through these two instead of `openHandler`'s nested branches.
-/
import PdfVerif.Lemmas.Crypt

namespace PdfVerif.Crypt
open PdfVerif PdfVerif.CryptWriter PdfVerif.Gen.Crypt

theorem r6Loop_length (P : Prims)
    (h256 : ∀ x, (P.sha256 x).length = 32) (h384 : ∀ x, (P.sha384 x).length = 48)
    (h512 : ∀ x, (P.sha512 x).length = 64) (pw vec : Bytes) (fuel round last : Nat) (k r : Bytes)
    (hk : 32 ≤ k.length) (h : r6Loop P pw vec fuel round last k = some r) : r.length = 32 := by
  fun_induction r6Loop P pw vec fuel round last k with
  | case1 => cases h
  | case2 fuel round last k _ _ e m k' ih =>
    refine ih ?_ h
    unfold k'
    split
    · rw [h256]; omega
    · split
      · rw [h384]; omega
      · rw [h512]; omega
  | case3 =>
    cases h
    rw [List.length_take]
    omega

/-- every well-formed padding (`n` bytes of value `n`, `1 ≤ n ≤ 16`, after ANY data - not only the
    `n` that makes the length a multiple of 16) is removed -/
theorem unpadAes_wellformed (d : Bytes) (n : Nat) (h1 : 1 ≤ n) (h16 : n ≤ 16) :
    unpadAes (d ++ List.replicate n (UInt8.ofNat n)) = d := by
  have hb : (UInt8.ofNat n).toNat = n := by
    simp [UInt8.toNat_ofNat']; omega
  have hlast : (d ++ List.replicate n (UInt8.ofNat n)).getLast? = some (UInt8.ofNat n) := by
    cases n with
    | zero => omega
    | succ m => simp [List.replicate_succ', ← List.append_assoc]
  unfold unpadAes UNPAD_MIN UNPAD_MAX
  rw [hlast]
  simp only [hb, List.length_append, List.length_replicate, Nat.add_sub_cancel, List.drop_left, List.take_left]
  exact if_pos ⟨h1, h16, Nat.le_add_left _ _, trivial⟩

theorem unpad_pad (d : Bytes) : unpadAes (pkcs7Pad d) = d :=
  unpadAes_wellformed d _ (by omega) (by omega)

theorem unpadAes_cases (p : Bytes) :
    unpadAes p = p ∨ ∃ n, 1 ≤ n ∧ n ≤ 16 ∧
      p.drop (p.length - n) = List.replicate n (UInt8.ofNat n) ∧ unpadAes p = p.take (p.length - n) := by
  fun_cases unpadAes p with
  | case1 => exact .inl rfl
  | case2 b _ n hc => exact .inr ⟨n, hc.1, hc.2.1, by rw [UInt8.ofNat_toNat]; exact hc.2.2.2, rfl⟩
  | case3 => exact .inl rfl

/-- malformed padding (last byte 0 or above 16, longer than the data, or not repeated): the data
    is returned unchanged -/
theorem unpadAes_malformed (p : Bytes)
    (h : ¬ ∃ d n, 1 ≤ n ∧ n ≤ 16 ∧ p = d ++ List.replicate n (UInt8.ofNat n)) : unpadAes p = p := by
  rcases unpadAes_cases p with h' | ⟨n, h1, h16, hd, _⟩
  · exact h'
  · exact absurd ⟨_, n, h1, h16, by rw [← hd, List.take_append_drop]⟩ h

theorem unpadAes_prefix (p : Bytes) : unpadAes p <+: p := by
  rcases unpadAes_cases p with h | ⟨n, _, _, _, h⟩ <;> rw [h]
  · exact List.prefix_refl _
  · exact List.take_prefix _ _

theorem unpadAes_length (p : Bytes) :
    (unpadAes p).length ≤ p.length ∧ p.length ≤ (unpadAes p).length + 16 := by
  rcases unpadAes_cases p with h | ⟨n, _, _, _, h⟩ <;> rw [h]
  · omega
  · rw [List.length_take]; omega

/-- `get_cfm` as regenerated from pdfdocument.py: V4 knows V2 (RC4) and AESV2, V5 knows AESV3,
    everything else is refused.  An edit of either if/elif chain breaks this proof. -/
theorem getCfm_eq (cls : Nat) (name : Bytes) :
    getCfm cls name =
      if cls = 4 then
        if name = nameV2 then some .rc4 else if name = nameAESV2 then some .aes128 else none
      else
        if name = nameAESV3 then some .aes256 else none := by
  unfold getCfm
  -- `lookup` asks `key = name`, the statement `name = key`
  simp only [nameV2, nameAESV2, nameAESV3, eq_comm (a := name)]
  repeat' split
  all_goals simp [GET_CFM_V4, GET_CFM_V5, lookup, methodOfPy, *]

theorem getCfm_some {cls : Nat} {name : Bytes} {m : Method} (h : getCfm cls name = some m) :
    (cls = 4 ∧ (m = .rc4 ∨ m = .aes128)) ∨ (¬ cls = 4 ∧ m = .aes256) := by
  rw [getCfm_eq] at h
  repeat' split at h
  all_goals simp_all

theorem lookup_mem {α : Type} (k : Bytes) (l : List (Bytes × α)) (v : α) (h : lookup k l = some v) :
    (k, v) ∈ l := by
  fun_induction lookup k l with
  | case1 => cases h
  | case2 => cases h; exact List.mem_cons_self
  | case3 _ _ _ _ ih => exact List.mem_cons_of_mem _ (ih h)

theorem buildCfm_methods (cls : Nat) (cf : List (Bytes × Bytes)) (ms : List (Bytes × Method))
    (h : buildCfm cls cf = .ok ms) (km : Bytes × Method) (hkm : km ∈ ms) : ∃ name, getCfm cls name = some km.2 := by
  fun_induction buildCfm cls cf generalizing ms with
  | case1 => cases h; cases hkm
  | case2 => cases h
  | case3 => cases h
  | case4 k v rest m hm ms' hms' ih =>
    cases h
    rcases List.mem_cons.mp hkm with rfl | hin
    · exact ⟨v, hm⟩
    · exact ih ms' hms' (List.mem_filter.mp hin).1

theorem lookup_cfm_method {cls : Nat} {cf : List (Bytes × Bytes)} {ms : List (Bytes × Method)}
    (hb : buildCfm cls cf = .ok ms) {k : Bytes} {m : Method}
    (hl : lookup k (ms.filter (fun km => km.1 ≠ nameIdentity) ++ [(nameIdentity, Method.identity)]) = some m) :
    m = .identity ∨ (cls = 4 ∧ (m = .rc4 ∨ m = .aes128)) ∨ (¬ cls = 4 ∧ m = .aes256) := by
  rcases List.mem_append.mp (lookup_mem _ _ _ hl) with h | h
  · obtain ⟨name, hn⟩ := buildCfm_methods cls cf ms hb _ (List.mem_filter.mp h).1
    exact Or.inr (getCfm_some hn)
  · exact Or.inl (Prod.mk.inj (List.mem_singleton.mp h)).2

def initParams (prm : Params) : Except Err Handler :=
  if ¬ prm.filterStandard then .error .encryption else
  match openHandler.lookup' prm.v HANDLER_REGISTRY with
  | none => .error .encryption
  | some cls =>
    if cls = 1 then
      if prm.r ∉ SUPPORTED_REVISIONS_BASE then .error .encryption
      else .ok { cls := 1, r := prm.r, p := uintValue32 prm.p, length := prm.length, key := [] }
    else
      if prm.stmf ≠ prm.strf then .error .encryption else
      match buildCfm cls prm.cf with
      | .error e => .error e
      | .ok ms =>
        let cfm := ms.filter (fun km => km.1 ≠ nameIdentity) ++ [(nameIdentity, Method.identity)]
        if (lookup prm.strf cfm).isNone then .error .encryption else
        if cls = 4 then
          if prm.r ∉ SUPPORTED_REVISIONS_V4 then .error .encryption
          else .ok { cls := 4, r := prm.r, p := uintValue32 prm.p, length := FORCED_LENGTH_V4, key := [],
                     cfm := cfm, strf := prm.strf, encryptMetadata := prm.encryptMetadata }
        else
          if prm.r ∉ SUPPORTED_REVISIONS_V5 then .error .encryption
          else .ok { cls := 5, r := prm.r, p := uintValue32 prm.p, length := FORCED_LENGTH_V5, key := [],
                     cfm := cfm, strf := prm.strf, encryptMetadata := prm.encryptMetadata }

def authenticateCls (P : Prims) (prm : Params) (s : Handler) (pw : List Nat) : Except Err Bytes :=
  if s.cls = 5 then authenticate56 P prm pw else authenticate234 P prm s.length s.p pw

theorem ite_bind_congr {α β : Type} {c : Prop} [Decidable c] {x x' : Except Err β} {y y' : Except Err α}
    {f : α → Except Err β} (h : x = y.bind f) (h' : x' = y'.bind f) :
    (if c then x else x') = (if c then y else y').bind f := by
  split <;> assumption

theorem openHandler_eq (P : Prims) (prm : Params) (pw : List Nat) :
    openHandler P prm pw =
      (initParams prm).bind fun s => (authenticateCls P prm s pw).map fun key => { s with key := key } := by
  unfold openHandler initParams
  refine ite_bind_congr rfl ?_
  cases openHandler.lookup' prm.v HANDLER_REGISTRY with
  | none => rfl
  | some cls =>
    refine ite_bind_congr (ite_bind_congr rfl ?_) (ite_bind_congr rfl ?_)
    · show _ = (authenticate234 P prm prm.length (uintValue32 prm.p) pw).map _
      cases authenticate234 P prm prm.length (uintValue32 prm.p) pw <;> rfl
    · cases buildCfm cls prm.cf with
      | error e => rfl
      | ok ms =>
        refine ite_bind_congr rfl (ite_bind_congr (ite_bind_congr rfl ?_) (ite_bind_congr rfl ?_))
        · show _ = (authenticate234 P prm FORCED_LENGTH_V4 (uintValue32 prm.p) pw).map _
          cases authenticate234 P prm FORCED_LENGTH_V4 (uintValue32 prm.p) pw <;> rfl
        · show _ = (authenticate56 P prm pw).map _
          cases authenticate56 P prm pw <;> rfl

theorem openHandler_of_initParams (P : Prims) {prm : Params} {s : Handler} (hs : initParams prm = .ok s)
    {pw : List Nat} {r : Except Err Bytes} (ha : authenticateCls P prm s pw = r) :
    openHandler P prm pw = r.map fun key => { s with key := key } := by
  rw [openHandler_eq, hs, ← ha]; rfl

theorem openHandler_ok {P : Prims} {prm : Params} {pw : List Nat} {h : Handler}
    (ho : openHandler P prm pw = .ok h) :
    ∃ s, initParams prm = .ok s ∧ authenticateCls P prm s pw = .ok h.key ∧
      h = { s with key := h.key } := by
  rw [openHandler_eq] at ho
  cases hs : initParams prm with
  | error e => rw [hs] at ho; cases ho
  | ok s =>
    rw [hs] at ho
    change (authenticateCls P prm s pw).map _ = _ at ho
    cases ha : authenticateCls P prm s pw <;> rw [ha] at ho <;> cases ho
    exact ⟨s, rfl, ha, rfl⟩

theorem openHandler_eq_of_key {P : Prims} {prm : Params} {pw pw' : List Nat} {h h' : Handler}
    (ho : openHandler P prm pw = .ok h) (ho' : openHandler P prm pw' = .ok h') (hk : h.key = h'.key) :
    h = h' := by
  obtain ⟨s, hs, _, e⟩ := openHandler_ok ho
  obtain ⟨s', hs', _, e'⟩ := openHandler_ok ho'
  cases hs.symm.trans hs'
  rw [e, e', hk]

theorem initParams_base {prm : Params} (hf : prm.filterStandard = true) (hv : prm.v = 1 ∨ prm.v = 2)
    (hr : prm.r = 2 ∨ prm.r = 3) :
    initParams prm = .ok { cls := 1, r := prm.r, p := uintValue32 prm.p, length := prm.length, key := [] } := by
  rcases hv with h1 | h1 <;> rcases hr with h2 | h2 <;>
    simp [initParams, hf, h1, h2, HANDLER_REGISTRY, openHandler.lookup', SUPPORTED_REVISIONS_BASE]

/-- `/V 4` or `5` with StmF and StrF naming the one crypt filter `name`, whose CFM `get_cfm` maps to `m`; for
    `m` = Identity no crypt filter at all and `/Identity` for both: one method throughout the document. -/
theorem initParams_filter {base : Params} {cls : Nat} {name cfmN : Bytes} {m : Method}
    (hf : base.filterStandard = true)
    (hv : cls = 4 ∧ base.v = 4 ∧ base.r = 4 ∨ cls = 5 ∧ base.v = 5 ∧ (base.r = 5 ∨ base.r = 6))
    (hn : name ≠ nameIdentity) (hm : m = .identity ∨ getCfm cls cfmN = some m) :
    initParams { base with cf := if m = .identity then [] else [(name, cfmN)],
                           stmf := if m = .identity then nameIdentity else name,
                           strf := if m = .identity then nameIdentity else name } =
      .ok { cls := cls, r := base.r, p := uintValue32 base.p,
            length := if cls = 4 then FORCED_LENGTH_V4 else FORCED_LENGTH_V5, key := [],
            cfm := (if m = .identity then [] else [(name, m)]) ++ [(nameIdentity, .identity)],
            strf := if m = .identity then nameIdentity else name,
            encryptMetadata := base.encryptMetadata } := by
  have hm : m ≠ .identity → getCfm cls cfmN = some m := hm.resolve_left
  by_cases hid : m = .identity <;> rcases hv with ⟨rfl, hv, hr⟩ | ⟨rfl, hv, hr | hr⟩ <;>
    simp [initParams, hf, hv, hr, hid, hm, hn, HANDLER_REGISTRY, openHandler.lookup', SUPPORTED_REVISIONS_V4,
      SUPPORTED_REVISIONS_V5, buildCfm, lookup]

theorem initParams_method {prm : Params} {s : Handler} (hs : initParams prm = .ok s) :
    (s.cls = 1 ∨ s.cls = 4 ∨ s.cls = 5) ∧
    (s.cls ≠ 1 → ∃ m, lookup s.strf s.cfm = some m ∧
      (m = .identity ∨ (s.cls = 4 ∧ (m = .rc4 ∨ m = .aes128)) ∨ (s.cls = 5 ∧ m = .aes256))) := by
  revert hs
  -- `initParams` accepts in three places (class 1, 4, 5); everywhere else it refuses
  fun_cases initParams prm with
  | case4 => rintro ⟨⟩; exact ⟨.inl rfl, fun h => absurd rfl h⟩
  | case9 _ _ ms cfm hl _ _ _ hb =>
    rintro ⟨⟩
    obtain ⟨m, hm⟩ := Option.ne_none_iff_exists'.mp (mt Option.isNone_iff_eq_none.mpr hl)
    exact ⟨.inr (.inl rfl), fun _ => ⟨m, hm, by simpa using lookup_cfm_method hb hm⟩⟩
  | case11 _ cls _ _ _ ms hb cfm hl h4 =>
    rintro ⟨⟩
    obtain ⟨m, hm⟩ := Option.ne_none_iff_exists'.mp (mt Option.isNone_iff_eq_none.mpr hl)
    exact ⟨.inr (.inr rfl), fun _ => ⟨m, hm, by simpa [h4] using lookup_cfm_method hb hm⟩⟩
  | _ => rintro ⟨⟩

end PdfVerif.Crypt
