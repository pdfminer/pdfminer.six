/-
Lemmas for C04 on arbitrary object graphs (cycles, shared and repeated kids, dangling
references, direct dictionaries in Kids): the visited set and the pages yielded, termination of the
walk and of `resolve1`'s loop, inheritance along the chain of the first visit.
-/
import PdfVerif.Lemmas.PageTree

namespace PdfVerif.PageTree
open PdfVerif PdfVerif.Gen.PageTree

def unvisited (nodes vis : List Nat) : Nat := (nodes.filter (fun n => !vis.contains n)).length

theorem filter_length_mono {α : Type} (p q : α → Bool) (hpq : ∀ x, p x = true → q x = true) (l : List α) :
    (l.filter p).length ≤ (l.filter q).length := by
  rw [← List.countP_eq_length_filter, ← List.countP_eq_length_filter]
  exact List.countP_mono_left fun x _ => hpq x

theorem filter_length_lt {α : Type} (p q : α → Bool) (hpq : ∀ x, p x = true → q x = true) (l : List α)
    (h : ∃ a ∈ l, q a = true ∧ p a = false) : (l.filter p).length < (l.filter q).length := by
  obtain ⟨a, ha, hqa, hpa⟩ := h
  have e : l.filter p = (l.filter q).filter p := by
    rw [List.filter_filter]
    exact List.filter_congr fun x _ => by cases hp : p x <;> simp [hpq x, hp]
  rw [e]
  exact List.length_filter_lt_length_iff_exists.mpr ⟨a, List.mem_filter.mpr ⟨ha, hqa⟩, by simp [hpa]⟩

theorem unvisited_mono (nodes new vis : List Nat) : unvisited nodes (new ++ vis) ≤ unvisited nodes vis := by
  refine filter_length_mono _ _ (fun n hn => ?_) nodes
  simp only [List.contains_eq_mem, List.mem_append, Bool.not_eq_true', decide_eq_false_iff_not, not_or] at hn ⊢
  exact hn.2

theorem unvisited_cons_lt (nodes vis : List Nat) (id : Nat) (hin : id ∈ nodes) (hid : id ∉ vis) :
    unvisited nodes (id :: vis) < unvisited nodes vis := by
  refine filter_length_lt _ _ (fun n hn => ?_) nodes ⟨id, hin, by simpa using hid, by simp⟩
  simp only [List.contains_eq_mem, List.mem_cons, Bool.not_eq_true', decide_eq_false_iff_not, not_or] at hn ⊢
  exact hn.2

theorem unvisited_le (g : Store) (vis : List Nat) : unvisited (g.map Prod.fst) vis ≤ g.length := by
  have := List.length_filter_le (fun n => !vis.contains n) (g.map Prod.fst)
  rwa [List.length_map] at this

theorem get_some_mem_keys (g : Store) (n : Nat) (h : g.get n ≠ none) : n ∈ g.map Prod.fst := by
  obtain ⟨p, hp, hk⟩ := List.lookup_isSome_iff.mp (Option.isSome_iff_ne_none.mpr h)
  exact List.mem_map.mpr ⟨p, hp, (beq_iff_eq.mp hk).symm⟩

theorem resolveAux_total (g : Store) : ∀ fuel seen v,
    unvisited (g.map Prod.fst) seen < fuel → resolveAux g fuel seen v ≠ none := by
  intro fuel seen v
  fun_induction resolveAux g fuel seen v
  case case3 seen n hs v' hget f ih =>
    intro hlt
    have hn : n ∈ g.map Prod.fst := get_some_mem_keys g n (by rw [hget]; nofun)
    have hdec := unvisited_cons_lt (g.map Prod.fst) seen n hn (by simpa using hs)
    exact ih (by omega)
  all_goals nofun

/-- One step along Kids between object numbers. -/
def Edge (g : Store) (a b : Nat) : Prop := ∃ k ∈ kidsOf g a, kidId k = some b

inductive Reach (g : Store) : Nat → Nat → Prop
  | refl (a : Nat) : Reach g a a
  | step {a b c : Nat} : Reach g a b → Edge g b c → Reach g a c

/-- Invariant of every (partial) walk started with visited set `vis`: the visited set only grows at
the front (`new`) and stays duplicate-free, and the pages with an object number that were yielded are
exactly the newly visited Page nodes in visiting order. -/
def WalkInv (g : Store) (w : Walk) (vis : List Nat) : Prop :=
  ∃ new, w.visited = new ++ vis ∧ (vis.Nodup → (new ++ vis).Nodup) ∧
    w.pages.filterMap (·.id) = new.reverse.filter (isPageNode g)

theorem walkKids_inv (g : Store) (visitOne : Elem → Dict → List Nat → Walk)
    (hv : ∀ k P vis, WalkInv g (visitOne k P vis) vis) :
    ∀ ks P vis, WalkInv g (walkKids visitOne ks P vis) vis := by
  intro ks P vis
  fun_induction walkKids visitOne ks P vis with
  | case1 => exact ⟨[], rfl, fun h => h, rfl⟩
  | case2 k _ P vis => exact hv k P vis
  | case3 k _ P vis w1 _ w2 ih =>
    obtain ⟨new1, hv1, hn1, hp1⟩ : WalkInv g w1 vis := hv k P vis
    obtain ⟨new2, hv2, hn2, hp2⟩ : WalkInv g w2 w1.visited := ih
    refine ⟨new2 ++ new1, hv2.trans (by rw [hv1, List.append_assoc]), fun h => ?_, ?_⟩
    · rw [List.append_assoc, ← hv1]; exact hn2 (hv1 ▸ hn1 h)
    · simp only [List.filterMap_append, List.reverse_append, List.filter_append, hp1, hp2]

theorem visit_inv (g : Store) : ∀ fuel kid P vis, WalkInv g (visit g fuel kid P vis) vis := by
  intro fuel
  induction fuel with
  | zero =>
    intro kid P vis
    exact ⟨[], rfl, fun h => h, rfl⟩
  | succ f ih =>
    intro kid P vis
    refine visit_cases (motive := fun w => WalkInv g w vis) g f kid P vis ?_ ?_ ?_ ?_ ?_
    · exact ⟨[], rfl, fun h => h, rfl⟩
    · intro _ pages hp
      exact ⟨[], rfl, fun h => h, List.filterMap_eq_nil_iff.mpr hp⟩
    · intro _ _ _
      exact ⟨[], rfl, fun h => h, rfl⟩
    · intro id _ hid hpn
      obtain ⟨new, h1, h2, h3⟩ :=
        walkKids_inv g (visit g f) ih (kidsOf g id) (overlay P (nodeDict g id)) (id :: vis)
      have hnp : isPageNode g id = false := by simp [isPageNode, hpn]
      refine ⟨new ++ [id], by simp [h1], fun h => ?_, ?_⟩
      · simpa using h2 (List.nodup_cons.mpr ⟨hid, h⟩)
      · simp only [h3, List.reverse_append, List.reverse_cons, List.reverse_nil, List.nil_append,
          List.singleton_append, List.filter_cons, hnp, Bool.false_eq_true, if_false]
    · intro id _ hid _
      refine ⟨[id], rfl, fun h => List.nodup_cons.mpr ⟨hid, h⟩, ?_⟩
      cases h : isPageNode g id <;> simp [h]

theorem visit_from_empty (g : Store) (fuel : Nat) (kid : Elem) (P : Dict) :
    (visit g fuel kid P []).visited.Nodup ∧
    (visit g fuel kid P []).pages.filterMap (·.id) =
      (visit g fuel kid P []).visited.reverse.filter (isPageNode g) ∧
    ((visit g fuel kid P []).pages.filterMap (·.id)).Nodup := by
  obtain ⟨new, h1, h2, h3⟩ := visit_inv g fuel kid P []
  rw [List.append_nil] at h1 h2
  have hn : new.Nodup := h2 List.nodup_nil
  rw [h1, h3]
  exact ⟨hn, rfl, List.filter_sublist.nodup ((List.reverse_perm new).nodup_iff.mpr hn)⟩

theorem walkKids_fuel (g : Store) (nodes : List Nat) (F : Nat) (visitOne : Elem → Dict → List Nat → Walk)
    (hinv : ∀ k P vis, WalkInv g (visitOne k P vis) vis)
    (hfuel : ∀ k P vis, unvisited nodes vis < F → (visitOne k P vis).err ≠ some .fuel) :
    ∀ ks P vis, unvisited nodes vis < F → (walkKids visitOne ks P vis).err ≠ some .fuel := by
  intro ks P vis
  fun_induction walkKids visitOne ks P vis with
  | case1 => nofun
  | case2 k _ P vis => exact hfuel k P vis
  | case3 k _ P vis w1 _ w2 ih =>
    intro hlt
    obtain ⟨new1, hv1, _, _⟩ : WalkInv g w1 vis := hinv k P vis
    exact ih (hv1 ▸ Nat.lt_of_le_of_lt (unvisited_mono nodes new1 vis) hlt)

/-- A missing object resolves to the empty dictionary, which has no Type. -/
theorem isPagesNode_mem_keys (g : Store) (n : Nat) (h : isPagesNode g n = true) : n ∈ g.map Prod.fst := by
  apply get_some_mem_keys
  intro hg
  have : nodeDict g n = [] := by simp [nodeDict, dictValue, resolve, resolveAux, hg]
  simp [isPagesNode, this, nodeType, dget, isName] at h

theorem visit_fuel (g : Store) :
    ∀ fuel kid P vis, unvisited (g.map Prod.fst) vis < fuel → (visit g fuel kid P vis).err ≠ some .fuel := by
  intro fuel
  induction fuel with
  | zero => intro kid P vis h; omega
  | succ f ih =>
    intro kid P vis hlt
    refine visit_cases (motive := fun w => w.err ≠ some .fuel) g f kid P vis ?_ ?_ ?_ ?_ ?_
    · intro h; cases h
    · intro _ _ _ h; cases h
    · intro _ _ _ h; cases h
    · intro id _ hid hpn
      apply walkKids_fuel g (g.map Prod.fst) f (visit g f) (visit_inv g f) ih
      have := unvisited_cons_lt (g.map Prod.fst) vis id (isPagesNode_mem_keys g id hpn) hid
      omega
    · intro _ _ _ _ h; cases h

/-- Object numbers from a node up towards the root, each one a Kids entry of the next. -/
def IsChain (g : Store) : List Nat → Prop
  | [] => True
  | [_] => True
  | a :: b :: rest => Edge g b a ∧ IsChain g (b :: rest)

/-- A yielded page that is an indirect object was reached along a chain of Kids entries from the
entry the walk started at (whose ancestors are `anc`), and its inheritable attributes are its own or
those of the nearest node on that chain that defines them. -/
def PageOK (g : Store) (kid : Elem) (anc : List Nat) (rp : RawPage) : Prop :=
  ∀ p, rp.id = some p → ∃ id chain, kidId kid = some id ∧ chain.head? = some p ∧ id :: anc <:+ chain ∧
    IsChain g chain ∧ ∀ k ∈ INHERITABLE_ATTRS, dget rp.attrs k = inherited (chain.map (nodeDict g)) k

theorem mem_walkKids_pages (visitOne : Elem → Dict → List Nat → Walk) (P : Dict) (rp : RawPage) :
    ∀ ks vis, rp ∈ (walkKids visitOne ks P vis).pages → ∃ k ∈ ks, ∃ vis', rp ∈ (visitOne k P vis').pages := by
  intro ks vis
  fun_induction walkKids visitOne ks P vis with
  | case1 => nofun
  | case2 k _ P vis => exact fun h => ⟨k, List.mem_cons_self, vis, h⟩
  | case3 k _ P vis w1 _ w2 ih =>
    intro h
    rcases List.mem_append.mp h with h1 | h2
    · exact ⟨k, List.mem_cons_self, vis, h1⟩
    · obtain ⟨k', hk', r⟩ := ih h2
      exact ⟨k', List.mem_cons_of_mem _ hk', r⟩

theorem visit_attrs (g : Store) : ∀ fuel kid P anc vis,
    (∀ k ∈ INHERITABLE_ATTRS, dget P k = inherited (anc.map (nodeDict g)) k) →
    (∀ id, kidId kid = some id → IsChain g (id :: anc)) →
    ∀ rp ∈ (visit g fuel kid P vis).pages, PageOK g kid anc rp := by
  intro fuel
  induction fuel with
  | zero => intro kid P anc vis _ _ rp h; cases h
  | succ f ih =>
    intro kid P anc vis hP hch
    refine visit_cases (motive := fun w => ∀ rp ∈ w.pages, PageOK g kid anc rp) g f kid P vis ?_ ?_ ?_ ?_ ?_
    · intro rp h; cases h
    · intro _ pages hp rp hrp p hid
      rw [hp rp hrp] at hid; cases hid
    · intro _ _ _ rp h; cases h
    · intro id hk _ _ rp hrp p hp
      obtain ⟨k, hkk, vis', hrp'⟩ := mem_walkKids_pages _ _ rp _ _ hrp
      obtain ⟨b, chain, hb, hh, hs, hc, ha⟩ := ih k _ (id :: anc) vis'
        (by simpa using overlay_inherits P (nodeDict g id) (anc.map (nodeDict g)) hP)
        (fun b hb => ⟨⟨k, hkk, hb⟩, hch id hk⟩) rp hrp' p hp
      exact ⟨id, chain, hk, hh, (List.suffix_cons b _).trans hs, hc, ha⟩
    · intro id hk _ _ rp hrp p hp
      split at hrp
      · obtain rfl : rp = ⟨some id, overlay P (nodeDict g id)⟩ := by simpa using hrp
        cases hp
        exact ⟨id, id :: anc, hk, rfl, List.suffix_refl _, hch id hk,
          by simpa using overlay_inherits P (nodeDict g id) (anc.map (nodeDict g)) hP⟩
      · cases hrp

end PdfVerif.PageTree
