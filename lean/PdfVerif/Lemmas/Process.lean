/-
C12 — the caching discipline of the process model (`Model/Process.lean`) is observationally pure.
Three facts are carried through the call tree `memo`, `getCMap` / `getUMap`, `buildFont`, `getFont(s)`,
`processPage`, `advance`, `drain` / `extract`, `step`, `run`:
* `_spec`, `_ok`: on valid caches and tables (`CachesOk`, `TablesOk`: every entry is the fresh value of its
  key) an operation returns the fresh value and leaves valid caches and tables behind;
* `_le`: the shared tables only grow (`TLe`);
* `_indep`: what becomes of a handle does not depend on which valid tables it meets;
the last section derives from them that interleaved iterators do not influence one another.
-/
import PdfVerif.Model.Process

namespace PdfVerif.Process

section AssocList
variable {α : Type}

theorem alookup_mem {k : Nat} {v : α} {l : List (Nat × α)} (h : alookup k l = some v) : (k, v) ∈ l := by
  fun_induction alookup k l with
  | case1 => cases h
  | case2 v' rest => cases h; exact List.mem_cons_self
  | case3 k' v' rest hk ih => exact List.mem_cons_of_mem _ (ih h)

theorem alookup_map {β : Type} (f : α → β) (k : Nat) (l : List (Nat × α)) :
    alookup k (l.map fun e => (e.1, f e.2)) = (alookup k l).map f := by
  fun_induction alookup k l with
  | case1 => rfl
  | case2 v rest => exact if_pos rfl
  | case3 k' v rest hk ih => rw [List.map_cons, alookup, if_neg hk, ih]

theorem mem_aset {k : Nat} {v : α} {e : Nat × α} {l : List (Nat × α)} (h : e ∈ aset k v l) :
    e = (k, v) ∨ e ∈ l := by
  fun_induction aset k v l with
  | case1 => exact Or.inl (List.mem_singleton.mp h)
  | case2 v' rest => exact (List.mem_cons.mp h).imp_right (List.mem_cons_of_mem _)
  | case3 k' v' rest hk ih =>
    rcases List.mem_cons.mp h with h | h
    · exact Or.inr (h ▸ List.mem_cons_self)
    · exact (ih h).imp_right (List.mem_cons_of_mem _)

theorem alookup_aset_self (k : Nat) (v : α) (l : List (Nat × α)) : alookup k (aset k v l) = some v := by
  fun_induction aset k v l with
  | case1 => exact if_pos rfl
  | case2 v' rest => exact if_pos rfl
  | case3 k' v' rest hk ih => rw [alookup, if_neg hk, ih]

theorem alookup_aset_ne {k k' : Nat} (v : α) (hne : k' ≠ k) (l : List (Nat × α)) :
    alookup k' (aset k v l) = alookup k' l := by
  fun_induction aset k v l with
  | case1 => exact if_neg hne.symm
  | case2 v' rest => rw [alookup, alookup, if_neg hne.symm, if_neg hne.symm]
  | case3 k₁ v' rest hk ih => rw [alookup, alookup, ih]

theorem alookup_filter_self (k : Nat) (l : List (Nat × α)) :
    alookup k (l.filter (fun e => e.1 != k)) = none := by
  induction l with
  | nil => rfl
  | cons e rest ih =>
    by_cases hk : e.1 = k
    · rw [List.filter_cons, if_neg (fun h => bne_iff_ne.mp h hk), ih]
    · rw [List.filter_cons, if_pos (bne_iff_ne.mpr hk), alookup, if_neg hk, ih]

theorem alookup_filter_ne {k k' : Nat} (hne : k' ≠ k) (l : List (Nat × α)) :
    alookup k' (l.filter (fun e => e.1 != k)) = alookup k' l := by
  induction l with
  | nil => rfl
  | cons e rest ih =>
    by_cases hk : e.1 = k
    · rw [List.filter_cons, if_neg (fun h => bne_iff_ne.mp h hk), ih, alookup, if_neg (hk ▸ hne.symm)]
    · rw [List.filter_cons, if_pos (bne_iff_ne.mpr hk), alookup, alookup, ih]

/-- All cache invariants below have the form "every entry `(k, v)` satisfies `P k v`". -/
theorem forall_entry_nil {β : Type} {P : α → β → Prop} : ∀ k v, (k, v) ∈ ([] : List (α × β)) → P k v :=
  fun _ _ h => absurd h List.not_mem_nil

theorem forall_entry_cons {β : Type} {P : α → β → Prop} {l : List (α × β)} {a : α} {b : β}
    (h : ∀ k v, (k, v) ∈ l → P k v) (hab : P a b) : ∀ k v, (k, v) ∈ (a, b) :: l → P k v := by
  intro k v hm
  rcases List.mem_cons.mp hm with hm | hm
  · cases hm; exact hab
  · exact h k v hm

end AssocList

def CacheOk {α : Type} (fresh : Nat → Option α) (c : List (Nat × α)) : Prop :=
  ∀ k v, (k, v) ∈ c → fresh k = some v

theorem memo_spec {α : Type} (store : Bool) {fresh : Nat → Option α} {c : List (Nat × α)} (k : Nat)
    (h : CacheOk fresh c) :
    (memo store fresh c k).1 = fresh k ∧ CacheOk fresh (memo store fresh c k).2 := by
  fun_cases memo store fresh c k with
  | case1 v hv => exact ⟨(h k v (alookup_mem hv)).symm, h⟩
  | case2 _ hf => exact ⟨hf.symm, h⟩
  | case3 _ v hf =>
    refine ⟨hf.symm, ?_⟩
    cases store
    · exact h
    · exact forall_entry_cons h hf

variable {W : World} {t : Tables}

/-- tables_inv: the encoding tables are the initial ones; every cached CMap / unicode map is what
a fresh load of its name returns -/
def TablesOk (W : World) (t : Tables) : Prop :=
  t.enc = W.encInit ∧ CacheOk W.loadCMap t.cmaps ∧ CacheOk W.loadUMap t.umaps

theorem TablesOk.init (W : World) : TablesOk W ⟨W.encInit, [], []⟩ :=
  ⟨rfl, forall_entry_nil, forall_entry_nil⟩

theorem getCMap_spec (n : Nat) (h : TablesOk W t) :
    (getCMap W t n).1 = W.loadCMap n ∧ TablesOk W (getCMap W t n).2 :=
  have h' := memo_spec true n h.2.1
  ⟨h'.1, h.1, h'.2, h.2.2⟩

theorem getUMap_spec (n : Nat) (h : TablesOk W t) :
    (getUMap W t n).1 = W.loadUMap n ∧ TablesOk W (getUMap W t n).2 :=
  have h' := memo_spec true n h.2.2
  ⟨h'.1, h.1, h.2.1, h'.2⟩

/-- the font a specification denotes, written with fresh loads only -/
def fontPure (W : World) (spec : FontSpec) (src : List (Option Nat)) : Font :=
  let tou := if spec.hasToUnicode then some spec.tounicode else none
  if spec.kind = 0 then
    { kind := 0, enc := getEncoding W.encInit spec.base spec.diffs, tounicode := tou, cmap := none,
      umap := none, src := src }
  else if spec.kind = 1 then
    { kind := 1, enc := [], tounicode := tou, cmap := none, umap := none, src := src }
  else if spec.hasToUnicode then
    { kind := spec.kind, enc := [], tounicode := tou,
      cmap := if spec.kind = 3 then none else W.loadCMap spec.cmap, umap := none, src := src }
  else
    { kind := spec.kind, enc := [], tounicode := tou,
      cmap := if spec.kind = 3 then none else W.loadCMap spec.cmap,
      umap := (W.loadUMap spec.umap).map (fun p => if spec.vertical then p.2 else p.1), src := src }

theorem useCMapEffect_ok (spec : FontSpec) (h : TablesOk W t) : TablesOk W (useCMapEffect W t spec) := by
  fun_cases useCMapEffect W t spec
  · exact (getCMap_spec _ h).2
  · exact h

theorem cmapStep_spec (spec : FontSpec) (h : TablesOk W t) :
    (cmapStep W t spec).1 = (if spec.kind = 3 then none else W.loadCMap spec.cmap) ∧
    TablesOk W (cmapStep W t spec).2 := by
  unfold cmapStep
  split
  · exact ⟨rfl, h⟩
  · exact getCMap_spec _ h

/-- The tables `buildFont` leaves behind are those after one of its three table accesses. -/
theorem buildFont_tables (W : World) (t : Tables) (spec : FontSpec) (src : List (Option Nat)) (P : Tables → Prop)
    (h1 : P (useCMapEffect W t spec)) (h2 : P (cmapStep W (useCMapEffect W t spec) spec).2)
    (h3 : P (getUMap W (cmapStep W (useCMapEffect W t spec) spec).2 spec.umap).2) :
    P (buildFont W t spec src).2 := by
  fun_cases buildFont W t spec src
  · exact h1
  · exact h1
  · exact h2
  · exact h3

theorem buildFont_spec (spec : FontSpec) (src : List (Option Nat)) (h : TablesOk W t) :
    (buildFont W t spec src).1 = fontPure W spec src ∧ TablesOk W (buildFont W t spec src).2 := by
  have h1 := useCMapEffect_ok spec h
  have hc := cmapStep_spec spec h1
  have hu := getUMap_spec spec.umap hc.2
  refine ⟨?_, buildFont_tables W t spec src _ h1 hc.2 hu.2⟩
  -- `buildFont` and `fontPure` branch alike; the encoding tables, the CMap and the unicode map that
  -- `buildFont` is handed are the fresh ones
  fun_cases buildFont W t spec src with
  | case1 _ _ k0 => rw [fontPure, if_pos k0, h1.1]
  | case2 _ _ k0 k1 => rw [fontPure, if_neg k0, if_pos k1]
  | case3 _ _ k0 k1 _ ht => rw [fontPure, if_neg k0, if_neg k1, if_pos ht, hc.1]
  | case4 _ _ k0 k1 _ ht => rw [fontPure, if_neg k0, if_neg k1, if_neg ht, hc.1, hu.1]

theorem fontOf_eq (W : World) (spec : FontSpec) (src : List (Option Nat)) :
    fontOf W spec src = fontPure W spec src :=
  (buildFont_spec spec src (TablesOk.init W)).1

variable {d : DocSpec} {c : Caches}

/-- cache_inv, object part: a cached object has the payload a fresh parse returns -/
def ObjOk (d : DocSpec) (objs : List (Nat × (Nat × Bool))) : Prop :=
  ∀ n v, (n, v) ∈ objs → freshObj d n = some v.1

def PObjOk (d : DocSpec) (pobjs : List (Nat × List (Nat × Nat))) : Prop :=
  ∀ sid l, (sid, l) ∈ pobjs → l = streamObjs d sid

/-- cache_inv, font part: a cached font is the font its object denotes, built from fresh values -/
def FontOk (W : World) (d : DocSpec) (fonts : List (Nat × Font)) : Prop :=
  ∀ n f, (n, f) ∈ fonts → ∃ spec, alookup n d.fontSpecs = some spec ∧
    f = fontPure W spec (freshObj d n :: spec.reads.map (freshObj d))

def CachesOk (W : World) (d : DocSpec) (c : Caches) : Prop :=
  ObjOk d c.objs ∧ PObjOk d c.pobjs ∧ FontOk W d c.fonts ∧ c.busy = []

theorem CachesOk.empty (W : World) (d : DocSpec) : CachesOk W d Caches.empty :=
  ⟨forall_entry_nil, forall_entry_nil, forall_entry_nil, rfl⟩

theorem touch_payload (n : Nat) (l : List (Nat × (Nat × Bool))) :
    (touch n l).map (fun e => (e.1, e.2.1)) = l.map (fun e => (e.1, e.2.1)) := by
  fun_induction touch n l with
  | case1 => rfl
  | case2 v rest => rfl
  | case3 k v rest hk ih => rw [List.map_cons, List.map_cons, ih]

theorem touch_idem (n : Nat) (l : List (Nat × (Nat × Bool))) : touch n (touch n l) = touch n l := by
  fun_induction touch n l with
  | case1 => rfl
  | case2 v rest => exact if_pos rfl
  | case3 k v rest hk ih => rw [touch, if_neg hk, ih]

theorem ObjOk.touch {objs : List (Nat × (Nat × Bool))} (n : Nat) (h : ObjOk d objs) :
    ObjOk d (touch n objs) := by
  intro k v hm
  have hm' := List.mem_map_of_mem (f := fun e => (e.1, e.2.1)) hm
  rw [touch_payload] at hm'
  obtain ⟨e, he, hke⟩ := List.mem_map.mp hm'
  obtain ⟨rfl, hv⟩ := Prod.mk.inj hke
  exact hv ▸ h e.1 e.2 he

theorem pobjsLookup_spec (caching : Bool) {pobjs : List (Nat × List (Nat × Nat))} (sid : Nat)
    (hp : PObjOk d pobjs) :
    (pobjsLookup d caching pobjs sid).1 = streamObjs d sid ∧ PObjOk d (pobjsLookup d caching pobjs sid).2 := by
  unfold pobjsLookup
  split
  · next l hl => exact ⟨hp sid l (alookup_mem hl), hp⟩
  · refine ⟨rfl, ?_⟩
    cases caching
    · exact hp
    · exact forall_entry_cons hp rfl

theorem objsAfterStream_ok (caching : Bool) {objs : List (Nat × (Nat × Bool))} {sid sp : Nat}
    (ho : ObjOk d objs) (hs : freshObj d sid = some sp) : ObjOk d (objsAfterStream caching objs sid sp) := by
  fun_cases objsAfterStream caching objs sid sp
  · exact forall_entry_cons ho hs
  · exact ho.touch sid

theorem freshObj_missing {n : Nat} (h : alookup n d.objs = none) : freshObj d n = none := by
  unfold freshObj; rw [h]

theorem freshObj_direct {n p : Nat} (h : alookup n d.objs = some (.direct p)) : freshObj d n = some p := by
  unfold freshObj; rw [h]

theorem freshObj_dangling {n sid : Nat} (h : alookup n d.objs = some (.danglingIn sid)) :
    freshObj d n = none := by
  unfold freshObj; rw [h]

theorem freshObj_inStream {n sid q sp : Nat} (h : alookup n d.objs = some (.inStream sid q))
    (hs : alookup sid d.objs = some (.direct sp)) : freshObj d n = alookup n (streamObjs d sid) := by
  simp only [freshObj, h, hs]

theorem freshObj_inStream_lost {n sid q : Nat} (h : alookup n d.objs = some (.inStream sid q))
    (hs : ∀ sp, alookup sid d.objs ≠ some (.direct sp)) : freshObj d n = none := by
  -- `simp` discharges the side condition of the fall-through equation of the inner match by `hs`
  simp only [freshObj, h]

/-- fetching and parsing object stream `sid` (the guard is released afterwards) keeps the caches valid -/
theorem fetchStream_ok (caching : Bool) {sid sp : Nat}
    (h : CachesOk W d c) (hs : alookup sid d.objs = some (.direct sp)) :
    CachesOk W d { c with objs := objsAfterStream caching c.objs sid sp,
                          pobjs := (pobjsLookup d caching c.pobjs sid).2 } :=
  ⟨objsAfterStream_ok caching h.1 (freshObj_direct hs), (pobjsLookup_spec caching sid h.2.1).2, h.2.2⟩

theorem readObj_spec (caching : Bool) (n : Nat) (h : CachesOk W d c) :
    (readObj d caching c n).1 = freshObj d n ∧ CachesOk W d (readObj d caching c n).2 := by
  have hbusy : ∀ sid, ¬ c.busy.contains sid = true := fun sid => by rw [h.2.2.2]; exact Bool.false_ne_true
  fun_cases readObj d caching c n with
  | case1 v hv => exact ⟨(h.1 n v (alookup_mem hv)).symm, h.1.touch n, h.2⟩
  | case2 _ hn => exact ⟨(freshObj_missing hn).symm, h⟩
  | case3 _ p hn =>
    refine ⟨(freshObj_direct hn).symm, ?_⟩
    cases caching
    · exact h
    · exact ⟨forall_entry_cons h.1 (freshObj_direct hn), h.2⟩
  | case4 _ sid _ hb => exact absurd hb (hbusy sid)
  | case5 _ sid hn _ sp hs => exact ⟨(freshObj_dangling hn).symm, fetchStream_ok caching h hs⟩
  | case6 _ sid hn => exact ⟨(freshObj_dangling hn).symm, h⟩
  | case7 _ sid _ _ hb => exact absurd hb (hbusy sid)
  | case8 _ sid _ hn _ sp hs hnone =>
    rw [(pobjsLookup_spec caching sid h.2.1).1, ← freshObj_inStream hn hs] at hnone
    exact ⟨hnone.symm, fetchStream_ok caching h hs⟩
  | case9 _ sid _ hn _ sp hs p hp =>
    have hf := fetchStream_ok caching h hs
    rw [(pobjsLookup_spec caching sid h.2.1).1, ← freshObj_inStream hn hs] at hp
    refine ⟨hp.symm, ?_⟩
    cases caching
    · exact hf
    · exact ⟨forall_entry_cons hf.1 hp, hf.2⟩
  | case10 _ sid _ hn _ hs => exact ⟨(freshObj_inStream_lost hn hs).symm, h⟩

theorem readMany_spec (caching : Bool) (ns : List Nat) (h : CachesOk W d c) :
    (readMany d caching c ns).1 = ns.map (freshObj d) ∧ CachesOk W d (readMany d caching c ns).2 := by
  induction ns generalizing c with
  | nil => exact ⟨rfl, h⟩
  | cons n ns ih =>
    obtain ⟨h1, h2⟩ := readObj_spec caching n h
    obtain ⟨i1, i2⟩ := ih h2
    exact ⟨congr (congrArg List.cons h1) i1, i2⟩

theorem freshFont_direct (W : World) (d : DocSpec) (spec : FontSpec) :
    freshFont W d (.direct spec) = some (fontPure W spec (spec.reads.map (freshObj d))) :=
  congrArg some (fontOf_eq W spec _)

theorem freshFont_byId (W : World) {n : Nat} {spec : FontSpec} (h : alookup n d.fontSpecs = some spec) :
    freshFont W d (.byId n) = some (fontPure W spec (freshObj d n :: spec.reads.map (freshObj d))) := by
  simp only [freshFont, h, fontOf_eq]

theorem getFont_spec (caching : Bool) (r : FontRef) (hc : CachesOk W d c) (ht : TablesOk W t) :
    (getFont W d caching c t r).1 = freshFont W d r ∧ CachesOk W d (getFont W d caching c t r).2.1 ∧
    TablesOk W (getFont W d caching c t r).2.2 := by
  fun_cases getFont W d caching c t r with
  | case1 spec rv b =>
    obtain ⟨h1, h2⟩ := readMany_spec caching spec.reads hc
    obtain ⟨b1, b2⟩ := buildFont_spec spec rv.1 ht
    exact ⟨by rw [b1, h1, freshFont_direct], h2, b2⟩
  | case2 n r0 f hf =>
    obtain ⟨_, r2⟩ := readObj_spec caching n hc
    obtain ⟨spec, hs, he⟩ := r2.2.2.1 n f (alookup_mem hf)
    exact ⟨by rw [freshFont_byId W hs, he], r2, ht⟩
  | case3 n r0 _ hs => exact ⟨by simp only [freshFont, hs], (readObj_spec caching n hc).2, ht⟩
  | case4 n r0 _ spec hs rv b =>
    obtain ⟨r1, r2⟩ := readObj_spec caching n hc
    obtain ⟨m1, m2⟩ := readMany_spec caching spec.reads r2
    obtain ⟨b1, b2⟩ := buildFont_spec spec (r0.1 :: rv.1) ht
    have hval : b.1 = fontPure W spec (freshObj d n :: spec.reads.map (freshObj d)) :=
      b1.trans (by rw [r1, m1])
    refine ⟨by rw [freshFont_byId W hs, hval], ?_, b2⟩
    cases caching
    · exact m2
    · exact ⟨m2.1, m2.2.1, forall_entry_cons m2.2.2.1 ⟨spec, hs, hval⟩, m2.2.2.2⟩

theorem getFonts_spec (caching : Bool) (rs : List FontRef) (hc : CachesOk W d c) (ht : TablesOk W t) :
    (getFonts W d caching c t rs).1 = rs.map (freshFont W d) ∧ CachesOk W d (getFonts W d caching c t rs).2.1 ∧
    TablesOk W (getFonts W d caching c t rs).2.2 := by
  induction rs generalizing c t with
  | nil => exact ⟨rfl, hc, ht⟩
  | cons r rs ih =>
    obtain ⟨h1, h2, h3⟩ := getFont_spec caching r hc ht
    obtain ⟨i1, i2, i3⟩ := ih h2 h3
    exact ⟨congr (congrArg List.cons h1) i1, i2, i3⟩

/-- the core lemma: interpreting a page through valid caches and tables yields exactly the page
computed from fresh values, and leaves valid caches and tables behind -/
theorem processPage_spec (caching : Bool) (left : Interp) (pg : PageSpec) (hc : CachesOk W d c)
    (ht : TablesOk W t) :
    (processPage W d caching c t left pg).1 = freshPage W d pg ∧
    CachesOk W d (processPage W d caching c t left pg).2.1 ∧
    TablesOk W (processPage W d caching c t left pg).2.2 := by
  obtain ⟨w1, w2⟩ := readMany_spec caching pg.walk hc
  obtain ⟨f1, f2, f3⟩ := getFonts_spec caching pg.fonts w2 ht
  obtain ⟨r1, r2⟩ := readMany_spec caching pg.reads f2
  simp only [processPage, freshPage, initState]
  exact ⟨by rw [w1, r1, f1, List.map_append], r2, f3⟩

theorem walkRange_ok (caching : Bool) (pos k : Nat) (hc : CachesOk W d c) :
    CachesOk W d (walkRange d caching c pos k) := by
  unfold walkRange
  generalize (d.pages.drop pos).take (k - pos) = l
  induction l generalizing c with
  | nil => exact hc
  | cons pg rest ih => exact ih (readMany_spec caching pg.walk hc).2

def HandleOk (W : World) (h : Handle) : Prop :=
  CachesOk W h.doc h.c ∧ ∀ k, k ∈ h.todo → k < h.doc.pages.length

/-- what `next()` must yield on a handle, in terms of fresh values only -/
def nextSpec (W : World) (h : Handle) : Out :=
  match h.todo with
  | [] => .done
  | k :: _ =>
    match h.doc.pages[k]? with
    | none => .done
    | some pg => .page (freshPage W h.doc pg)

variable {h : Handle}

theorem advance_spec (hh : HandleOk W h) (ht : TablesOk W t) :
    (advance W h t).1 = nextSpec W h ∧ HandleOk W (advance W h t).2.1 ∧ TablesOk W (advance W h t).2.2 ∧
    (advance W h t).2.1.doc = h.doc ∧ (advance W h t).2.1.caching = h.caching ∧
    (advance W h t).2.1.todo = h.todo.tail := by
  obtain ⟨hc, hk⟩ := hh
  cases htodo : h.todo with
  | nil =>
    simp only [advance, nextSpec, htodo]
    exact ⟨trivial, ⟨walkRange_ok _ _ _ hc, fun k hm => by cases hm⟩, ht, trivial, trivial, rfl⟩
  | cons k rest =>
    rw [htodo] at hk
    -- every page number still to do is in range, so the page is there
    have hpg := List.getElem?_eq_getElem (hk k List.mem_cons_self)
    obtain ⟨p1, p2, p3⟩ := processPage_spec h.caching h.interp _ (walkRange_ok h.caching h.pos k hc) ht
    simp only [advance, nextSpec, htodo, hpg]
    exact ⟨congrArg Out.page p1, ⟨p2, fun k' hm => hk k' (List.mem_cons_of_mem _ hm)⟩, p3, trivial, trivial, rfl⟩

theorem drain_spec (fuel : Nat) (hh : HandleOk W h) (ht : TablesOk W t) (hl : h.todo.length < fuel) :
    (drain W fuel h t).1 = h.todo.filterMap (fun k => (h.doc.pages[k]?).map (freshPage W h.doc)) ∧
    TablesOk W (drain W fuel h t).2.2 := by
  induction fuel generalizing h t with
  | zero => exact absurd hl (Nat.not_lt_zero _)
  | succ fuel ih =>
    obtain ⟨a1, a2, a3, a4, _, a6⟩ := advance_spec hh ht
    rw [drain, a1]
    cases htodo : h.todo with
    | nil =>
      simp only [nextSpec, htodo]
      exact ⟨rfl, a3⟩
    | cons k rest =>
      rw [htodo] at a6 hl
      -- the page is there, so `next()` yields it and the rest is drained from the new handle
      have hpg := List.getElem?_eq_getElem (hh.2 k (htodo ▸ List.mem_cons_self))
      obtain ⟨i1, i2⟩ := ih a2 a3 (by rw [a6]; exact Nat.lt_of_succ_lt_succ hl)
      simp only [nextSpec, htodo, hpg]
      refine ⟨?_, i2⟩
      rw [i1, a4, a6]
      simp only [List.filterMap_cons, hpg, Option.map_some, List.tail_cons]

theorem mem_selPages {n k : Nat} {sel : List Nat} (h : k ∈ selPages n sel) : k < n := by
  unfold selPages at h
  split at h
  · exact List.mem_range.mp h
  · exact List.mem_range.mp (List.mem_filter.mp h).1

theorem openHandle_ok (W : World) (d : DocSpec) (caching : Bool) (sel : List Nat) :
    HandleOk W (openHandle d caching sel) :=
  ⟨(readMany_spec caching d.openReads (CachesOk.empty W d)).2, fun _ hk => mem_selPages hk⟩

theorem extract_spec (d : DocSpec) (caching : Bool) (sel : List Nat) (ht : TablesOk W t) :
    (extract W t d caching sel).1 = pagesSpec W d sel ∧ TablesOk W (extract W t d caching sel).2 :=
  drain_spec _ (openHandle_ok W d caching sel) ht (Nat.lt_succ_self _)

/-- Splits `pagesSpec` of a selection into the pages of its members, one at a time. -/
theorem filterMap_eq_flatMap_toList {α β : Type} (f : α → Option β) (l : List α) :
    l.filterMap f = l.flatMap fun a => (f a).toList := by
  induction l with
  | nil => rfl
  | cons a l ih => rw [List.filterMap_cons, List.flatMap_cons, ← ih]; cases f a <;> rfl

def StateOk (W : World) (s : State) : Prop :=
  TablesOk W s.tables ∧ ∀ hid h, (hid, h) ∈ s.handles → HandleOk W h

theorem StateOk.init (W : World) : StateOk W (init W) :=
  ⟨TablesOk.init W, forall_entry_nil⟩

variable {s : State}

theorem step_ok (op : Op) (hs : StateOk W s) : StateOk W (step W s op).1 := by
  obtain ⟨ht, hh⟩ := hs
  -- a handle table after `aset`: the new entry is valid by `hnew`, the others were there before
  have haset : ∀ {hid h}, HandleOk W h → ∀ k h', (k, h') ∈ aset hid h s.handles → HandleOk W h' :=
    fun hnew k h' hm => (mem_aset hm).elim (fun e => by cases e; exact hnew) (hh k h')
  fun_cases step W s op with
  | case1 hid d caching sel => exact ⟨ht, haset (openHandle_ok W d caching sel)⟩
  | case2 hid => exact ⟨ht, hh⟩
  | case3 hid h hl =>
    obtain ⟨_, a2, a3, _⟩ := advance_spec (hh hid h (alookup_mem hl)) ht
    exact ⟨a3, haset a2⟩
  | case4 hid => exact ⟨ht, fun k h hm => hh k h (List.mem_filter.mp hm).1⟩
  | case5 d caching sel => exact ⟨(extract_spec d caching sel ht).2, hh⟩
  | case6 name => exact ⟨(getCMap_spec name ht).2, hh⟩

theorem run_ok (ops : List Op) (hs : StateOk W s) : StateOk W (run W s ops) := by
  induction ops generalizing s with
  | nil => exact hs
  | cons op ops ih => exact ih (step_ok op hs)

theorem run_append (W : World) (a b : List Op) (s : State) : run W s (a ++ b) = run W (run W s a) b := by
  induction a generalizing s with
  | nil => rfl
  | cons op a ih => exact ih _

def TLe (t t' : Tables) : Prop :=
  t'.enc = t.enc ∧ (∀ e, e ∈ t.cmaps → e ∈ t'.cmaps) ∧ (∀ e, e ∈ t.umaps → e ∈ t'.umaps)

theorem TLe.refl (t : Tables) : TLe t t := ⟨rfl, fun _ h => h, fun _ h => h⟩

theorem TLe.trans {a b c : Tables} (h1 : TLe a b) (h2 : TLe b c) : TLe a c :=
  ⟨h2.1.trans h1.1, fun e h => h2.2.1 e (h1.2.1 e h), fun e h => h2.2.2 e (h1.2.2 e h)⟩

theorem memo_grows {α : Type} (store : Bool) (fresh : Nat → Option α) (c : List (Nat × α)) (k : Nat) :
    ∀ e, e ∈ c → e ∈ (memo store fresh c k).2 := by
  intro e he
  fun_cases memo store fresh c k
  · exact he
  · exact he
  · cases store
    · exact he
    · exact List.mem_cons_of_mem _ he

section Grow
variable (W : World) (t : Tables)

theorem getCMap_le (n : Nat) : TLe t (getCMap W t n).2 :=
  ⟨rfl, memo_grows true W.loadCMap t.cmaps n, fun _ h => h⟩

theorem getUMap_le (n : Nat) : TLe t (getUMap W t n).2 :=
  ⟨rfl, fun _ h => h, memo_grows true W.loadUMap t.umaps n⟩

theorem useCMapEffect_le (spec : FontSpec) : TLe t (useCMapEffect W t spec) := by
  fun_cases useCMapEffect W t spec
  · exact getCMap_le W t _
  · exact TLe.refl t

theorem cmapStep_le (spec : FontSpec) : TLe t (cmapStep W t spec).2 := by
  fun_cases cmapStep W t spec
  · exact TLe.refl t
  · exact getCMap_le W t _

theorem buildFont_le (spec : FontSpec) (src : List (Option Nat)) : TLe t (buildFont W t spec src).2 :=
  have h1 := useCMapEffect_le W t spec
  have h2 := h1.trans (cmapStep_le W _ spec)
  buildFont_tables W t spec src _ h1 h2 (h2.trans (getUMap_le W _ spec.umap))

theorem getFont_le (d : DocSpec) (caching : Bool) (c : Caches) (r : FontRef) :
    TLe t (getFont W d caching c t r).2.2 := by
  fun_cases getFont W d caching c t r
  · exact buildFont_le W t _ _
  · exact TLe.refl t
  · exact TLe.refl t
  · exact buildFont_le W t _ _

theorem getFonts_le (d : DocSpec) (caching : Bool) (rs : List FontRef) (c : Caches) :
    TLe t (getFonts W d caching c t rs).2.2 := by
  induction rs generalizing c t with
  | nil => exact TLe.refl t
  | cons r rs ih => exact (getFont_le W t d caching c r).trans (ih _ _)

theorem advance_le (h : Handle) : TLe t (advance W h t).2.2 := by
  fun_cases advance W h t
  · exact TLe.refl t
  · exact TLe.refl t
  · exact getFonts_le W t _ _ _ _

theorem drain_le (fuel : Nat) (h : Handle) : TLe t (drain W fuel h t).2.2 := by
  fun_induction drain W fuel h t
  · exact TLe.refl _
  · next ih => exact (advance_le W _ _).trans ih
  · exact advance_le W _ _

theorem step_le (s : State) (op : Op) : TLe s.tables (step W s op).1.tables := by
  fun_cases step W s op
  · exact TLe.refl _
  · exact TLe.refl _
  · exact advance_le W _ _
  · exact TLe.refl _
  · exact drain_le W _ _ _
  · exact getCMap_le W _ _

theorem run_le (ops : List Op) (s : State) : TLe s.tables (run W s ops).tables := by
  induction ops generalizing s with
  | nil => exact TLe.refl _
  | cons op ops ih => exact (step_le W s op).trans (ih _)

end Grow

/-! `_indep`: outputs are fresh values by the `_spec` lemmas, hence the same for any two valid tables; what remains is
that the caches left behind are the same.  The tables reach them only through the font that `buildFont`
returns, and that is `fontPure`. -/

variable {t' : Tables}

theorem getFont_caches_indep (d : DocSpec) (caching : Bool) (c : Caches) (r : FontRef)
    (ht : TablesOk W t) (ht' : TablesOk W t') :
    (getFont W d caching c t r).2.1 = (getFont W d caching c t' r).2.1 := by
  cases r with
  | direct spec => simp only [getFont]
  | byId n =>
    simp only [getFont]
    split
    · rfl
    · split
      · rfl
      · next spec _ => rw [(buildFont_spec spec _ ht).1, (buildFont_spec spec _ ht').1]

theorem getFonts_caches_indep (caching : Bool) (rs : List FontRef) (hc : CachesOk W d c)
    (ht : TablesOk W t) (ht' : TablesOk W t') :
    (getFonts W d caching c t rs).2.1 = (getFonts W d caching c t' rs).2.1 := by
  induction rs generalizing c t t' with
  | nil => rfl
  | cons r rs ih =>
    simp only [getFonts]
    rw [← getFont_caches_indep d caching c r ht ht']
    exact ih (getFont_spec caching r hc ht).2.1 (getFont_spec caching r hc ht).2.2
      (getFont_spec caching r hc ht').2.2

theorem advance_indep (hh : HandleOk W h) (ht : TablesOk W t) (ht' : TablesOk W t') :
    (advance W h t).1 = (advance W h t').1 ∧ (advance W h t).2.1 = (advance W h t').2.1 := by
  refine ⟨(advance_spec hh ht).1.trans (advance_spec hh ht').1.symm, ?_⟩
  cases htodo : h.todo with
  | nil => simp only [advance, htodo]
  | cons k rest =>
    cases hpg : h.doc.pages[k]? with
    | none => simp only [advance, htodo, hpg]
    | some pg =>
      have hw := (readMany_spec h.caching pg.walk (walkRange_ok h.caching h.pos k hh.1)).2
      simp only [advance, htodo, hpg, processPage]
      rw [getFonts_caches_indep h.caching pg.fonts hw ht ht']

def mentions (hid : Nat) : Op → Bool
  | .open h _ _ _ => h == hid
  | .next h => h == hid
  | .close h => h == hid
  | _ => false

/-- the outputs of the operations of a history that address iterator `hid` -/
def outputsOf (W : World) (hid : Nat) : State → List Op → List Out
  | _, [] => []
  | s, op :: ops =>
    if mentions hid op then (step W s op).2 :: outputsOf W hid (step W s op).1 ops
    else outputsOf W hid (step W s op).1 ops

variable {hid : Nat} {s' : State}

theorem step_frame (W : World) (s : State) {op : Op} (hm : mentions hid op = false) :
    alookup hid (step W s op).1.handles = alookup hid s.handles := by
  fun_cases step W s op
  · exact alookup_aset_ne _ (ne_of_beq_false hm).symm _
  · rfl
  · exact alookup_aset_ne _ (ne_of_beq_false hm).symm _
  · exact alookup_filter_ne (ne_of_beq_false hm).symm _
  · rfl
  · rfl

theorem step_same {op : Op} (hm : mentions hid op = true) (hs : StateOk W s) (hs' : StateOk W s')
    (he : alookup hid s.handles = alookup hid s'.handles) :
    (step W s op).2 = (step W s' op).2 ∧
    alookup hid (step W s op).1.handles = alookup hid (step W s' op).1.handles := by
  cases op with
  | «open» h d caching sel =>
    cases eq_of_beq hm
    exact ⟨rfl, (alookup_aset_self _ _ _).trans (alookup_aset_self _ _ _).symm⟩
  | next h =>
    cases eq_of_beq hm
    simp only [step, ← he]
    cases hl : alookup hid s.handles with
    | none => exact ⟨rfl, he⟩
    | some hd =>
      obtain ⟨e1, e2⟩ := advance_indep (hs.2 hid hd (alookup_mem hl)) hs.1 hs'.1
      exact ⟨e1, by rw [alookup_aset_self, alookup_aset_self, e2]⟩
  | close h =>
    cases eq_of_beq hm
    exact ⟨rfl, (alookup_filter_self _ _).trans (alookup_filter_self _ _).symm⟩
  | extract d caching sel => cases hm
  | parseCMap name ext => cases hm

theorem interleaving_aux (ops : List Op) (hs : StateOk W s) (hs' : StateOk W s')
    (he : alookup hid s.handles = alookup hid s'.handles) :
    outputsOf W hid s ops = outputs W s' (ops.filter (mentions hid)) := by
  fun_induction outputsOf W hid s ops generalizing s' with
  | case1 => rfl
  | case2 s op ops hm ih =>
    obtain ⟨e1, e2⟩ := step_same hm hs hs' he
    rw [List.filter_cons_of_pos hm, outputs, e1, ih (step_ok op hs) (step_ok op hs') e2]
  | case3 s op ops hm ih =>
    rw [List.filter_cons_of_neg hm]
    exact ih (step_ok op hs) hs' ((step_frame W s (Bool.eq_false_iff.mpr hm)).trans he)

end PdfVerif.Process
