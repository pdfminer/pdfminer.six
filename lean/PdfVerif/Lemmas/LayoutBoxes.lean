/-
`group_textlines` on a page.  The plane that holds the lines answers `find_neighbors` as a filter over all lines would
(`mem_neighbors`, through the Plane model of C20); a non-empty line is its own neighbour when `line_margin ≥ 0`, and no
line has a neighbour when it is negative; so `gtl_partition` applies: every line lands in exactly one box and no box is
empty (`groupTextlines_spec`), and the lines of a box have its writing direction (`groupTextlines_uniform`).
-/
import PdfVerif.Lemmas.LayoutLines
import PdfVerif.Lemmas.LayoutGroups
import PdfVerif.Lemmas.LayoutScale
import PdfVerif.Props.C20
namespace PdfVerif.Layout
open PdfVerif PdfVerif.Gen.Layout
open PdfVerif.Plane (WfRect bboxOf overlaps)
open PdfVerif.Props.C20 (Reach plane_find)

theorem reach_foldl {p : Plane.Plane} {L : List Plane.PObj} (h : Reach p L) (objs : List Plane.PObj)
    (hwf : ∀ o ∈ objs, WfRect (bboxOf o)) (hfresh : ∀ o ∈ objs, ∀ o' ∈ p.seq, o'.id ≠ o.id)
    (hnd : (objs.map (·.id)).Nodup) : Reach (objs.foldl Plane.add p) (L ++ objs) := by
  induction objs generalizing p L with
  | nil => simpa using h
  | cons o r ih =>
    obtain ⟨hwo, hwr⟩ := List.forall_mem_cons.mp hwf
    obtain ⟨hfo, hfr⟩ := List.forall_mem_cons.mp hfresh
    obtain ⟨hno, hnr⟩ := List.nodup_cons.mp hnd
    have := ih (Reach.add o h hfo hwo) hwr (fun x hx o' ho' => by
      rw [Plane.add_seq, List.mem_append, List.mem_singleton] at ho'
      rcases ho' with ho' | rfl
      · exact hfr x hx o' ho'
      · exact fun e => hno (List.mem_map.mpr ⟨x, hx, e.symm⟩)) hnr
    simpa [List.append_assoc] using this

theorem reach_mkPlane (pageBB : BB) (objs : List Plane.PObj) (hp : pageBB.x0 ≤ pageBB.x1 ∧ pageBB.y0 ≤ pageBB.y1)
    (hwf : ∀ o ∈ objs, WfRect (bboxOf o)) (hnd : (objs.map (·.id)).Nodup) :
    Reach (mkPlane pageBB objs) objs := by
  simpa [mkPlane] using
    reach_foldl (Reach.init pageBB.toRect PLANE_GRIDSIZE (by decide) hp) objs hwf (by simp [Plane.init]) hnd

theorem lines_ids (lines : List Line) :
    (lines.zipIdx.map fun (x : Line × Nat) => x.1.pobj x.2).map (·.id) = List.range' 0 lines.length :=
  zipIdx_map_ids (fun l k => l.pobj k) (fun _ _ => rfl) lines

theorem mem_lines_pobj {lines : List Line} {o : Plane.PObj} :
    o ∈ (lines.zipIdx.map fun (x : Line × Nat) => x.1.pobj x.2) ↔ ∃ (k : Nat) (m : Line), lines[k]? = some m ∧ o = m.pobj k := by
  simp only [List.mem_map, List.mem_zipIdx_iff_getElem?, Prod.exists]
  exact ⟨fun ⟨m, k, h, e⟩ => ⟨k, m, h, e.symm⟩, fun ⟨k, m, h, e⟩ => ⟨m, k, h, e.symm⟩⟩

theorem bb_pos_of_not_empty {b : BB} (h : is_empty b = false) : b.x0 < b.x1 ∧ b.y0 < b.y1 := by
  simp only [is_empty, BB.width, BB.height, Bool.or_eq_false_iff] at h
  exact ⟨sub_pos.mp (not_le.mp (of_decide_eq_false h.1)), sub_pos.mp (not_le.mp (of_decide_eq_false h.2))⟩

theorem pos_of_not_empty {l : Line} (h : l.isEmpty = false) : l.bb.x0 < l.bb.x1 ∧ l.bb.y0 < l.bb.y1 :=
  bb_pos_of_not_empty (Bool.or_eq_false_iff.mp h).1

theorem tolerance_nonneg {ratio : Rat} (hr : 0 ≤ ratio) {l : Line} (hl : l.isEmpty = false) :
    0 ≤ ratio * l.bb.height ∧ 0 ≤ ratio * l.bb.width := by
  have hpos := pos_of_not_empty hl
  exact ⟨mul_nonneg hr (sub_nonneg.mpr hpos.2.le), mul_nonneg hr (sub_nonneg.mpr hpos.1.le)⟩

theorem reach_lines (pageBB : BB) (hp : pageBB.x0 ≤ pageBB.x1 ∧ pageBB.y0 ≤ pageBB.y1) (lines : List Line)
    (hne : ∀ l ∈ lines, l.isEmpty = false) :
    Reach (mkPlane pageBB (lines.zipIdx.map fun (x : Line × Nat) => x.1.pobj x.2))
      (lines.zipIdx.map fun (x : Line × Nat) => x.1.pobj x.2) := by
  apply reach_mkPlane pageBB _ hp
  · intro o ho
    obtain ⟨k, m, hk, rfl⟩ := mem_lines_pobj.mp ho
    have := pos_of_not_empty (hne m (List.mem_of_getElem? hk))
    exact ⟨this.1.le, this.2.le⟩
  · rw [lines_ids]; exact List.nodup_range'

theorem wf_neighborQuery (ratio : Rat) (hr : 0 ≤ ratio) (l : Line) (hl : l.isEmpty = false) :
    WfRect (neighborQuery ratio l) := by
  have hpos := pos_of_not_empty hl
  have hd := tolerance_nonneg hr hl
  fun_cases neighborQuery ratio l
  · exact ⟨(sub_le_self _ hd.2).trans (hpos.1.le.trans (le_add_of_nonneg_right hd.2)), hpos.2.le⟩
  · exact ⟨hpos.1.le, (sub_le_self _ hd.1).trans (hpos.2.le.trans (le_add_of_nonneg_right hd.1))⟩

/-- `find_neighbors` inside `group_textlines`, with the grid index replaced by what it computes (C20). -/
theorem mem_neighbors (ratio : Rat) (hr : 0 ≤ ratio) (pageBB : BB)
    (hp : pageBB.x0 ≤ pageBB.x1 ∧ pageBB.y0 ≤ pageBB.y1) (lines : List Line)
    (hne : ∀ l ∈ lines, l.isEmpty = false) (l : Line) (hl : l ∈ lines) (j : Nat) :
    j ∈ neighbors ratio (mkPlane pageBB (lines.zipIdx.map fun (x : Line × Nat) => x.1.pobj x.2)) lines l ↔
      ∃ m, lines[j]? = some m ∧ overlaps (m.pobj j) (neighborQuery ratio l) = true ∧
        isNeighbor ratio l m.vertical m.bb = true := by
  have hfind := (plane_find (reach_lines pageBB hp lines hne) _ (wf_neighborQuery ratio hr l (hne l hl))).1
  simp only [mem_lines_pobj] at hfind
  simp only [neighbors, List.mem_map, List.mem_filter, hfind]
  constructor
  · rintro ⟨o, ⟨⟨⟨k, m, hk, rfl⟩, hov⟩, hfil⟩, rfl⟩
    rw [show lines[(m.pobj k).id]? = some m from hk] at hfil
    exact ⟨m, hk, hov, hfil⟩
  · rintro ⟨m, hj, hov, hfil⟩
    refine ⟨m.pobj j, ⟨⟨⟨j, m, hj, rfl⟩, hov⟩, ?_⟩, rfl⟩
    rw [show lines[(m.pobj j).id]? = some m from hj]
    exact hfil

theorem isNeighbor_class {ratio : Rat} {l : Line} {v : Bool} {o : BB} (h : isNeighbor ratio l v o = true) :
    v = l.vertical := by
  cases hv : l.vertical
  · simp only [isNeighbor, hv, Bool.false_eq_true, if_false, neighbor_filter_h, Bool.and_eq_true, Bool.not_eq_true'] at h
    exact h.1.1
  · simp only [isNeighbor, hv, if_true, neighbor_filter_v, Bool.and_eq_true] at h
    exact h.1.1

theorem of_mem_neighbors {ratio : Rat} {plane : Plane.Plane} {lines : List Line} {l : Line} {j : Nat}
    (hj : j ∈ neighbors ratio plane lines l) : ∃ m, lines[j]? = some m ∧ m.vertical = l.vertical := by
  simp only [neighbors, List.mem_map, List.mem_filter] at hj
  obtain ⟨o, ⟨_, ho⟩, rfl⟩ := hj
  split at ho
  · rename_i m hm
    exact ⟨m, hm, isNeighbor_class ho⟩
  · cases ho

theorem of_mem_nbOfLines {p : LAParams} {pageBB : BB} {lines : List Line} {i j : Nat}
    (hj : j ∈ nbOfLines p pageBB lines i) :
    ∃ l m, lines[i]? = some l ∧ lines[j]? = some m ∧ m.vertical = l.vertical := by
  unfold nbOfLines at hj
  split at hj
  · rename_i l hl
    obtain ⟨m, hm, e⟩ := of_mem_neighbors hj
    exact ⟨l, m, hl, hm, e⟩
  · cases hj

theorem nbOfLines_lt (p : LAParams) (pageBB : BB) (lines : List Line) :
    ∀ i, ∀ j ∈ nbOfLines p pageBB lines i, j < lines.length := fun _ _ hj =>
  let ⟨_, _, _, hm, _⟩ := of_mem_nbOfLines hj
  (List.getElem?_eq_some_iff.mp hm).1

theorem isNeighbor_of_neg (ratio : Rat) (hr : ratio < 0) (l : Line) (hl : l.isEmpty = false) (v : Bool) (o : BB) :
    isNeighbor ratio l v o = false := by
  have hpos := pos_of_not_empty hl
  fun_cases isNeighbor ratio l v o
  · have h1 := rabs_nonneg (o.width - l.bb.width)
    have h2 : ratio * l.bb.width < 0 := mul_neg_of_neg_of_pos hr (sub_pos.mpr hpos.1)
    simp only [neighbor_filter_v, is_same_width_as, Bool.and_eq_false_iff]
    exact Or.inl (Or.inr (decide_eq_false (not_le.mpr (h2.trans_le h1))))
  · have h1 := rabs_nonneg (o.height - l.bb.height)
    have h2 : ratio * l.bb.height < 0 := mul_neg_of_neg_of_pos hr (sub_pos.mpr hpos.2)
    simp only [neighbor_filter_h, is_same_height_as, Bool.and_eq_false_iff]
    exact Or.inl (Or.inr (decide_eq_false (not_le.mpr (h2.trans_le h1))))

theorem neighbors_nil_of_neg (ratio : Rat) (hr : ratio < 0) (plane : Plane.Plane) (lines : List Line) (l : Line)
    (hl : l.isEmpty = false) : neighbors ratio plane lines l = [] := by
  simp only [neighbors, List.map_eq_nil_iff, List.filter_eq_nil_iff]
  intro o _
  split
  · rw [isNeighbor_of_neg ratio hr l hl]; decide
  · decide

theorem self_neighbor (ratio : Rat) (hr : 0 ≤ ratio) (pageBB : BB)
    (hp : pageBB.x0 ≤ pageBB.x1 ∧ pageBB.y0 ≤ pageBB.y1) (lines : List Line)
    (hne : ∀ l ∈ lines, l.isEmpty = false) (i : Nat) (l : Line) (hi : lines[i]? = some l) :
    i ∈ neighbors ratio (mkPlane pageBB (lines.zipIdx.map fun (x : Line × Nat) => x.1.pobj x.2)) lines l := by
  have hl : l ∈ lines := List.mem_of_getElem? hi
  have hpos := pos_of_not_empty (hne l hl)
  have hd := tolerance_nonneg hr (hne l hl)
  refine (mem_neighbors ratio hr pageBB hp lines hne l hl i).mpr ⟨l, hi, ?_, ?_⟩
  · -- the query rectangle is the line's own box, widened
    have nle : ∀ {a b : Rat}, b < a → decide (a ≤ b) = false := fun h => decide_eq_false (not_le.mpr h)
    fun_cases neighborQuery ratio l
    · simp only [neighbor_query_v, overlaps, Line.pobj, Bool.not_eq_true', Bool.or_eq_false_iff]
      exact ⟨⟨⟨nle (lt_of_le_of_lt (sub_le_self _ hd.2) hpos.1), nle (lt_add_of_lt_of_nonneg hpos.1 hd.2)⟩, nle hpos.2⟩,
        nle hpos.2⟩
    · simp only [neighbor_query_h, overlaps, Line.pobj, Bool.not_eq_true', Bool.or_eq_false_iff]
      exact ⟨⟨⟨nle hpos.1, nle hpos.1⟩, nle (lt_of_le_of_lt (sub_le_self _ hd.1) hpos.2)⟩,
        nle (lt_add_of_lt_of_nonneg hpos.2 hd.1)⟩
  · -- same size and aligned with itself: all differences are 0
    fun_cases isNeighbor ratio l l.vertical l.bb <;> rename_i hv
    · simp only [hv, neighbor_filter_v, Bool.true_and, is_same_width_as,
        is_lower_aligned_with, sub_self, rabs_zero, decide_eq_true hd.2, Bool.true_or]
    · simp only [hv, neighbor_filter_h, Bool.not_false, Bool.true_and, is_same_height_as,
        is_left_aligned_with, sub_self, rabs_zero, decide_eq_true hd.1, Bool.true_or]

theorem filterMap_range_getElem? {α : Type} : ∀ (l : List α), (List.range l.length).filterMap (l[·]?) = l
  | [] => rfl
  | a :: r => by
    rw [List.length_cons, List.range_succ_eq_map, List.filterMap_cons, List.filterMap_map]
    exact congrArg (a :: ·) (filterMap_range_getElem? r)

theorem union_width (a b : BB) : a.width ≤ (a.union b).width ∧ a.height ≤ (a.union b).height :=
  ⟨sub_le_sub (le_max_left _ _) (min_le_left _ _), sub_le_sub (le_max_left _ _) (min_le_left _ _)⟩

theorem foldl_union_width (rest : List BB) (a : BB) :
    a.width ≤ (rest.foldl BB.union a).width ∧ a.height ≤ (rest.foldl BB.union a).height := by
  induction rest generalizing a with
  | nil => exact ⟨le_rfl, le_rfl⟩
  | cons b r ih => exact ⟨(union_width a b).1.trans (ih _).1, (union_width a b).2.trans (ih _).2⟩

theorem mkBox_lines (lines : List Line) (v : Bool) (t : TBox) : (mkBox lines v t).lines = t.members.filterMap (lines[·]?) := rfl

theorem mkBox_nonempty (lines : List Line) (v : Bool) (t : TBox) (hne : ∀ l ∈ lines, l.isEmpty = false)
    (hm : t.members ≠ []) (hlt : ∀ m ∈ t.members, m < lines.length) : (mkBox lines v t).isEmpty = false := by
  obtain ⟨m, ms, hms⟩ := List.exists_cons_of_ne_nil hm
  have hmlt : m < lines.length := hlt m (by rw [hms]; exact List.mem_cons_self)
  have hget : lines[m]? = some lines[m] := List.getElem?_eq_getElem hmlt
  have hpos := pos_of_not_empty (hne lines[m] (List.getElem_mem _))
  simp only [Box.isEmpty, mkBox, hms, List.filterMap_cons, hget, List.map_cons, bbOfList, Bool.or_eq_false_iff]
  refine ⟨by simp, ?_⟩
  have := foldl_union_width (List.map (fun x => x.bb) (List.filterMap (fun x => lines[x]?) ms)) lines[m].bb
  simp only [BB.isEmpty, is_empty, Bool.or_eq_false_iff]
  exact ⟨decide_eq_false (not_le.mpr (lt_of_lt_of_le (sub_pos.mpr hpos.1) this.1)),
    decide_eq_false (not_le.mpr (lt_of_lt_of_le (sub_pos.mpr hpos.2) this.2))⟩

theorem nonEmpty_filter (ls : List Line) : ∀ l ∈ ls.filter (fun l => !l.isEmpty), l.isEmpty = false := by
  intro l hl
  simpa using (List.mem_filter.mp hl).2

/-- The first case holds for `line_margin ≥ 0`, the second for `line_margin < 0`. -/
theorem nbOfLines_self_or_nil (p : LAParams) (pageBB : BB) (hp : pageBB.x0 ≤ pageBB.x1 ∧ pageBB.y0 ≤ pageBB.y1)
    (lines : List Line) (hne : ∀ l ∈ lines, l.isEmpty = false) :
    (∀ i, i < lines.length → i ∈ nbOfLines p pageBB lines i) ∨ (∀ i, nbOfLines p pageBB lines i = []) := by
  by_cases hr : 0 ≤ p.line_margin
  · left
    intro i hi
    have hget : lines[i]? = some lines[i] := List.getElem?_eq_getElem hi
    simp only [nbOfLines, hget]
    exact self_neighbor _ hr pageBB hp lines hne i _ hget
  · right
    intro i
    fun_cases nbOfLines p pageBB lines i
    · exact neighbors_nil_of_neg _ (not_le.mp hr) _ _ _ (hne _ (List.mem_of_getElem? ‹_›))
    · rfl

/-- **group_textlines conserves the lines**: on a well-formed page box and non-empty lines, every
line lands in exactly one of the returned boxes (and no box is dropped as empty). -/
theorem groupTextlines_spec (p : LAParams) (pageBB : BB)
    (hp : pageBB.x0 ≤ pageBB.x1 ∧ pageBB.y0 ≤ pageBB.y1) (lines : List Line)
    (hne : ∀ l ∈ lines, l.isEmpty = false) :
    ((groupTextlines p pageBB lines).flatMap (·.lines)).Perm lines
    ∧ ((groupTextlines p pageBB lines).map (·.bid)).Nodup
    ∧ ∀ b ∈ groupTextlines p pageBB lines,
        b.index = -1 ∧ b.lines ≠ [] ∧ b.bb = bbOfList (b.lines.map (·.bb)) ∧ b.isEmpty = false := by
  have hpart := gtl_partition lines.length _ (nbOfLines_lt p pageBB lines) (nbOfLines_self_or_nil p pageBB hp lines hne)
  set ys := gtlYield (gtlDict (nbOfLines p pageBB lines) [] (List.range lines.length)) [] (List.range lines.length)
  have hbox : ∀ t ∈ ys, (mkBox lines (boxVertical lines t) t).isEmpty = false := fun t ht =>
    mkBox_nonempty lines _ t hne (hpart.2.1 t ht).1 fun m hm =>
      List.mem_range.mp (hpart.1.subset (List.mem_flatMap.mpr ⟨t, ht, hm⟩))
  have hgt : groupTextlines p pageBB lines = ys.map (fun t => mkBox lines (boxVertical lines t) t) :=
    List.filter_eq_self.mpr fun b hb => by
      obtain ⟨t, ht, rfl⟩ := List.mem_map.mp hb
      rw [hbox t ht]; rfl
  rw [hgt]
  refine ⟨?_, ?_, ?_⟩
  · rw [List.flatMap_map]
    simp only [mkBox_lines]
    rw [← List.filterMap_flatMap]
    exact (hpart.1.filterMap _).trans (List.Perm.of_eq (filterMap_range_getElem? lines))
  · rw [List.map_map]
    exact List.pairwise_map.mpr hpart.2.2
  · intro b hb
    obtain ⟨t, ht, rfl⟩ := List.mem_map.mp hb
    refine ⟨rfl, fun hl => ?_, rfl, hbox t ht⟩
    have := hbox t ht
    simp [Box.isEmpty, hl] at this

/-- `find_neighbors` filters by class, so every iteration of the first loop joins lines of the class of the line it
runs for. -/
theorem gtl_cls (n : Nat) (nb : Nat → List Nat) (cls : Nat → Bool) (hnb : ∀ i, ∀ j ∈ nb i, j < n)
    (H : (∀ i, i < n → i ∈ nb i) ∨ (∀ i, nb i = [])) (hcls : ∀ i, ∀ j ∈ nb i, cls j = cls i) :
    ∀ t ∈ gtlYield (gtlDict nb [] (List.range n)) [] (List.range n), ∀ m ∈ t.members, cls m = cls t.bid := by
  have hd := gtlDict_range hnb H (P := fun d => ∀ k b, (k, b) ∈ d → ∀ m ∈ b.members, cls m = cls b.bid)
    (fun k b h => by cases h) ?_
  · intro t ht m hm
    obtain ⟨_, i, _, hit⟩ := (gtlYield_spec hd.1.p (List.range n) []).1 t ht
    exact hd.2 i t hit m hm
  · -- the box made for `i` holds `i`, its neighbours, and the members of the boxes of its neighbours
    intro seen d i h hc k b hkb m hm
    obtain ⟨_, B, hBid, _, hBm, hmem⟩ := gtlStep_spec d i (nb i) h.p.keysNodup
    rcases (hmem k b).mp hkb with ⟨h1, _⟩ | ⟨_, rfl⟩
    · exact hc k b h1 m hm
    · rw [hBid]
      rcases (hBm m).mp hm with rfl | hin | ⟨o, ho, b', hob', hmb'⟩
      · rfl
      · exact hcls i m hin
      · rw [hc o b' hob' m hmb', ← hc o b' hob' o (h.p.self o b' hob')]
        exact hcls i o ho

theorem groupTextlines_uniform (p : LAParams) (pageBB : BB)
    (hp : pageBB.x0 ≤ pageBB.x1 ∧ pageBB.y0 ≤ pageBB.y1) (lines : List Line)
    (hne : ∀ l ∈ lines, l.isEmpty = false) :
    ∀ b ∈ groupTextlines p pageBB lines, ∀ l ∈ b.lines, l.vertical = b.vertical := by
  have hall := gtl_cls lines.length _ (fun i => (lines[i]?.map (·.vertical)).getD false)
    (nbOfLines_lt p pageBB lines) (nbOfLines_self_or_nil p pageBB hp lines hne) fun i j hj => by
      obtain ⟨l, m, hl, hm, e⟩ := of_mem_nbOfLines hj
      simp only [hl, hm, Option.map_some, Option.getD_some, e]
  intro b hb l hl
  simp only [groupTextlines, List.mem_filter, List.mem_map] at hb
  obtain ⟨⟨t, ht, rfl⟩, _⟩ := hb
  obtain ⟨m, hm, hlm⟩ := List.mem_filterMap.mp hl
  have := hall t ht m hm
  simp only [hlm, Option.map_some, Option.getD_some] at this
  exact this

end PdfVerif.Layout
