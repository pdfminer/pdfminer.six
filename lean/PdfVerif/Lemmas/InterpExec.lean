/-
C05 — the interpreter model and the text model each on its own: operands and `execute`, operators
with missing or ill-typed operands, the operators outside the property's list, the nesting budget;
the tokens of a stream are the instructions `parseInstrs` finds plus the operands left over
(`parseInstrs_sound'`); the text model's result does not change when the form runner answers in
more cases (`RfLe`, `runInstrs_mono`), which is what lets the budget grow.
The simulation between the two is in `Lemmas/Interp.lean`.
-/
import PdfVerif.Model.Interp
import PdfVerif.Spec.TextModel

namespace PdfVerif.Interp
open PdfVerif PdfVerif.Content PdfVerif.Gen.Utils PdfVerif.Gen.Interp PdfVerif.TextModel

theorem execToks_append (env : Env) (rf : Form → MState → List Glyph × Bool) (st : MState) (a b : List Tok) :
    execToks env rf st (a ++ b) =
      ((execToks env rf (execToks env rf st a).1 b).1,
       (execToks env rf st a).2 ++ (execToks env rf (execToks env rf st a).1 b).2) := by
  induction a generalizing st with
  | nil => simp [execToks]
  | cons t rest ih =>
    simp only [List.cons_append, execToks]
    rw [ih]
    simp [List.append_assoc]

/-- What `execute` has on its stack after the operands of an instruction: `null` is not pushed. -/
def pushed : List Obj → List Obj
  | [] => []
  | .null :: rest => pushed rest
  | o :: rest => o :: pushed rest

theorem execToks_opnds (env : Env) (rf : Form → MState → List Glyph × Bool) (args : List Obj) :
    ∀ m : MState, execToks env rf m (args.map Tok.opnd) = ({ m with argstack := m.argstack ++ pushed args }, []) := by
  induction args with
  | nil => intro m; simp [execToks, pushed]
  | cons o rest ih =>
    intro m
    cases o <;> simp [execToks, execTok, pushed, ih, List.append_assoc]

theorem execToks_instr (env : Env) (rf : Form → MState → List Glyph × Bool) (m : MState) (i : Instr) :
    execToks env rf m i.toks = execTok env rf { m with argstack := m.argstack ++ pushed i.args } (.op i.op) := by
  unfold Instr.toks
  rw [execToks_append, execToks_opnds]
  simp [execToks]

theorem pushed_length_le (args : List Obj) : (pushed args).length ≤ args.length := by
  induction args with
  | nil => simp [pushed]
  | cons o rest ih => cases o <;> simp [pushed] <;> omega

theorem pushed_eq_of_length (args : List Obj) (h : (pushed args).length = args.length) : pushed args = args := by
  induction args with
  | nil => rfl
  | cons o rest ih =>
    have hle := pushed_length_le rest
    cases o <;> simp [pushed] at h ⊢ <;> first | exact ih h | omega

/-- No operand is a boolean (pdfminer's casts read `true` as 1.0, so the text model puts such operands outside
its domain: `step` tests `args.any Obj.isBool`). -/
def NoBool (args : List Obj) : Prop := ∀ o ∈ args, Obj.isBool o = false

theorem safeFloats_nums (qs : List Rat) : safeFloats (qs.map Obj.num) = some qs := by
  induction qs with
  | nil => rfl
  | cons q rest ih => simp [safeFloats, safeFloat, ih]

theorem wellTyped_cons {t : Ty} {ts : List Ty} {args : List Obj} (h : wellTyped (t :: ts) args = true) :
    ∃ o os, args = o :: os ∧ t.ok o = true ∧ wellTyped ts os = true := by
  cases args with
  | nil => cases h
  | cons o os => exact ⟨o, os, rfl, Bool.and_eq_true_iff.mp h⟩

theorem wellTyped_nil {args : List Obj} (h : wellTyped [] args = true) : args = [] := by
  cases args with
  | nil => rfl
  | cons o os => cases h

theorem wellTyped_num {ts : List Ty} {args : List Obj} (h : wellTyped (.num :: ts) args = true) :
    ∃ q os, args = .num q :: os ∧ wellTyped ts os = true := by
  obtain ⟨o, os, rfl, ho, h⟩ := wellTyped_cons h
  cases o <;> first | exact ⟨_, os, rfl, h⟩ | cases ho

theorem wellTyped_nums (args : List Obj) (n : Nat) (h : wellTyped (List.replicate n Ty.num) args = true) :
    ∃ qs : List Rat, args = qs.map Obj.num ∧ qs.length = n := by
  induction n generalizing args with
  | zero => exact ⟨[], wellTyped_nil h, rfl⟩
  | succ n ih =>
    obtain ⟨q, os, rfl, h'⟩ := wellTyped_num h
    obtain ⟨qs, rfl, hl⟩ := ih os h'
    exact ⟨q :: qs, rfl, congrArg (· + 1) hl⟩

theorem safeFloats_none (args : List Obj) (hb : NoBool args) :
    wellTyped (List.replicate args.length Ty.num) args = false → safeFloats args = none := by
  induction args with
  | nil => intro h; simp [wellTyped] at h
  | cons o rest ih =>
    intro h
    have hb1 : Obj.isBool o = false := hb o (List.mem_cons_self)
    have hb2 : NoBool rest := fun x hx => hb x (List.mem_cons_of_mem _ hx)
    simp only [List.length_cons, List.replicate, wellTyped, Bool.and_eq_false_iff] at h
    cases o <;> simp [Obj.isBool] at hb1 <;> simp [safeFloats, safeFloat, Ty.ok] at h ⊢
    rename_i q
    rw [ih hb2 h]

theorem wellTyped_pushed : ∀ (tys : List Ty) (args : List Obj),
    wellTyped tys args = true → pushed args = args ∧ args.length = tys.length
  | [], args, h => by obtain rfl := wellTyped_nil h; exact ⟨rfl, rfl⟩
  | t :: ts, args, h => by
    obtain ⟨o, os, rfl, ho, h'⟩ := wellTyped_cons h
    obtain ⟨h1, h2⟩ := wellTyped_pushed ts os h'
    have hp : pushed (o :: os) = o :: pushed os := by
      cases o <;> first | rfl | (cases t <;> cases ho)
    exact ⟨by rw [hp, h1], congrArg (· + 1) h2⟩

theorem step_inv {env : Env} {rfS : Form → GS → Res → Option (List Glyph)} {s s' : SState} {i : Instr} {gl : List Glyph}
    (h : step env rfS s i = some (s', gl)) :
    ∃ tys, sig s.gs i.op = some tys ∧ allowed s.txt.isSome i.op = true ∧ NoBool i.args ∧ i.args.length ≤ tys.length ∧
      ((wellTyped tys i.args = false ∧ s' = s ∧ gl = []) ∨
       (wellTyped tys i.args = true ∧ apply env rfS s i.op i.args = some (s', gl))) := by
  unfold step at h
  rcases htys : sig s.gs i.op with _ | tys <;> simp only [htys, reduceCtorEq] at h
  obtain ⟨ha, h⟩ := Option.ite_none_left_eq_some.mp h
  obtain ⟨hb, h⟩ := Option.ite_none_left_eq_some.mp h
  obtain ⟨hl, h⟩ := Option.ite_none_left_eq_some.mp h
  have hnb : NoBool i.args := fun o ho => by simpa using fun hc => hb (List.any_eq_true.mpr ⟨o, ho, hc⟩)
  refine ⟨tys, rfl, by simpa using ha, hnb, Nat.le_of_not_lt hl, ?_⟩
  cases hw : wellTyped tys i.args <;>
    simp only [hw, Bool.not_false, Bool.not_true, Bool.false_eq_true, if_true, if_false] at h
  · cases h
    exact Or.inl ⟨rfl, rfl, rfl⟩
  · exact Or.inr ⟨rfl, h⟩

/-- The `do_*` methods of the keywords outside the property's list touch nothing that is modelled. -/
theorem call_other (env : Env) (rf : Form → MState → List Glyph × Bool) (st : MState) (n : String) (args : List Obj) :
    call env rf st (.other n) args = (st, []) := by
  simp only [call]

theorem apply_other (env : Env) (rf : Form → GS → Res → Option (List Glyph)) (s : SState) (n : String)
    (args : List Obj) : apply env rf s (.other n) args = some (s, []) := by
  simp only [apply]

theorem mstate_args_nil (m : MState) (h : m.argstack = []) : { m with argstack := [] } = m := by
  cases m; cases h; rfl

theorem pop_short (n : Nat) (P : List Obj) (h : P.length ≤ n) : pop n P = (P, []) := by
  simp only [pop, Nat.sub_eq_zero_of_le h, List.drop_zero, List.take_zero]

theorem execTok_zero (env : Env) (rf : Form → MState → List Glyph × Bool) (m : MState) (op : Op)
    (ha : arity op = some 0) :
    execTok env rf m (.op op) = call env rf m op [] := by
  simp only [execTok, ha]

theorem execTok_op (env : Env) (rf : Form → MState → List Glyph × Bool) (m : MState) (op : Op) (n : Nat)
    (P : List Obj) (ha : arity op = some n) (hP : P.length ≤ n) (hm : m.argstack = []) :
    execTok env rf { m with argstack := P } (.op op) = if P.length = n then call env rf m op P else (m, []) := by
  cases n with
  | zero =>
    obtain rfl := List.eq_nil_of_length_eq_zero (Nat.le_zero.mp hP)
    rw [mstate_args_nil m hm, execTok_zero env rf m op ha]
    exact (if_pos rfl).symm
  | succ n => simp only [execTok, ha, pop_short _ P hP, mstate_args_nil m hm]

theorem args2 {l : List Obj} (h : l.length = 2) : ∃ a b, l = [a, b] :=
  match l, h with | [a, b], _ => ⟨a, b, rfl⟩

theorem args3 {l : List Obj} (h : l.length = 3) : ∃ a b c, l = [a, b, c] :=
  match l, h with | [a, b, c], _ => ⟨a, b, c, rfl⟩

theorem args4 {l : List Obj} (h : l.length = 4) : ∃ a b c d, l = [a, b, c, d] :=
  match l, h with | [a, b, c, d], _ => ⟨a, b, c, d, rfl⟩

theorem args6 {l : List Obj} (h : l.length = 6) : ∃ a b c d e f, l = [a, b, c, d, e, f] :=
  match l, h with | [a, b, c, d, e, f], _ => ⟨a, b, c, d, e, f, rfl⟩

/-- A `do_*` method given the right number of operands, one of them of the wrong type, does nothing:
the methods without operands aside, each is guarded by casts (`safe_float`, `safe_int`) or type tests
that fail. -/
theorem call_illtyped (env : Env) (rf : Form → MState → List Glyph × Bool) (m : MState) (gs : GS) (op : Op)
    (tys : List Ty) (args : List Obj) (hsig : sig gs op = some tys) (hlen : args.length = tys.length)
    (hb : NoBool args) (hw : wellTyped tys args = false)
    (hdyn : op ≠ .sc ∧ op ≠ .scn ∧ op ≠ .SC ∧ op ≠ .SCN) :
    call env rf m op args = (m, []) := by
  cases op <;> simp only [sig, Option.some.injEq] at hsig <;> try subst hsig
  case q | Q | BT | ET | Tstar =>
    obtain rfl := List.eq_nil_of_length_eq_zero hlen
    cases hw
  case Tc | Tw | Tz | TL | Ts | g | G | Td | TD | rg | RG | k | K | cm | Tm =>
    -- every operand is cast by `safe_float`
    first
    | obtain ⟨a, rfl⟩ := List.length_eq_one_iff.mp hlen
    | obtain ⟨a, b, rfl⟩ := args2 hlen
    | obtain ⟨a, b, c, rfl⟩ := args3 hlen
    | obtain ⟨a, b, c, d, rfl⟩ := args4 hlen
    | obtain ⟨a, b, c, d, e, f, rfl⟩ := args6 hlen
    simp only [call, safeFloats_none _ hb hw]
  case Tr | Tj | TJ | quote | cs | CS | Do =>
    obtain ⟨a, rfl⟩ := List.length_eq_one_iff.mp hlen
    have h1 := hb a List.mem_cons_self
    cases a <;> first | rfl | exact Bool.noConfusion h1 | cases hw
  case Tf =>
    obtain ⟨a, b, rfl⟩ := args2 hlen
    have h1 := hb a List.mem_cons_self
    have h2 := hb b (List.mem_cons_of_mem _ List.mem_cons_self)
    cases a <;> cases b <;> first | rfl | exact Bool.noConfusion h1 | exact Bool.noConfusion h2 | cases hw
  case dquote =>
    obtain ⟨a, b, c, rfl⟩ := args3 hlen
    cases hab : wellTyped [.num, .num] [a, b] with
    | false =>
      have hn := safeFloats_none [a, b] (fun o ho => hb o (List.mem_append_left [c] ho)) hab
      simp only [call, hn]
    | true =>
      -- `a`, `b` are numbers, so `c` is no string
      obtain ⟨x, _, h, hb'⟩ := wellTyped_num hab; cases h
      obtain ⟨y, _, h, _⟩ := wellTyped_num hb'; cases h
      have h3 := hb c (List.mem_append_right [_, _] List.mem_cons_self)
      cases c <;> first | rfl | exact Bool.noConfusion h3 | cases hw
  case other n => exact call_other env rf m n args
  all_goals exact absurd rfl (by first | exact hdyn.1 | exact hdyn.2.1 | exact hdyn.2.2.1 | exact hdyn.2.2.2)

theorem lookup_all (t u : List (String × Nat)) (hall : t.all (fun p => lookup p.1 u == some p.2) = true)
    (n : String) (k : Nat) (h : lookup n t = some k) : lookup n u = some k := by
  induction t with
  | nil => cases h
  | cons p rest ih =>
    obtain ⟨n', k'⟩ := p
    simp only [List.all_cons, Bool.and_eq_true, beq_iff_eq] at hall
    simp only [lookup] at h
    split at h
    · cases h; subst n'; exact hall.1
    · exact ih hall.2 h

/-- Every operator the text model lists as "no effect on text" exists in pdfminer's dispatch table
(regenerated from the `do_*` methods) with the number of operands ISO gives it. -/
theorem neutral_arity (n : String) (k : Nat) (h : neutralArity n = some k) : arity (.other n) = some k :=
  lookup_all neutralTable arityTable (by decide +kernel) n k h

/-- The `do_*` method of every operator with a fixed signature takes as many operands as the signature
has: the regenerated `arityTable` against `sig`. -/
theorem arity_static : [Op.q, .Q, .cm, .BT, .ET, .Tc, .Tw, .Tz, .TL, .Tf, .Ts, .Tr, .Td, .TD, .Tm, .Tstar, .Tj, .TJ,
      .quote, .dquote, .g, .G, .rg, .RG, .k, .K, .cs, .CS, .Do].all
    (fun op => arity op == (sig (GS.init MATRIX_IDENTITY) op).map List.length) = true := by decide +kernel

/-- Apart from `sc scn SC SCN`, whose `do_*` methods pop their operands themselves, `execute` pops
as many operands as the operator's signature has. -/
theorem arity_sig (gs : GS) (op : Op) (tys : List Ty) (hsig : sig gs op = some tys)
    (hdyn : op ≠ .sc ∧ op ≠ .scn ∧ op ≠ .SC ∧ op ≠ .SCN) : arity op = some tys.length := by
  cases op <;> simp only [sig, Option.some.injEq] at hsig <;> try subst hsig
  case other n =>
    obtain ⟨k, hk, rfl⟩ := Option.map_eq_some_iff.mp hsig
    rw [List.length_replicate]
    exact neutral_arity n k hk
  case sc => exact absurd rfl hdyn.1
  case scn => exact absurd rfl hdyn.2.1
  case SC => exact absurd rfl hdyn.2.2.1
  case SCN => exact absurd rfl hdyn.2.2.2
  all_goals exact eq_of_beq (List.all_eq_true.mp arity_static _ (by decide))

theorem dyn_cases (op : Op) :
    (op ≠ .sc ∧ op ≠ .scn ∧ op ≠ .SC ∧ op ≠ .SCN) ∨ op = .sc ∨ op = .scn ∨ op = .SC ∨ op = .SCN := by
  cases op <;> simp

/-- `do_sc`, `do_scn`, `do_SC`, `do_SCN` take no operand from `execute` (the regenerated `arityTable`). -/
theorem arity_setcolor (op : Op) (h : op = .sc ∨ op = .scn ∨ op = .SC ∨ op = .SCN) : arity op = some 0 := by
  rcases h with rfl | rfl | rfl | rfl <;> decide +kernel

theorem doSetColor_illtyped (m : MState) (stroke : Bool) (n : Nat) (args : List Obj)
    (hn : (if stroke then m.scs.2 else m.ncs.2) = n) (hpos : 0 < n)
    (hlen : args.length ≤ n) (hb : NoBool args) (hw : wellTyped (List.replicate n Ty.num) args = false)
    (hargs : m.argstack = []) :
    doSetColor { m with argstack := pushed args } stroke = m := by
  have hle := pushed_length_le args
  simp only [doSetColor, hn, Nat.ne_of_gt hpos, if_false, pop_short n _ (Nat.le_trans hle hlen), mstate_args_nil m hargs]
  split
  · rename_i hP
    have hl : args.length = n := by omega
    rw [pushed_eq_of_length args (hP.trans hl.symm), safeFloats_none args hb (hl ▸ hw)]
  · rfl

/-- C05 "operators with missing or ill-typed operands affect nothing but themselves", on the
model: after the operands and the operator, the interpreter is in the state it was in. -/
theorem illtyped_noop (env : Env) (rf : Form → MState → List Glyph × Bool) (m : MState) (gs : GS) (op : Op)
    (tys : List Ty) (args : List Obj) (hsig : sig gs op = some tys) (hlen : args.length ≤ tys.length)
    (hb : NoBool args) (hw : wellTyped tys args = false) (hargs : m.argstack = [])
    (hn : m.ncs.2 = gs.fillN) (hs : m.scs.2 = gs.strokeN)
    (hfn : 0 < gs.fillN) (hsn : 0 < gs.strokeN) :
    execTok env rf { m with argstack := m.argstack ++ pushed args } (.op op) = (m, []) := by
  rw [hargs, List.nil_append]
  rcases dyn_cases op with hdyn | hop
  · have hle := pushed_length_le args
    rw [execTok_op env rf m op tys.length _ (arity_sig gs op tys hsig hdyn) (Nat.le_trans hle hlen) hargs]
    split
    · rename_i hP
      have hl : args.length = tys.length := by omega
      rw [pushed_eq_of_length args (hP.trans hl.symm)]
      exact call_illtyped env rf m gs op tys args hsig hl hb hw hdyn
    · rfl
  rw [execTok_zero env rf _ op (arity_setcolor op hop)]
  rcases hop with rfl | rfl | rfl | rfl
  all_goals
    simp only [sig, Option.some.injEq] at hsig
    subst hsig
    rw [List.length_replicate] at hlen
    first
    | exact congrArg (·, []) (doSetColor_illtyped m false gs.fillN args hn hfn hlen hb hw hargs)
    | exact congrArg (·, []) (doSetColor_illtyped m true gs.strokeN args hs hsn hlen hb hw hargs)

theorem parseInstrs_sound' (toks : List Tok) (acc : List Obj) :
    ∀ (is : List Instr) (tr : List Obj), parseInstrs toks acc = (is, tr) →
      acc.map Tok.opnd ++ toks = is.flatMap Instr.toks ++ tr.map Tok.opnd := by
  fun_induction parseInstrs toks acc with
  | case1 acc => intro is tr h; cases h; simp
  | case2 acc o rest ih => intro is tr h; simpa using ih is tr h
  | case3 acc o rest is' tr' hp ih =>
    intro is tr h
    cases h
    have := ih is' tr' hp
    simp only [List.map_nil, List.nil_append] at this
    simp [List.flatMap_cons, Instr.toks, this]

theorem runInstrs_cons {env : Env} {rf : Form → GS → Res → Option (List Glyph)} {s s' : SState} {i : Instr}
    {rest : List Instr} {gl : List Glyph} (h : runInstrs env rf s (i :: rest) = some (s', gl)) :
    ∃ s1 g1 g2, step env rf s i = some (s1, g1) ∧ runInstrs env rf s1 rest = some (s', g2) ∧ gl = g1 ++ g2 := by
  simp only [runInstrs] at h
  rcases h1 : step env rf s i with _ | ⟨s1, g1⟩ <;> simp only [h1, reduceCtorEq] at h
  rcases h2 : runInstrs env rf s1 rest with _ | ⟨s2, g2⟩ <;> simp only [h2, reduceCtorEq] at h
  cases h
  exact ⟨s1, g1, g2, rfl, h2, rfl⟩

theorem runStream_congr {env : Env} {rf1 rf2 : Form → GS → Res → Option (List Glyph)} {gs : GS} {res : Res}
    {is1 is2 : List Instr} {gl : List Glyph}
    (h : ∀ r, runInstrs env rf1 ⟨gs, [], none, res⟩ is1 = some r → runInstrs env rf2 ⟨gs, [], none, res⟩ is2 = some r)
    (hh : runStream env rf1 gs res is1 = some gl) : runStream env rf2 gs res is2 = some gl := by
  unfold runStream at hh ⊢
  split at hh
  · cases hh
  · rename_i s' gl' hrun
    rw [h _ hrun]
    exact hh

def RfLe (rf1 rf2 : Form → GS → Res → Option (List Glyph)) : Prop :=
  ∀ fm gs res gl, rf1 fm gs res = some gl → rf2 fm gs res = some gl

theorem apply_mono (env : Env) {rf1 rf2 : Form → GS → Res → Option (List Glyph)} (h : RfLe rf1 rf2) (s : SState)
    (op : Op) (args : List Obj) (r : SState × List Glyph) :
    apply env rf1 s op args = some r → apply env rf2 s op args = some r := by
  unfold apply
  split <;> try exact id
  -- only `Do` consults the form runner
  rename_i n
  intro hh
  rcases hi : lookup n s.res.xobjs with _ | i <;> simp only [hi, reduceCtorEq] at hh ⊢
  rcases hfm : env.forms[i]? with _ | fm <;> simp only [hfm, reduceCtorEq] at hh ⊢
  obtain ⟨hact, hh⟩ := Option.ite_none_left_eq_some.mp hh
  rw [if_neg hact]
  split at hh
  · cases hh
  · rename_i gl hrun
    rw [h _ _ _ _ hrun]
    exact hh

theorem ite_mono {α : Type} {c : Prop} [Decidable c] {x f g : Option α} {r : α} (h : f = some r → g = some r) :
    (if c then x else f) = some r → (if c then x else g) = some r := by
  split
  · exact id
  · exact h

theorem step_mono (env : Env) {rf1 rf2 : Form → GS → Res → Option (List Glyph)} (h : RfLe rf1 rf2) (s : SState)
    (i : Instr) (r : SState × List Glyph) : step env rf1 s i = some r → step env rf2 s i = some r := by
  unfold step
  cases sig s.gs i.op with
  | none => exact id
  | some tys => exact ite_mono (ite_mono (ite_mono (ite_mono (apply_mono env h s i.op i.args r))))

theorem runInstrs_mono (env : Env) {rf1 rf2 : Form → GS → Res → Option (List Glyph)} (h : RfLe rf1 rf2)
    (is : List Instr) (s : SState) (r : SState × List Glyph) :
    runInstrs env rf1 s is = some r → runInstrs env rf2 s is = some r := by
  fun_induction runInstrs env rf1 s is generalizing r <;> intro hh
  case case1 => exact hh
  case case4 h1 _ _ h2 ih =>
    cases hh
    simp only [runInstrs, step_mono env h _ _ _ h1, ih _ h2]
  all_goals cases hh

/-- The budget is only a bound on the depth of `Do`, not part of the meaning. -/
theorem runForm_fuel_mono (env : Env) : ∀ fuel : Nat, RfLe (TextModel.runForm env fuel) (TextModel.runForm env (fuel + 1))
  | 0 => by intro fm gs res gl h; simp [TextModel.runForm] at h
  | fuel + 1 => by
    intro fm gs res gl h
    have ih := runForm_fuel_mono env fuel
    rw [TextModel.runForm] at h ⊢
    split at h
    · exact runStream_congr (runInstrs_mono env ih _ _) h
    · cases h

theorem doShow_inv (env : Env) (st : MState) (seq : List Elem) :
    (doShow env st seq).1.res = st.res ∧ (doShow env st seq).1.fuelOk = st.fuelOk := by
  unfold doShow
  split <;> simp

theorem doSetColor_inv (st : MState) (b : Bool) :
    (doSetColor st b).res = st.res ∧ (doSetColor st b).fuelOk = st.fuelOk := by
  unfold doSetColor
  cases b <;> simp only [Bool.false_eq_true, if_false, if_true] <;> repeat' split
  all_goals exact ⟨rfl, rfl⟩

/-- The form runner stays within its budget on every form `Do` can start while the forms `active` are
being painted. -/
def FormsOk (env : Env) (rf : Form → MState → List Glyph × Bool) (active : List Nat) : Prop :=
  ∀ j fm, env.forms[j]? = some fm → active.contains j = false →
    ∀ st0 : MState, st0.fuelOk = true → st0.res.active = j :: active → (rf fm st0).2 = true

/-- No `do_*` method changes the resources; only `Do` can clear the budget flag, and only when
the form it runs does. -/
theorem call_inv (env : Env) (rf : Form → MState → List Glyph × Bool) (st : MState) (op : Op) (args : List Obj)
    (hrf : FormsOk env rf st.res.active) (hf : st.fuelOk = true) :
    (call env rf st op args).1.res = st.res ∧ (call env rf st op args).1.fuelOk = true := by
  fun_cases call env rf st op args
  all_goals try first
    | exact ⟨rfl, hf⟩
    | exact ⟨(doShow_inv env _ _).1, (doShow_inv env _ _).2.trans hf⟩
    | exact ⟨(doSetColor_inv _ _).1, (doSetColor_inv _ _).2.trans hf⟩
  -- what is left is `Do` of a form that is run
  rename_i n i hi fm hfm hact matrix res st0 gs ok hrun
  have hok := hrf i fm hfm (by simpa using hact) st0 rfl rfl
  rw [hrun] at hok
  exact ⟨rfl, Bool.and_eq_true_iff.mpr ⟨hf, hok⟩⟩

theorem execTok_inv (env : Env) (rf : Form → MState → List Glyph × Bool) (st : MState) (t : Tok)
    (hrf : FormsOk env rf st.res.active) (hf : st.fuelOk = true) :
    (execTok env rf st t).1.res = st.res ∧ (execTok env rf st t).1.fuelOk = true := by
  fun_cases execTok env rf st t
  all_goals first | exact ⟨rfl, hf⟩ | exact call_inv env rf _ _ _ hrf hf

theorem execToks_inv (env : Env) (rf : Form → MState → List Glyph × Bool) (res : Res)
    (hrf : FormsOk env rf res.active) (toks : List Tok) : ∀ st : MState, st.res = res → st.fuelOk = true →
      (execToks env rf st toks).1.res = res ∧ (execToks env rf st toks).1.fuelOk = true := by
  induction toks with
  | nil => intro st h1 h2; simp [execToks, h1, h2]
  | cons t rest ih =>
    intro st h1 h2
    simp only [execToks]
    obtain ⟨h3, h4⟩ := execTok_inv env rf st t (by rw [h1]; exact hrf) h2
    exact ih _ (by rw [h3, h1]) h4

/-- Forms of the table that are not being painted: the nesting that is still possible. -/
def freeForms (env : Env) (active : List Nat) : Nat :=
  ((List.range env.forms.length).filter (fun j => !active.contains j)).length

theorem freeForms_lt (env : Env) (active : List Nat) (j : Nat) (hj : j < env.forms.length)
    (hact : active.contains j = false) : freeForms env (j :: active) < freeForms env active := by
  unfold freeForms
  -- the forms free beside `j :: active` are those free beside `active`, without `j`
  have h : ∀ l : List Nat, l.filter (fun x => !(j :: active).contains x) =
      (l.filter (fun x => !active.contains x)).filter (· != j) := fun l => by
    rw [List.filter_filter]
    exact List.filter_congr fun x _ => by rw [List.contains_cons, Bool.not_or]; rfl
  rw [h]
  exact List.length_filter_lt_length_iff_exists.mpr
    ⟨j, List.mem_filter.mpr ⟨List.mem_range.mpr hj, by rw [hact]; rfl⟩, by simp⟩

/-- A form never exhausts a budget larger than the number of forms not yet being painted: the
`active_forms` guard bounds the nesting by the size of the form table, whatever the forms invoke. -/
theorem runForm_budget (env : Env) : ∀ (fuel : Nat) (fm : Form) (m0 : MState),
    freeForms env m0.res.active < fuel → m0.fuelOk = true → (Interp.runForm env fuel fm m0).2 = true
  | 0, _, _, h, _ => absurd h (Nat.not_lt_zero _)
  | k + 1, fm, m0, hfree, hf => by
    simp only [Interp.runForm]
    refine (execToks_inv env (Interp.runForm env k) m0.res ?_ fm.body m0 rfl hf).2
    intro j fm' hfm' hact st0 hst0 hres0
    obtain ⟨hjl, _⟩ := List.getElem?_eq_some_iff.mp hfm'
    have := freeForms_lt env m0.res.active j hjl hact
    exact runForm_budget env k fm' st0 (by rw [hres0]; omega) hst0

end PdfVerif.Interp
