/-
C02 — `SecLists` derived from what was written.  A classic table (`secLists_table`): the loaded table
answers like the writer's entry list as soon as the subsections and the list hold the same
`(number, entry)` pairs (any order, any grouping into subsections), every number once.  A
cross-reference stream (`rowSpec_lists`): the row an object number selects through the `/Index` ranges
is the list's entry as soon as the in-use rows, numbered by the ranges, are that list, every number once.
-/
import PdfVerif.Lemmas.XrefTable
import PdfVerif.Lemmas.XrefHist

namespace PdfVerif.Xref

open PdfVerif.Gen.Xref

/-- last matching pair wins (how `specSubs` / the dict of `PDFXRef.load` read a list of lines) -/
def lastOf (l : List (Int × Entry)) (n : Int) (acc : Option Entry) : Option Entry :=
  l.foldl (fun a p => if p.1 == n then some p.2 else a) acc

theorem specEntries_flat (es : List TEntry) (objid n : Int) (acc : Option Entry) :
    specEntries objid es n acc = lastOf (flatEntries objid es) n acc := by
  induction es generalizing objid acc with
  | nil => rfl
  | cons e es ih =>
    simp only [specEntries, flatEntries]
    cases hi : e.inuse with
    | false => simp only [Bool.false_and, Bool.false_eq_true, ↓reduceIte]; exact ih _ _
    | true =>
      simp only [Bool.true_and, ↓reduceIte]
      rw [ih]
      simp [lastOf]

theorem specSubs_flat (subs : List Sub) (n : Int) (acc : Option Entry) :
    specSubs subs n acc = lastOf (flatSubs subs) n acc := by
  induction subs generalizing acc with
  | nil => rfl
  | cons sb rest ih =>
    simp only [specSubs, flatSubs]
    rw [ih, specEntries_flat]
    simp [lastOf, List.foldl_append]

theorem nodupKeysB_sound (l : List (Int × Entry)) (h : nodupKeysB l = true) :
    l.Pairwise (fun p q => p.1 ≠ q.1) := by
  induction l with
  | nil => exact .nil
  | cons p r ih =>
    simp only [nodupKeysB, Bool.and_eq_true, List.all_eq_true, bne_iff_ne, ne_eq] at h
    exact List.pairwise_cons.mpr ⟨fun q hq => Ne.symm (h.1 q hq), ih h.2⟩

theorem lastOf_nokey (l : List (Int × Entry)) (n : Int) (acc : Option Entry) (h : ∀ q ∈ l, q.1 ≠ n) :
    lastOf l n acc = acc := by
  induction l generalizing acc with
  | nil => rfl
  | cons p r ih =>
    rw [lastOf, List.foldl_cons, beq_false_of_ne (h p List.mem_cons_self)]
    exact ih acc (fun q hq => h q (List.mem_cons_of_mem _ hq))

/-- With every number listed once, the last line for `n` is the first one. -/
theorem lastOf_nodup (l : List (Int × Entry)) (n : Int) (h : l.Pairwise (fun p q => p.1 ≠ q.1)) :
    lastOf l n none = lookupOff l n := by
  induction l with
  | nil => rfl
  | cons p r ih =>
    obtain ⟨k, e⟩ := p
    rw [List.pairwise_cons] at h
    rw [lastOf, List.foldl_cons, lookupOff]
    by_cases hk : k = n
    · subst hk
      rw [beq_self_eq_true, if_pos rfl, if_pos rfl]
      exact lastOf_nokey r k (some e) (fun q hq => Ne.symm (h.1 q hq))
    · rw [beq_false_of_ne hk]
      exact ih h.2

theorem lookupOff_entsInt (ents : List (Nat × Entry)) (n : Nat) : lookupOff (entsInt ents) (n : Int) = lookupNat ents n := by
  induction ents with
  | nil => rfl
  | cons p r ih =>
    obtain ⟨k, e⟩ := p
    have : ((k : Int) == (n : Int)) = (k == n) := by
      rw [Bool.eq_iff_iff, beq_iff_eq, beq_iff_eq, Int.natCast_inj]
    rw [lookupNat, ← ih, ← this]
    rfl

theorem sameAssocB_sound (a b : List (Int × Entry)) (h : sameAssocB a b = true) :
    a.Pairwise (fun p q => p.1 ≠ q.1) ∧ b.Pairwise (fun p q => p.1 ≠ q.1) ∧ ∀ p, p ∈ a ↔ p ∈ b := by
  simp only [sameAssocB, Bool.and_eq_true, List.all_eq_true, List.contains_eq_mem, decide_eq_true_eq] at h
  exact ⟨nodupKeysB_sound a h.1.2, nodupKeysB_sound b h.2, fun p => ⟨h.1.1.1 p, h.1.1.2 p⟩⟩

theorem lookupOff_of_sameAssoc {a : List (Int × Entry)} {ents : List (Nat × Entry)}
    (h : sameAssocB a (entsInt ents) = true) (n : Nat) : lookupOff a n = lookupNat ents n := by
  obtain ⟨ha, hb, hab⟩ := sameAssocB_sound _ _ h
  rw [lookupOff_eq_lookup, lookup_congr ha hb hab, ← lookupOff_eq_lookup, lookupOff_entsInt]

theorem secLists_table (subs : List Sub) (ents : List (Nat × Entry))
    (h : sameAssocB (flatSubs subs) (entsInt ents) = true) : SecLists (.table (insSubs subs [])) ents := by
  intro n
  rw [Section.getPos, lookup_insSubs, specSubs_flat]
  show lastOf (flatSubs subs) n none = _
  rw [lastOf_nodup _ _ (sameAssocB_sound _ _ h).1, lookupOff_of_sameAssoc h]

theorem lookup_rangeRows (s c : Nat) (rows : List Row) (n : Nat) (h : c ≤ rows.length) :
    lookupNat (rangeRows s c rows) n = if s ≤ n ∧ n < s + c then (rows[n - s]?).map specRowEntry else none := by
  fun_induction rangeRows s c rows with
  | case1 s rows =>
    have : ¬ (s ≤ n ∧ n < s + 0) := fun h => Nat.lt_irrefl _ (Nat.lt_of_le_of_lt h.1 h.2)
    rw [if_neg this]
    rfl
  | case2 => cases h
  | case3 s c r rows ih =>
    rw [lookupNat]
    by_cases hk : s = n
    · subst hk
      have : s ≤ s ∧ s < s + (c + 1) := ⟨Nat.le_refl _, Nat.lt_add_of_pos_right (Nat.succ_pos _)⟩
      simp [this]
    · have hk' : (s == n) = false := by simpa using hk
      simp only [hk', Bool.false_eq_true, ↓reduceIte]
      rw [ih (Nat.le_of_succ_le_succ h)]
      by_cases hin : s ≤ n ∧ n < s + (c + 1)
      · have hlt : s < n := Nat.lt_of_le_of_ne hin.1 hk
        have hin' : s + 1 ≤ n ∧ n < s + 1 + c := ⟨hlt, by rw [Nat.add_right_comm]; exact hin.2⟩
        have hidx : n - s = (n - (s + 1)) + 1 := by
          rw [Nat.sub_succ]
          exact (Nat.succ_pred_eq_of_pos (Nat.sub_pos_of_lt hlt)).symm
        simp only [hin, hin', and_self, ↓reduceIte]
        rw [hidx, List.getElem?_cons_succ]
      · have hin' : ¬ (s + 1 ≤ n ∧ n < s + 1 + c) :=
          fun h' => hin ⟨Nat.le_of_succ_le h'.1, Nat.add_right_comm s 1 c ▸ h'.2⟩
        simp [hin, hin']

theorem rowSpec_flat (ranges : List (Nat × Nat)) (rows : List Row) (n : Nat) (h : sumCounts ranges ≤ rows.length) :
    (rowSpec ranges rows n).bind specRowEntry = (lookupNat (flatRows ranges rows) n).join := by
  induction ranges generalizing rows with
  | nil => rfl
  | cons sc rest ih =>
    obtain ⟨s, c⟩ := sc
    simp only [sumCounts] at h
    simp only [rowSpec, flatRows]
    rw [lookupNat_append, lookup_rangeRows s c rows n (Nat.le_trans (Nat.le_add_right _ _) h)]
    by_cases hin : s ≤ n ∧ n < s + c
    · have hlt : n - s < rows.length :=
        Nat.lt_of_lt_of_le (Nat.sub_lt_left_of_lt_add hin.1 hin.2) (Nat.le_trans (Nat.le_add_right _ _) h)
      simp only [hin, and_self, ↓reduceIte, List.getElem?_eq_getElem hlt, Option.map_some, Option.bind_some,
        Option.some_or, Option.join_some]
    · simp only [hin, ↓reduceIte, Option.none_or]
      exact ih (rows.drop c) (by rw [List.length_drop]; exact Nat.le_sub_of_add_le (Nat.add_comm .. ▸ h))

theorem lookup_inuse_nokey (l : List (Nat × Option Entry)) (n : Nat) (h : n ∉ l.map (·.1)) :
    lookupNat (inuseRows l) n = none := by
  rw [lookupNat_eq_lookup, List.lookup_eq_none_iff]
  intro p hp
  obtain ⟨a, ha, hap⟩ := List.mem_filterMap.mp hp
  cases ho : a.2 with
  | none => rw [ho] at hap; cases hap
  | some e =>
    rw [ho] at hap
    cases hap
    exact bne_iff_ne.mpr fun hn => h (hn ▸ List.mem_map_of_mem ha)

theorem join_lookup_inuse (l : List (Nat × Option Entry)) (n : Nat) (h : (l.map (·.1)).Nodup) :
    (lookupNat l n).join = lookupNat (inuseRows l) n := by
  induction l with
  | nil => rfl
  | cons p r ih =>
    obtain ⟨k, o⟩ := p
    rw [List.map_cons, List.nodup_cons] at h
    have hcons : inuseRows ((k, o) :: r) =
        match o with | some e => (k, e) :: inuseRows r | none => inuseRows r := by cases o <;> rfl
    rw [hcons, lookupNat]
    by_cases hk : k = n
    · subst hk
      rw [beq_self_eq_true, if_pos rfl]
      cases o with
      | none => exact (lookup_inuse_nokey r k h.1).symm
      | some e => rw [lookupNat, beq_self_eq_true, if_pos rfl]; rfl
    · rw [beq_false_of_ne hk, if_neg Bool.false_ne_true, ih h.2]
      cases o with
      | none => rfl
      | some e => rw [lookupNat, beq_false_of_ne hk, if_neg Bool.false_ne_true]

theorem rowSpec_lists (ranges : List (Nat × Nat)) (rows : List Row) (ents : List (Nat × Entry))
    (hlen : sumCounts ranges ≤ rows.length) (h : streamListsB ranges rows ents = true) (n : Nat) :
    (rowSpec ranges rows n).bind specRowEntry = lookupNat ents n := by
  simp only [streamListsB, Bool.and_eq_true] at h
  rw [rowSpec_flat ranges rows n hlen, join_lookup_inuse _ n (nodupNat_sound _ h.1), ← lookupOff_entsInt,
    lookupOff_of_sameAssoc h.2]

end PdfVerif.Xref
