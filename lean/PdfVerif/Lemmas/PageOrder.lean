/-
Lemmas for C04: the walk with its visited set yields the pages in the order of the
algorithm-independent specification `specOrder` (first arrivals of the depth-first enumeration of
all simple Kids paths), on every object graph; the path budget of that specification cuts nothing.
-/
import PdfVerif.Lemmas.PageGraph

namespace PdfVerif.PageTree
open PdfVerif PdfVerif.Gen.PageTree

theorem mem_novel : ∀ (xs seen : List Nat) (y : Nat), y ∈ novel seen xs ↔ y ∈ xs ∧ y ∉ seen := by
  intro xs
  induction xs with
  | nil => intro seen y; simp [novel]
  | cons x xs ih =>
    intro seen y
    by_cases hx : x ∈ seen <;> by_cases hy : y = x <;> simp [novel, hx, hy, ih]

theorem novel_congr : ∀ (xs s1 s2 : List Nat), (∀ x ∈ xs, x ∈ s1 ↔ x ∈ s2) → novel s1 xs = novel s2 xs := by
  intro xs
  induction xs with
  | nil => intro s1 s2 _; rfl
  | cons x xs ih =>
    intro s1 s2 h
    have hx : s1.contains x = s2.contains x := by
      simp only [List.contains_eq_mem, decide_eq_decide]; exact h x List.mem_cons_self
    rw [novel, novel, hx, ih s1 s2 (fun y hy => h y (List.mem_cons_of_mem _ hy)),
      ih (x :: s1) (x :: s2) (fun y hy => by simp only [List.mem_cons, h y (List.mem_cons_of_mem _ hy)])]

theorem novel_append : ∀ (xs ys seen : List Nat),
    novel seen (xs ++ ys) = novel seen xs ++ novel (novel seen xs ++ seen) ys := by
  intro xs
  induction xs with
  | nil => intro ys seen; rfl
  | cons x xs ih =>
    intro ys seen
    simp only [List.cons_append, novel]
    split
    · exact ih ys seen
    · rw [ih, List.cons_append, List.cons_append]
      congr 2
      exact novel_congr _ _ _ (fun y _ => by simp only [List.mem_append, List.mem_cons, or_left_comm])

theorem novel_of_subset (xs seen : List Nat) (h : ∀ y ∈ xs, y ∈ seen) : novel seen xs = [] :=
  List.eq_nil_iff_forall_not_mem.mpr fun y hy =>
    ((mem_novel xs seen y).mp hy).2 (h y ((mem_novel xs seen y).mp hy).1)

def kidLeaves (g : Store) (f : Nat) (anc : List Nat) (k : Elem) : List Nat :=
  match kidId k with
  | some b => pathLeaves g f anc b
  | none => []

theorem pathLeaves_succ (g : Store) (f : Nat) (anc : List Nat) (n : Nat) :
    pathLeaves g (f + 1) anc n =
      if anc.contains n then []
      else if isPagesNode g n then (kidsOf g n).flatMap (kidLeaves g f (n :: anc))
      else if isPageNode g n then [n] else [] := by
  simp only [pathLeaves]
  rfl

theorem mem_kidLeaves (g : Store) (f : Nat) (anc : List Nat) (k : Elem) (y : Nat) :
    y ∈ kidLeaves g f anc k ↔ ∃ b, kidId k = some b ∧ y ∈ pathLeaves g f anc b := by
  unfold kidLeaves
  cases kidId k <;> simp

theorem mem_pathLeaves_succ (g : Store) (f : Nat) (anc : List Nat) (n y : Nat) :
    y ∈ pathLeaves g (f + 1) anc n ↔ n ∉ anc ∧
      (isPagesNode g n = true ∧ (∃ b, Edge g n b ∧ y ∈ pathLeaves g f (n :: anc) b) ∨
       isPagesNode g n = false ∧ isPageNode g n = true ∧ y = n) := by
  rw [pathLeaves_succ]
  by_cases hna : n ∈ anc
  · simp [hna]
  · cases hpn : isPagesNode g n with
    | true =>
      simp only [List.contains_eq_mem, hna, decide_false, Bool.false_eq_true, if_false, if_true, List.mem_flatMap,
        mem_kidLeaves, Edge, not_false_eq_true, true_and, Bool.true_eq_false, false_and, or_false]
      constructor
      · rintro ⟨k, hk, b, hb, hy⟩; exact ⟨b, ⟨k, hk, hb⟩, hy⟩
      · rintro ⟨b, ⟨k, hk, hb⟩, hy⟩; exact ⟨k, hk, b, hb, hy⟩
    | false => cases isPageNode g n <;> simp [hna]

theorem pathLeaves_page (g : Store) : ∀ f anc n, ∀ y ∈ pathLeaves g f anc n, isPageNode g y = true := by
  intro f
  induction f with
  | zero => intro anc n y h; cases h
  | succ f ih =>
    intro anc n y h
    rcases (mem_pathLeaves_succ g f anc n y).mp h with ⟨_, ⟨_, b, _, hy⟩ | ⟨_, hp, rfl⟩⟩
    · exact ih _ b y hy
    · exact hp

theorem kidLeaves_page (g : Store) (f : Nat) (anc : List Nat) (ks : List Elem) :
    ∀ y ∈ ks.flatMap (kidLeaves g f anc), isPageNode g y = true := by
  intro y hy
  obtain ⟨k, _, hk⟩ := List.mem_flatMap.mp hy
  obtain ⟨b, _, hb⟩ := (mem_kidLeaves g f anc k y).mp hk
  exact pathLeaves_page g f anc b y hb

/-- Every node of `vis` outside `anc` is finished: all its Kids entries are in `vis`. -/
def Closed (g : Store) (vis anc : List Nat) : Prop :=
  ∀ m ∈ vis, m ∉ anc → ∀ b, Edge g m b → b ∈ vis

/-- From a visited node, simple paths that avoid the unfinished nodes stay inside the visited set. -/
theorem finished_leaves (g : Store) (vis anc : List Nat) (hc : Closed g vis anc) :
    ∀ f anc' n, anc ⊆ anc' → n ∈ vis → ∀ y ∈ pathLeaves g f anc' n, y ∈ vis := by
  intro f
  induction f with
  | zero => intro anc' n _ _ y h; cases h
  | succ f ih =>
    intro anc' n hsub hn y h
    rcases (mem_pathLeaves_succ g f anc' n y).mp h with ⟨hna, ⟨_, b, hedge, hy⟩ | ⟨_, _, rfl⟩⟩
    · have hbv : b ∈ vis := hc n hn (fun h' => hna (hsub h')) b hedge
      exact ih (n :: anc') b (List.subset_cons_of_subset _ hsub) hbv y hy
    · exact hn

/-- What the order proof needs of one visit (started with visited set `vis`, unfinished nodes
`anc`, budget `f`): when it ends normally, the indirect pages it yields are the new first arrivals
of the path enumeration below the entry, everything visited outside `anc` is finished, and the entry
itself has been visited. -/
def OrderOK (g : Store) (f : Nat) (w : Walk) (vis anc : List Nat) (kid : Elem) : Prop :=
  w.err = none →
    w.pages.filterMap (·.id) = novel vis (kidLeaves g f anc kid) ∧ Closed g w.visited anc ∧
    ∀ b, kidId kid = some b → b ∈ w.visited

theorem walkKids_order (g : Store) (f : Nat) (anc : List Nat) (visitOne : Elem → Dict → List Nat → Walk)
    (hinv : ∀ k P vis, WalkInv g (visitOne k P vis) vis)
    (hv : ∀ k P vis, Closed g vis anc → anc ⊆ vis → OrderOK g f (visitOne k P vis) vis anc k) :
    ∀ ks P vis, Closed g vis anc → anc ⊆ vis → (walkKids visitOne ks P vis).err = none →
      (walkKids visitOne ks P vis).pages.filterMap (·.id) = novel vis (ks.flatMap (kidLeaves g f anc)) ∧
      Closed g (walkKids visitOne ks P vis).visited anc ∧
      ∀ k ∈ ks, ∀ b, kidId k = some b → b ∈ (walkKids visitOne ks P vis).visited := by
  intro ks P vis
  fun_induction walkKids visitOne ks P vis with
  | case1 => exact fun hc _ _ => ⟨rfl, hc, nofun⟩
  | case2 k _ P vis w1 e he => exact fun _ _ herr => nomatch he.symm.trans herr
  | case3 k ks P vis w1 he w2 ih =>
    intro hc hsub herr
    obtain ⟨hp1, hc1, hk1⟩ := hv k P vis hc hsub he
    obtain ⟨new1, hv1, _, hpg1⟩ : WalkInv g w1 vis := hinv k P vis
    obtain ⟨new2, hv2, _, _⟩ : WalkInv g w2 w1.visited := walkKids_inv g visitOne hinv ks P w1.visited
    obtain ⟨hp2, hc2, hk2⟩ := ih hc1 (hv1 ▸ List.subset_append_of_subset_right _ hsub) herr
    refine ⟨?_, hc2, ?_⟩
    · rw [List.filterMap_append, List.flatMap_cons, novel_append, hp2, ← hp1, hpg1, hv1]
      congr 1
      -- what was visited and what was yielded so far hold the same Page nodes
      apply novel_congr
      intro y hy
      simp [kidLeaves_page g f anc ks y hy]
    · intro k' hk' b hb
      rcases List.mem_cons.mp hk' with rfl | h
      · exact hv2 ▸ List.mem_append_right _ (hk1 b hb)
      · exact hk2 k' h b hb

theorem no_edge_of_not_pages (g : Store) (id b : Nat) (h : isPagesNode g id = false) : ¬ Edge g id b := by
  rintro ⟨k, hk, _⟩
  simp [kidsOf, h] at hk

theorem closed_push (g : Store) (vis anc : List Nat) (n : Nat) (hc : Closed g vis anc) :
    Closed g (n :: vis) (n :: anc) := by
  intro m hm hma b hb
  simp only [List.mem_cons, not_or] at hm hma
  exact List.mem_cons_of_mem _ (hc m (hm.resolve_left hma.1) hma.2 b hb)

theorem closed_leaf (g : Store) (vis anc : List Nat) (n : Nat) (hc : Closed g vis anc)
    (hne : ∀ b, ¬ Edge g n b) : Closed g (n :: vis) anc := by
  intro m hm hma b hb
  rcases List.mem_cons.mp hm with h | h
  · subst h; exact absurd hb (hne b)
  · exact List.mem_cons_of_mem _ (hc m h hma b hb)

theorem visit_order (g : Store) : ∀ fuel kid P vis anc, Closed g vis anc → anc ⊆ vis →
    OrderOK g fuel (visit g fuel kid P vis) vis anc kid := by
  intro fuel
  induction fuel with
  | zero => intro kid P vis anc _ _ herr; cases herr
  | succ f ih =>
    intro kid P vis anc hc hsub
    refine visit_cases (motive := fun w => OrderOK g (f + 1) w vis anc kid) g f kid P vis ?_ ?_ ?_ ?_ ?_
    · intro herr; cases herr
    · intro hk pages hp _
      refine ⟨?_, hc, fun b hb => by rw [hk] at hb; cases hb⟩
      simp only [kidLeaves, hk, novel]
      exact List.filterMap_eq_nil_iff.mpr hp
    · intro id hk hid _
      refine ⟨?_, hc, fun b hb => by rw [hk] at hb; cases hb; exact hid⟩
      simp only [kidLeaves, hk]
      exact (novel_of_subset _ _ (finished_leaves g vis anc hc (f + 1) anc id (List.Subset.refl _) hid)).symm
    · intro id hk hid hpn herr
      obtain ⟨hp, hcl, hkids⟩ := walkKids_order g f (id :: anc) (visit g f) (visit_inv g f)
        (fun k P' vis' hc' hs' => ih k P' vis' (id :: anc) hc' hs')
        (kidsOf g id) (overlay P (nodeDict g id)) (id :: vis) (closed_push g vis anc id hc)
        (List.cons_subset_cons id hsub) herr
      obtain ⟨new, h1, _, _⟩ := walkKids_inv g (visit g f) (visit_inv g f)
        (kidsOf g id) (overlay P (nodeDict g id)) (id :: vis)
      refine ⟨?_, ?_, fun b hb => by rw [hk] at hb; cases hb; rw [h1]; simp⟩
      · simp only [kidLeaves, hk]
        have hca : anc.contains id = false := by simpa using fun h => hid (hsub h)
        simp only [pathLeaves_succ, hca, hpn, Bool.false_eq_true, if_false, if_true, hp]
        -- `id` itself is a Pages node, so it is not among the leaves
        apply novel_congr
        intro y hy
        have hyp := kidLeaves_page g f (id :: anc) _ y hy
        have hne : y ≠ id := by
          rintro rfl
          simp [isPageNode, hpn] at hyp
        simp [hne]
      · intro m hm hma b hb
        by_cases hmi : m = id
        · -- `id` is on the stack until its kids are done, so it is closed by what the walk of its kids visited
          obtain ⟨k, hk', hkb⟩ := hmi ▸ hb
          exact hkids k hk' b hkb
        · exact hcl m hm (fun h => (List.mem_cons.mp h).elim hmi hma) b hb
    · intro id hk hid hpn _
      refine ⟨?_, closed_leaf g vis anc id hc (fun b => no_edge_of_not_pages g id b hpn),
        fun b hb => by rw [hk] at hb; cases hb; exact List.mem_cons_self⟩
      simp only [kidLeaves, hk]
      have hca : anc.contains id = false := by simpa using fun h => hid (hsub h)
      simp only [pathLeaves_succ, hca, hpn, Bool.false_eq_true, if_false]
      cases isPageNode g id <;> simp [novel, hid]

theorem reach_visited (g : Store) (fuel : Nat) (r : Nat) (P : Dict)
    (herr : (visit g fuel (.atom (.ref r)) P []).err = none) :
    ∀ n, Reach g r n → n ∈ (visit g fuel (.atom (.ref r)) P []).visited := by
  obtain ⟨_, hc, hr⟩ := visit_order g fuel (.atom (.ref r)) P [] [] nofun (List.nil_subset _) herr
  intro n hn
  induction hn with
  | refl => exact hr r rfl
  | step _ hedge ih => exact hc _ ih nofun _ hedge

theorem pathLeaves_budget (g : Store) : ∀ f anc n, unvisited (g.map Prod.fst) anc < f →
    pathLeaves g (f + 1) anc n = pathLeaves g f anc n := by
  intro f anc n
  fun_induction pathLeaves g f anc n with
  | case1 => exact fun h => absurd h (Nat.not_lt_zero _)
  | case3 f anc n hna hpn ih =>
    intro hlt
    have := unvisited_cons_lt (g.map Prod.fst) anc n (isPagesNode_mem_keys g n hpn) (by simpa using hna)
    rw [pathLeaves, if_neg hna, if_pos hpn]
    congr 1
    funext k
    split
    · exact ih _ (by omega)
    · rfl
  | case2 | case4 | case5 => intro _; simp only [pathLeaves_succ, *, if_true, Bool.false_eq_true, if_false]

theorem pathLeaves_stable (g : Store) (anc : List Nat) (n : Nat) :
    ∀ d, pathLeaves g (g.length + 1 + d) anc n = pathLeaves g (g.length + 1) anc n := by
  intro d
  induction d with
  | zero => rfl
  | succ d ih =>
    rw [← ih]
    have := unvisited_le g anc
    exact pathLeaves_budget g (g.length + 1 + d) anc n (by omega)

end PdfVerif.PageTree
