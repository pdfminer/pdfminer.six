/-
The regenerated byte-class tables of `Gen/LexTables.lean` in closed form, each read off the regular
expression in psparser.py that the table is regenerated from.  To the kernel a look-up in a 256-entry
array literal is a walk along the literal, so a check over all bytes that mentions a table is
quadratic; comparing the table once with the list of values of its closed form is linear (`table_getD`),
and a fact relating several classes is then a fact about bytes with no table in it: rewrite with the
closed forms, then let the kernel run through the 256 bytes (`Lexer.forall_byte`).
-/
import PdfVerif.Model.Lexer

theorem PdfVerif.Lexer.forall_byte (P : UInt8 → Bool)
    (h : (List.range 256).all (fun n => P (UInt8.ofNat n)) = true) : ∀ c : UInt8, P c = true := by
  intro c
  have := List.all_eq_true.mp h c.toNat (List.mem_range.mpr c.toNat_lt)
  simpa using this

namespace PdfVerif.Gen.LexTables
open PdfVerif.Lexer

theorem table_getD {t : Array Bool} {p : UInt8 → Bool}
    (h : t.toList = (List.range 256).map fun n => p (UInt8.ofNat n)) (c : UInt8) :
    t.getD c.toNat false = p c := by
  have hc : c.toNat < 256 := c.toNat_lt
  rw [Array.getD_eq_getD_getElem?, ← Array.getElem?_toList, h]
  simp [hc]

theorem isEOL_eq : ∀ c : UInt8, isEOL c = (c == 10 || c == 13) :=
  table_getD (t := tEOL) (by decide +kernel)

theorem isSPC_eq : ∀ c : UInt8, isSPC c = (c == 0 || (9 ≤ c && c ≤ 13) || c == 32) :=
  table_getD (t := tSPC) (by decide +kernel)

/-- `\S`: NUL is not white space here -/
theorem isNONSPC_eq : ∀ c : UInt8, isNONSPC c = !((9 ≤ c && c ≤ 13) || c == 32) :=
  table_getD (t := tNONSPC) (by decide +kernel)

theorem isHEX_eq : ∀ c : UInt8,
    isHEX c = ((48 ≤ c && c ≤ 57) || (65 ≤ c && c ≤ 70) || (97 ≤ c && c ≤ 102)) :=
  table_getD (t := tHEX) (by decide +kernel)

theorem isOCT_STRING_eq : ∀ c : UInt8, isOCT_STRING c = (48 ≤ c && c ≤ 55) :=
  table_getD (t := tOCT_STRING) (by decide +kernel)

theorem isEND_STRING_eq : ∀ c : UInt8, isEND_STRING c = (c == 40 || c == 41 || c == 92) :=
  table_getD (t := tEND_STRING) (by decide +kernel)

theorem isEND_NUMBER_eq : ∀ c : UInt8, isEND_NUMBER c = !isDigit c :=
  table_getD (t := tEND_NUMBER) (by decide +kernel)

/-- `[#/%\[\]()<>{}\s\x00]` -/
theorem isEND_LITERAL_eq : ∀ c : UInt8,
    isEND_LITERAL c = (c == 0 || (9 ≤ c && c ≤ 13) || c == 32 || c == 35 || c == 37 || c == 40 || c == 41 ||
      c == 47 || c == 60 || c == 62 || c == 91 || c == 93 || c == 123 || c == 125) :=
  table_getD (t := tEND_LITERAL) (by decide +kernel)

/-- END_KEYWORD is the same expression as END_LITERAL, and the same table -/
theorem isEND_KEYWORD_eq_literal : isEND_KEYWORD = isEND_LITERAL := rfl

/-- `[^\s\x000-9a-fA-F]` -/
theorem isEND_HEX_STRING_eq : ∀ c : UInt8,
    isEND_HEX_STRING c = !(c == 0 || (9 ≤ c && c ≤ 13) || c == 32 ||
      (48 ≤ c && c ≤ 57) || (65 ≤ c && c ≤ 70) || (97 ≤ c && c ≤ 102)) :=
  table_getD (t := tEND_HEX_STRING) (by decide +kernel)

end PdfVerif.Gen.LexTables
