/-
Lemmas for C04 on the walk: the attribute overlay, one call of `depth_first_search` stated on the
Kids graph, the walk on a tree contained in the object graph, from raw pages to `PDFPage` objects,
and the driver's domain test.
-/
import PdfVerif.Spec.PageTree

namespace PdfVerif.PageTree
open PdfVerif PdfVerif.Gen.PageTree

theorem lookup_filter_key {β : Type} (f : String → Bool) (P : List (String × β)) (k : String) :
    (P.filter (fun kv => f kv.1)).lookup k = if f k then P.lookup k else none := by
  induction P with
  | nil => simp
  | cons kv P ih =>
    obtain ⟨k', v⟩ := kv
    by_cases hk : k = k'
    · subst hk
      by_cases hf : f k = true <;> simp [hf, ih]
    · have hk' : (k == k') = false := by simpa using hk
      by_cases hf : f k' = true <;> simp [List.lookup_cons, hf, hk', ih]

theorem dget_overlay (P d : Dict) (k : String) :
    dget (overlay P d) k =
      (dget d k).or (if INHERITABLE_ATTRS.contains k then dget P k else none) := by
  unfold overlay dget
  rw [List.lookup_append,
    lookup_filter_key (fun k' => overlay_cond (INHERITABLE_ATTRS.contains k') (List.lookup k' d).isSome) P k]
  cases h : List.lookup k d <;> simp [overlay_cond]

theorem dget_overlay_other (P d : Dict) (k : String) (hk : k ∉ INHERITABLE_ATTRS) :
    dget (overlay P d) k = dget d k := by
  rw [dget_overlay]
  simp [hk]

theorem nodeType_overlay (P d : Dict) : nodeType (overlay P d) = nodeType d := by
  unfold nodeType
  rw [dget_overlay_other P d "Type" (by decide), dget_overlay_other P d "type" (by decide)]

theorem inherited_cons (d : Dict) (anc : List Dict) (k : String) :
    inherited (d :: anc) k = (dget d k).or (inherited anc k) := by
  unfold inherited
  rw [List.findSome?_cons]
  cases dget d k <;> rfl

theorem overlay_inherits (P d : Dict) (anc : List Dict)
    (hP : ∀ k ∈ INHERITABLE_ATTRS, dget P k = inherited anc k) :
    ∀ k ∈ INHERITABLE_ATTRS, dget (overlay P d) k = inherited (d :: anc) k := by
  intro k hk
  rw [dget_overlay, if_pos (by simpa using hk), inherited_cons, hP k hk]

theorem isName_page_not_pages (v : Option Val) (h : isName v "Page" = true) : isName v "Pages" = false := by
  unfold isName at *
  have : v = some (.atom (.name "Page")) := by simpa using h
  subst this
  decide

theorem nodeOf_cases (g : Store) (kid : Elem) :
    (∃ id, kidId kid = some id ∧ nodeOf g kid = .ok (some id, nodeDict g id)) ∨
    (kidId kid = none ∧ ∃ d, nodeOf g kid = .ok (none, d)) ∨ nodeOf g kid = .error .objectNotFound :=
  match kid with
  | .atom (.ref n) => .inl ⟨n, rfl, rfl⟩
  | .atom (.int i) => by
    by_cases hi : 0 ≤ i
    · cases hg : g.get i.toNat with
      | none => exact .inr (.inr (by simp only [nodeOf, hi, hg, if_true]))
      | some o =>
        exact .inl ⟨i.toNat, by simp only [kidId, hi, if_true], by simp only [nodeOf, hi, hg, if_true]; rfl⟩
    · exact .inr (.inr (by simp only [nodeOf, hi, if_false]))
  | .atom (.real _) | .atom (.name _) | .atom .null | .arr _ | .dict _ => .inr (.inl ⟨rfl, _, rfl⟩)

/-! `visit` tests the overlaid dictionary; the overlay changes neither Type nor Kids, so the tests are
those of the specification's `isPagesNode`/`isPageNode`/`kidsOf` on the node's own dictionary. -/

theorem dget_overlay_kids (P d : Dict) : dget (overlay P d) "Kids" = dget d "Kids" :=
  dget_overlay_other P d "Kids" (by decide)

theorem isPagesNode_overlay (g : Store) (P : Dict) (id : Nat) :
    (isName (nodeType (overlay P (nodeDict g id))) "Pages" &&
      (dget (overlay P (nodeDict g id)) "Kids").isSome) = isPagesNode g id := by
  unfold isPagesNode
  rw [nodeType_overlay, dget_overlay_kids]

theorem visit_indirect (g : Store) (f : Nat) (kid : Elem) (P : Dict) (vis : List Nat) (id : Nat)
    (h : nodeOf g kid = .ok (some id, nodeDict g id)) :
    visit g (f + 1) kid P vis =
      if id ∈ vis then ⟨[], vis, none⟩
      else if isPagesNode g id then
        walkKids (visit g f) (kidsOf g id) (overlay P (nodeDict g id)) (id :: vis)
      else ⟨if isPageNode g id then [⟨some id, overlay P (nodeDict g id)⟩] else [], id :: vis, none⟩ := by
  rw [visit, h]
  by_cases hid : id ∈ vis
  · rw [if_pos hid]; simp only [List.contains_eq_mem, hid, decide_true, if_true]
  · rw [if_neg hid]
    simp only [List.contains_eq_mem, hid, decide_false, Bool.false_eq_true, if_false, isPagesNode_overlay]
    cases hpn : isPagesNode g id with
    | true => simp only [if_true, dget_overlay_kids, kidsOf, hpn]
    | false =>
      simp only [Bool.false_eq_true, if_false, nodeType_overlay, isPageNode, hpn, Bool.not_false, Bool.true_and]
      split <;> rfl

theorem visit_cases {motive : Walk → Prop} (g : Store) (f : Nat) (kid : Elem) (P : Dict) (vis : List Nat)
    (error : motive ⟨[], vis, some .objectNotFound⟩)
    (direct : kidId kid = none → ∀ pages : List RawPage, (∀ rp ∈ pages, rp.id = none) →
      motive ⟨pages, vis, none⟩)
    (seen : ∀ id, kidId kid = some id → id ∈ vis → motive ⟨[], vis, none⟩)
    (pages : ∀ id, kidId kid = some id → id ∉ vis → isPagesNode g id = true →
      motive (walkKids (visit g f) (kidsOf g id) (overlay P (nodeDict g id)) (id :: vis)))
    (leaf : ∀ id, kidId kid = some id → id ∉ vis → isPagesNode g id = false →
      motive ⟨if isPageNode g id then [⟨some id, overlay P (nodeDict g id)⟩] else [], id :: vis, none⟩) :
    motive (visit g (f + 1) kid P vis) := by
  rcases nodeOf_cases g kid with ⟨id, hkid, hn⟩ | ⟨hkid, d, hn⟩ | hn
  · rw [visit_indirect g f kid P vis id hn]
    by_cases hid : id ∈ vis
    · rw [if_pos hid]; exact seen id hkid hid
    · rw [if_neg hid]
      cases hpn : isPagesNode g id with
      | true => exact pages id hkid hid hpn
      | false => exact leaf id hkid hid hpn
  · rw [visit, hn]
    simp only [Bool.false_eq_true, if_false]
    split
    · exact direct hkid [] nofun
    · split
      · exact direct hkid [_] (by simp)
      · exact direct hkid [] nofun
  · rw [visit, hn]; exact error

/-- What is compared between a model page and a specification leaf: the object number and the
values of the inheritable attributes. -/
def rawKey (rp : RawPage) : Option Nat × List (Option Val) := (rp.id, INHERITABLE_ATTRS.map (dget rp.attrs))
def specKey (sp : Nat × List Dict) : Option Nat × List (Option Val) :=
  (some sp.1, INHERITABLE_ATTRS.map (inherited sp.2))

structure TreeWalkOK (w : Walk) (ids vis : List Nat) (leaves : List (Nat × List Dict)) : Prop where
  err : w.err = none
  visited : w.visited = ids.reverse ++ vis
  pages : w.pages.map rawKey = leaves.map specKey

mutual
theorem visit_tree (g : Store) : ∀ (t : PTree) (fuel : Nat) (P : Dict) (anc : List Dict) (vis : List Nat),
    Embeds g t → t.depth ≤ fuel → (∀ k ∈ INHERITABLE_ATTRS, dget P k = inherited anc k) →
    t.ids.Nodup → (∀ j ∈ t.ids, j ∉ vis) →
    TreeWalkOK (visit g fuel (.atom (.ref t.id)) P vis) t.ids vis (specLeaves t anc)
  | .page i d, fuel, P, anc, vis, ⟨hd, hty⟩, hf, hP, _, hdis => by
    obtain ⟨f, rfl⟩ : ∃ f, fuel = f + 1 := ⟨fuel - 1, by simp only [PTree.depth] at hf; omega⟩
    have hd' : nodeDict g i = d := hd
    have h1 : isPagesNode g i = false := by rw [isPagesNode, hd', isName_page_not_pages _ hty]; rfl
    have h2 : isPageNode g i = true := by rw [isPageNode, h1, hd', hty]; rfl
    rw [PTree.id, visit_indirect g f _ P vis i rfl, if_neg (hdis i (by simp [PTree.ids])), h1, h2, hd']
    exact ⟨rfl, rfl, congrArg (fun l => [(some i, l)]) (List.map_congr_left (overlay_inherits P d anc hP))⟩
  | .pages i d kids, fuel, P, anc, vis, ⟨hd, hty, ⟨kv, hkv, hlv⟩, hEk⟩, hf, hP, hnd, hdis => by
    simp only [PTree.depth, PTree.ids, List.nodup_cons, List.forall_mem_cons] at hf hnd hdis
    obtain ⟨f, rfl⟩ : ∃ f, fuel = f + 1 := ⟨fuel - 1, by omega⟩
    have hd' : nodeDict g i = d := hd
    have h1 : isPagesNode g i = true := by rw [isPagesNode, hd', hty, hkv]; rfl
    have hkids : kidsOf g i = kidRefs kids := by rw [kidsOf, if_pos h1, hd', hkv]; exact hlv
    have ih := walk_trees g kids f (overlay P d) (d :: anc) (i :: vis) hEk (by omega)
      (overlay_inherits P d anc hP) hnd.2
      (fun j hj => List.not_mem_cons_of_ne_of_not_mem (ne_of_mem_of_not_mem hj hnd.1) (hdis.2 j hj))
    rw [PTree.id, visit_indirect g f _ P vis i rfl, if_neg hdis.1, if_pos h1, hkids, hd']
    refine ⟨ih.err, ?_, ?_⟩
    · rw [ih.visited, PTree.ids, List.reverse_cons, List.append_assoc]; rfl
    · rw [ih.pages, specLeaves]
theorem walk_trees (g : Store) : ∀ (ts : List PTree) (fuel : Nat) (P : Dict) (anc : List Dict) (vis : List Nat),
    EmbedsL g ts → depthL ts ≤ fuel → (∀ k ∈ INHERITABLE_ATTRS, dget P k = inherited anc k) →
    (idsL ts).Nodup → (∀ j ∈ idsL ts, j ∉ vis) →
    TreeWalkOK (walkKids (visit g fuel) (kidRefs ts) P vis) (idsL ts) vis (specLeavesL ts anc)
  | [], _, _, _, _, _, _, _, _, _ => ⟨rfl, rfl, rfl⟩
  | t :: ts, fuel, P, anc, vis, ⟨hEt, hEts⟩, hf, hP, hnd, hdis => by
    simp only [idsL, List.nodup_append, List.forall_mem_append] at hnd hdis
    obtain ⟨hnd1, hnd2, hdisj⟩ := hnd
    simp only [depthL] at hf
    have h1 := visit_tree g t fuel P anc vis hEt (by omega) hP hnd1 hdis.1
    have h2 := walk_trees g ts fuel P anc (t.ids.reverse ++ vis) hEts (by omega) hP hnd2 (fun j hj hmem =>
      (List.mem_append.mp hmem).elim (fun h => hdisj j (List.mem_reverse.mp h) j hj rfl) (hdis.2 j hj))
    show TreeWalkOK (walkKids (visit g fuel) (.atom (.ref t.id) :: kidRefs ts) P vis) _ _ _
    simp only [walkKids, h1.err]
    rw [h1.visited]
    exact ⟨h2.err, h2.visited.trans (by rw [idsL, List.reverse_append, List.append_assoc]),
      List.map_append.trans (by rw [h1.pages, h2.pages, specLeavesL, List.map_append])⟩
end

/-- `PDFPage.__init__` reads only inheritable attributes (the regenerated `KEY_…` are members of
the regenerated `INHERITABLE_ATTRS`), so pages with equal keys are built equal. -/
theorem pageOfRaw_eq_specPage (g : Store) (rp : RawPage) (sp : Nat × List Dict) (h : rawKey rp = specKey sp) :
    pageOfRaw g rp = specPage g sp := by
  obtain ⟨hid, hattrs⟩ := Prod.mk.inj h
  have ha := List.map_inj_left.mp hattrs
  unfold pageOfRaw specPage KEY_RESOURCES KEY_MEDIABOX KEY_CROPBOX KEY_ROTATE
  rw [hid, ha "Resources" (by decide), ha "MediaBox" (by decide), ha "CropBox" (by decide),
    ha "Rotate" (by decide)]

theorem finish_of_keys (g : Store) (e : Option Err) : ∀ (raw : List RawPage) (leaves : List (Nat × List Dict)),
    raw.map rawKey = leaves.map specKey → finish (pageOfRaw g) raw e = finish (specPage g) leaves e
  | [], [], _ => rfl
  | rp :: raw, sp :: leaves, h => by
    obtain ⟨h1, h2⟩ := List.cons.inj h
    simp only [finish, pageOfRaw_eq_specPage g rp sp h1, finish_of_keys g e raw leaves h2]

mutual
theorem depth_le_size : ∀ t : PTree, t.depth ≤ t.ids.length
  | .page _ _ => Nat.le_refl 1
  | .pages _ _ kids => Nat.succ_le_succ (depthL_le_size kids)
theorem depthL_le_size : ∀ ts : List PTree, depthL ts ≤ (idsL ts).length
  | [] => Nat.le_refl 0
  | t :: ts => by
    rw [depthL, idsL, List.length_append]
    exact Nat.max_le.mpr ⟨Nat.le_trans (depth_le_size t) (Nat.le_add_right _ _),
      Nat.le_trans (depthL_le_size ts) (Nat.le_add_left _ _)⟩
end

theorem treeWalk_ref (g : Store) (fuel r : Nat) (catalog : Dict)
    (hroot : dget catalog "Pages" = some (.atom (.ref r))) :
    treeWalk g fuel catalog = visit g fuel (.atom (.ref r)) catalog [] := by
  rw [treeWalk, hroot]

theorem treeWalk_tree (g : Store) (t : PTree) (catalog : Dict) (fuel : Nat)
    (hE : Embeds g t) (hroot : dget catalog "Pages" = some (.atom (.ref t.id)))
    (hcat : ∀ k ∈ INHERITABLE_ATTRS, dget catalog k = none)
    (hnd : t.ids.Nodup) (hf : t.ids.length ≤ fuel) :
    TreeWalkOK (treeWalk g fuel catalog) t.ids [] (specLeaves t []) := by
  rw [treeWalk_ref g fuel t.id catalog hroot]
  exact visit_tree g t fuel catalog [] [] hE (Nat.le_trans (depth_le_size t) hf) hcat hnd (by simp)

theorem mapKids_embeds (g : Store) (F : Elem → Option PTree)
    (hF : ∀ k t, F k = some t → Embeds g t ∧ k = .atom (.ref t.id)) :
    ∀ ks ts, mapKids F ks = some ts → EmbedsL g ts ∧ ks = kidRefs ts := by
  intro ks
  fun_induction mapKids F ks with
  | case1 => rintro _ ⟨⟩; exact ⟨trivial, rfl⟩
  | case2 k ks t ts h2 h1 ih =>
    rintro _ ⟨⟩
    obtain ⟨hE, rfl⟩ := hF k t h1
    obtain ⟨hEs, rfl⟩ := ih ts h2
    exact ⟨⟨hE, hEs⟩, rfl⟩
  | case3 => nofun

theorem toTree_embeds (g : Store) : ∀ fuel a t, toTree g fuel a = some t → Embeds g t ∧ a = .atom (.ref t.id) := by
  intro fuel
  induction fuel using Nat.strongRecOn with
  | ind fuel ih =>
    intro a
    fun_cases toTree g fuel a
    case case2 n d hpage => rintro _ ⟨⟩; exact ⟨⟨rfl, hpage⟩, rfl⟩
    case case3 f n d _ hpages kv hkv =>
      intro t h
      obtain ⟨ks, hm, rfl⟩ := Option.map_eq_some_iff.mp h
      obtain ⟨hEs, hks⟩ := mapKids_embeds g (toTree g f) (ih f f.lt_succ_self) _ _ hm
      exact ⟨⟨rfl, hpages, ⟨kv, hkv, hks⟩, hEs⟩, rfl⟩
    all_goals nofun

theorem nodupNat_sound : ∀ l : List Nat, nodupNat l = true → l.Nodup
  | [], _ => List.nodup_nil
  | x :: xs, h => by
    simp only [nodupNat, Bool.and_eq_true, Bool.not_eq_true', List.contains_eq_mem, decide_eq_false_iff_not] at h
    exact List.nodup_cons.mpr ⟨h.1, nodupNat_sound xs h.2⟩

theorem docTree_sound (g : Store) (fuel : Nat) (catalog : Dict) (t : PTree)
    (h : docTree g fuel catalog = some t) :
    Embeds g t ∧ dget catalog "Pages" = some (.atom (.ref t.id)) ∧
      (∀ k ∈ INHERITABLE_ATTRS, dget catalog k = none) ∧ t.ids.Nodup := by
  revert h
  fun_cases docTree g fuel catalog
  case case2 hany a ha t' ht hnd =>
    rintro ⟨⟩
    obtain ⟨hE, hid⟩ := toTree_embeds g fuel (.atom a) t ht
    refine ⟨hE, by rw [ha]; cases hid; rfl, ?_, nodupNat_sound _ hnd⟩
    intro k hk
    simp only [List.any_eq_true, not_exists, not_and, Bool.not_eq_true, Option.isSome_eq_false_iff,
      Option.isNone_iff_eq_none] at hany
    exact hany k hk
  all_goals nofun

end PdfVerif.PageTree
