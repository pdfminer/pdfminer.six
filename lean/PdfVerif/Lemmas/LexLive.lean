/-
Two states that agree on the attributes the scanners still read (`Live`) are taken by every scanner, at
every byte and whatever the positions, to two such states, with the same token values added.
-/
import PdfVerif.Lemmas.Lexer

namespace PdfVerif.Lexer
open PdfVerif PdfVerif.Gen.LexTables

def isStringMode : Mode → Bool
  | .string | .string1 | .string2 => true
  | _ => false

/-- Two scanner states agree on everything the scanners will still read: the mode; the token being
collected unless between tokens; the parenthesis depth inside a string; the octal / hex digits while
an escape is being read. (Stale `_curtoken`, `paren`, `oct`, `hex`, and the position, are dead.) -/
def Live (s1 s2 : St) : Prop :=
  s1.mode = s2.mode ∧ (s1.mode ≠ .main → s1.cur = s2.cur) ∧ (isStringMode s1.mode = true → s1.paren = s2.paren) ∧
    (s1.mode = .string1 → s1.oct = s2.oct) ∧ (s1.mode = .literalHex → s1.hex = s2.hex)

theorem Live.refl (st : St) : Live st st := ⟨rfl, fun _ => rfl, fun _ => rfl, fun _ => rfl, fun _ => rfl⟩

theorem live_main (s1 s2 : St) (h1 : s1.mode = .main) (h2 : s2.mode = .main) : Live s1 s2 := by
  simp [Live, h1, h2, isStringMode]

def Hit.Live (h1 h2 : Hit) : Prop :=
  Lexer.Live h1.st h2.st ∧ h1.consumed = h2.consumed ∧ tokValues h1.toks = tokValues h2.toks

theorem Hit.Live.ite {c : Prop} [Decidable c] {a b a' b' : Hit} (ha : a.Live a') (hb : b.Live b') :
    Hit.Live (if c then a else b) (if c then a' else b') := by
  by_cases h : c <;> simp only [h, if_true, if_false] <;> assumption

attribute [local simp] Hit.Live Live tokValues emit raise isStringMode in
/-- Once the live attributes are identified, both bodies branch on the same conditions. -/
theorem atHit_live (st1 st2 : St) (c : UInt8) (j1 j2 : Nat) (h : Live st1 st2) :
    (atHit st1 c j1).Live (atHit st2 c j2) := by
  obtain ⟨m, cur, t1, p1, o1, h1⟩ := st1
  obtain ⟨m2, cur2, t2, p2, o2, h2⟩ := st2
  obtain ⟨hm, hc, hp, ho, hh⟩ := h
  simp only at hm hc hp ho hh
  subst hm
  unfold atHit
  cases m <;> simp only [ne_eq, reduceCtorEq, not_true_eq_false, not_false_eq_true, isStringMode, Bool.false_eq_true,
      forall_const, false_imp_iff] at hc hp ho hh <;> simp only
  · unfold parseMainHit
    repeat' apply Hit.Live.ite
    all_goals simp
  all_goals subst hc
  · simp [parseCommentHit]
  · unfold parseLiteralHit
    apply Hit.Live.ite <;> simp
  · subst hh
    unfold parseLiteralHexHit
    repeat' apply Hit.Live.ite
    · simp
    · simp
    · cases pyIntBase 16 h1 <;> simp only
      · simp
      · apply Hit.Live.ite <;> simp
  · unfold parseNumberHit
    apply Hit.Live.ite
    · simp
    · cases pyInt cur <;> simp
  · unfold parseFloatHit
    cases pyFloatOk cur <;> simp
  · simp [parseKeywordHit]
  · subst hp
    unfold parseStringHit
    repeat' apply Hit.Live.ite
    all_goals simp [apply_ite St.cur]
  · subst hp; subst ho
    unfold parseString1Hit
    repeat' apply Hit.Live.ite
    · simp
    · cases pyIntBase 8 o1 <;> simp
    · cases escLookup c <;> simp only
      · repeat' apply Hit.Live.ite
        all_goals simp
      · simp
  · subst hp
    simp [parseString2Hit]
  · unfold parseWopenHit
    apply Hit.Live.ite <;> simp
  · unfold parseWcloseHit
    apply Hit.Live.ite <;> simp
  · unfold parseHexstringHit
    cases hexPairs (cur.filter fun c => !isSPC c) <;> simp
  · simp

theorem accum_live (st1 st2 : St) (pre : Bytes) (h : Live st1 st2) : Live (accum st1 pre) (accum st2 pre) := by
  obtain ⟨hm, hc, hp, ho, hh⟩ := h
  unfold accum
  rw [← hm]
  split
  · exact ⟨hm, hc, hp, ho, hh⟩
  · rename_i hmain
    exact ⟨rfl, fun _ => by simp [hc (by simpa using hmain)], hp, ho, hh⟩

theorem tokValues_append (a b : List PTok) : tokValues (a ++ b) = tokValues a ++ tokValues b :=
  List.map_append

theorem stepN_live : ∀ (n : Nat) (st1 st2 : St) (c : UInt8) (p1 p2 : Nat), Live st1 st2 →
    Live (stepN n st1 c p1).1 (stepN n st2 c p2).1 ∧
      tokValues (stepN n st1 c p1).2 = tokValues (stepN n st2 c p2).2
  | 0, st1, st2, c, p1, p2, h => ⟨h, rfl⟩
  | n + 1, st1, st2, c, p1, p2, h => by
    obtain ⟨ha1, ha2, ha3⟩ := atHit_live st1 st2 c p1 p2 h
    obtain ⟨ih1, ih2⟩ := stepN_live n _ _ c p1 p2 ha1
    rw [stepN_succ, stepN_succ, h.1, ha2]
    split
    · split
      · exact ⟨ha1, ha3⟩
      · exact ⟨ih1, by rw [tokValues_append, tokValues_append, ha3, ih2]⟩
    · exact ⟨accum_live st1 st2 [c] h, rfl⟩

theorem foldBytes_live : ∀ (bs : Bytes) (st1 st2 : St) (p1 p2 : Nat), Live st1 st2 →
    Live (foldBytes st1 bs p1).1 (foldBytes st2 bs p2).1 ∧
      tokValues (foldBytes st1 bs p1).2 = tokValues (foldBytes st2 bs p2).2
  | [], st1, st2, p1, p2, h => ⟨h, rfl⟩
  | c :: t, st1, st2, p1, p2, h => by
    obtain ⟨h1, h2⟩ := stepN_live 3 st1 st2 c p1 p2 h
    obtain ⟨h3, h4⟩ := foldBytes_live t _ _ (p1 + 1) (p2 + 1) h1
    simp only [foldBytes, stepByte]
    exact ⟨h3, by rw [tokValues_append, tokValues_append, h2, h4]⟩

end PdfVerif.Lexer
