/-
C19: run-length codes (`_parse_horiz1` / `_parse_horiz2`) and mode codes.
-/
import PdfVerif.Lemmas.CcittFeed
import PdfVerif.Lemmas.CcittSpecTables

namespace PdfVerif.Ccitt
open PdfVerif.Gen PdfVerif.Spec

theorem codeV_ok {d : Int} (h1 : -3 ≤ d) (h2 : d ≤ 3) :
    T6.codeV d ≠ [] ∧ Trie.follow modeTrie (T6.codeV d) = some (.leaf (.mode (.v d))) := by
  refine ⟨(codeV_nonempty_iff d).mpr ⟨h1, h2⟩, modeSpec_follow ?_⟩
  have : d = 0 ∨ d = 1 ∨ d = -1 ∨ d = 2 ∨ d = -2 ∨ d = 3 ∨ d = -3 := by omega
  rcases this with rfl | rfl | rfl | rfl | rfl | rfl | rfl <;> decide

theorem zeros_ok_aux : ∀ k : Fin 8,
    (Trie.follow modeTrie (List.replicate k.val false)).map Trie.isNode = some true := by
  decide +kernel

/-- Up to seven zero bits (the fill at the end of the data) keep the parser inside the MODE trie. -/
theorem zeros_ok {k : Nat} (h : k < 8) :
    ∃ a c, Trie.follow modeTrie (List.replicate k false) = some (.node a c) := by
  have := zeros_ok_aux ⟨k, h⟩
  generalize Trie.follow modeTrie (List.replicate k false) = r at this
  match r, this with
  | some (.node a c), _ => exact ⟨a, c, rfl⟩

theorem modeAction_p : modeAction (some (.mode .p)) = .pass := by decide
theorem modeAction_h : modeAction (some (.mode .h)) = .horiz := by decide
theorem modeAction_e : modeAction (some (.mode .e)) = .eofb := by decide
theorem modeAction_u : modeAction (some (.mode .u)) = .unc := by decide
theorem modeAction_v (d : Int) : modeAction (some (.mode (.v d))) = .vertical := rfl

theorem modeAction_x (n : Nat) : modeAction (some (.mode (.x n))) = .invalid := by
  -- `x<n>` is none of the four keys of `modeDispatch`, so the lookup fails and the final `else` is taken
  have e1 : (Mode.x n == Mode.p) = false := beq_eq_false_iff_ne.mpr (by intro h; cases h)
  have e2 : (Mode.x n == Mode.h) = false := beq_eq_false_iff_ne.mpr (by intro h; cases h)
  have e3 : (Mode.x n == Mode.u) = false := beq_eq_false_iff_ne.mpr (by intro h; cases h)
  have e4 : (Mode.x n == Mode.e) = false := beq_eq_false_iff_ne.mpr (by intro h; cases h)
  simp [modeAction, CcittCode.modeDispatch, CcittCode.modeElseAction, List.lookup, e1, e2, e3, e4]

theorem horiz1Term_iff (n : Nat) : CcittCode.horiz1Term (n : Int) = true ↔ n < 64 := by
  simp only [CcittCode.horiz1Term, decide_eq_true_eq]; omega

theorem horiz2Term_iff (n : Nat) : CcittCode.horiz2Term (n : Int) = true ↔ n < 64 := by
  simp only [CcittCode.horiz2Term, decide_eq_true_eq]; omega

/-- `self._n1 += n` resp. `self._n2 += n` -/
def addRun (st : St) (m : Nat) : St :=
  match st.acc with
  | .horiz2 => { st with n2 := st.n2 + m }
  | _ => { st with n1 := st.n1 + m }

/-- The parser is inside a horizontal-mode run: `_accept` is `_parse_horiz1/2` and `_state` is the
root of the table of the current colour. -/
structure InRun (st : St) : Prop where
  acc : st.acc = .horiz1 ∨ st.acc = .horiz2
  node : st.node = runTrie st.color

theorem addRun_inRun {st : St} (h : InRun st) (m : Nat) : InRun (addRun st m) := by
  obtain ⟨ha, hn⟩ := h
  cases ha with
  | inl ha => exact ⟨Or.inl (by simp [addRun, ha]), by simp [addRun, ha, hn]⟩
  | inr ha => exact ⟨Or.inr (by simp [addRun, ha]), by simp [addRun, ha, hn]⟩

theorem addRun_color (st : St) (m : Nat) : (addRun st m).color = st.color := by
  unfold addRun; split <;> rfl

theorem addRun_add (st : St) (a b : Nat) : addRun (addRun st a) b = addRun st (a + b) := by
  unfold addRun
  cases h : st.acc <;> simp [Nat.add_assoc]

theorem addRun_zero (st : St) : addRun st 0 = st := by
  cases st
  simp only [addRun]
  split <;> simp

theorem feed_makeup (st : St) (h : InRun st) {m : Nat} (h1 : 64 ≤ m) (h2 : m ≤ 2560) (h3 : m % 64 = 0)
    (pos : Nat) (rest : List Bool) :
    feedFlat st pos 0 (T6.runCode st.color m ++ rest) =
      feedFlat (addRun st m) (pos + (T6.runCode st.color m).length) 0 rest := by
  obtain ⟨hne, hf⟩ := runCode_follow st.color (mem_runKeys.mpr (Or.inr ⟨h1, h2, h3⟩))
  rw [feed_follow_leaf _ st pos rest _ hne (by rw [h.node]; exact hf)]
  have hm1 : ¬ (CcittCode.horiz1Term (m : Int) = true) := by rw [horiz1Term_iff]; omega
  have hm2 : ¬ (CcittCode.horiz2Term (m : Int) = true) := by rw [horiz2Term_iff]; omega
  rcases h.acc with ha | ha <;>
    simp only [accept, ha, parseHoriz1, parseHoriz2, hm1, hm2, Bool.false_eq_true, if_false, afterAccept, addRun,
      ← h.node]

theorem feed_makeups (st : St) (h : InRun st) : ∀ (k : Nat) (pos : Nat) (rest : List Bool),
    feedFlat st pos 0 ((List.replicate k (T6.runCode st.color 2560)).flatten ++ rest) =
      feedFlat (addRun st (2560 * k)) (pos + (List.replicate k (T6.runCode st.color 2560)).flatten.length) 0 rest := by
  intro k
  induction k generalizing st with
  | zero => intro pos rest; simp [addRun_zero]
  | succ k ih =>
    intro pos rest
    simp only [List.replicate_succ, List.flatten_cons, List.append_assoc, List.length_append]
    rw [feed_makeup st h (by omega) (by omega) (by omega)]
    have h' := addRun_inRun h 2560
    have := ih (addRun st 2560) h' (pos + (T6.runCode st.color 2560).length) rest
    rw [addRun_color] at this
    rw [this, addRun_add]
    congr 1
    · congr 1; omega
    · omega

/-- The code of a run of `n` pixels inside a horizontal mode: the make-up codes add `m` to the pending run
length, the terminating code `t` reaches `_accept`. -/
theorem feed_encodeRun (st : St) (hin : InRun st) (n : Nat) : ∃ m t, t < 64 ∧ m + t = n ∧
    ∀ (pos : Nat) (rest : List Bool), feedFlat st pos 0 (T6.encodeRun st.color n ++ rest) =
      afterAccept (accept { addRun st m with node := .empty } (some (.run t)))
        (pos + (T6.encodeRun st.color n).length) rest := by
  obtain ⟨k, m, t, hn, ht, hm64, hm, _, he⟩ := encodeRun_shape st.color n
  refine ⟨2560 * k + m, t, ht, hn.symm, ?_⟩
  intro pos rest
  obtain ⟨hne, hfl⟩ := runCode_follow st.color (mem_runKeys.mpr (Or.inl ht))
  have hnode : ∀ j, (addRun st j).node.follow (T6.runCode st.color t) = some (.leaf (.run t)) := fun j => by
    rw [(addRun_inRun hin j).node, addRun_color]; exact hfl
  rw [he, List.append_assoc, List.append_assoc, feed_makeups st hin]
  by_cases h0 : m = 0
  · subst h0
    rw [if_pos rfl, List.nil_append, feed_follow_leaf _ _ _ rest _ hne (hnode _)]
    simp only [Nat.add_zero, List.append_nil, List.length_append, Nat.add_assoc]
  · have hf := feed_makeup (addRun st (2560 * k)) (addRun_inRun hin _) (m := m) (by omega) hm hm64
    rw [addRun_color] at hf
    rw [if_neg h0, List.append_assoc, hf, addRun_add, feed_follow_leaf _ _ _ rest _ hne (hnode _)]
    simp only [List.length_append, Nat.add_assoc]

end PdfVerif.Ccitt
