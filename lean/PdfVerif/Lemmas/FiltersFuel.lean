/-
For the fuelled loops of the decoders (`rldecodeAux`, `lzwRun`, `pngRows`, `tiffRows`), any fuel above the
stated bound gives the same result, so the fuel passed by the top-level functions is never exhausted.
The loops of the stream reader (`scanEndstream`, `resolveLen`) have theirs in FiltersScan.
-/
import PdfVerif.Lemmas.FiltersLit

namespace PdfVerif.Filters
open PdfVerif PdfVerif.FilterEnc

theorem rldecodeAux_fuel : ∀ (f1 f2 : Nat) (data : Bytes), data.length < f1 → data.length < f2 →
    rldecodeAux f1 data = rldecodeAux f2 data := by
  intro f1
  induction f1 with
  | zero => intro f2 data h1; omega
  | succ g1 ih =>
    intro f2 data h1 h2
    obtain ⟨g2, rfl⟩ : ∃ g, f2 = g + 1 := ⟨f2 - 1, by omega⟩
    cases data with
    | nil => rfl
    | cons l rest =>
      simp only [List.length_cons] at h1 h2
      simp only [rldecodeAux_cons_lit]
      split
      · rfl
      · split
        · split
          · rfl
          · rw [ih g2 (rest.drop (l.toNat + 1)) (by simp; omega) (by simp; omega)]
        · cases rest with
          | nil => rfl
          | cons b rest' =>
            simp only [List.length_cons] at h1 h2
            simp only
            rw [ih g2 rest' (by omega) (by omega)]

theorem nbitsAfter_pos (nb t : Nat) (h : 0 < nb) : 0 < nbitsAfter nb t := by
  unfold nbitsAfter; repeat' split
  all_goals omega

theorem feed_nbits_pos (st : LzwSt) (c : Nat) (h : 0 < st.nbits) (st' : LzwSt) (x : Bytes)
    (hf : feed st c = .ok st' x) : 0 < st'.nbits := by
  -- every successful branch of `feed` leaves the width at 9, unchanged, or at `nbitsAfter st.nbits _`
  revert hf
  fun_cases feed st c <;> intro hf <;> cases hf
  · decide
  · exact h
  · exact h
  · exact h
  · exact nbitsAfter_pos _ _ h
  · exact nbitsAfter_pos _ _ h

theorem lzwRun_fuel : ∀ (f1 f2 : Nat) (st : LzwSt) (bits : List Bool), 0 < st.nbits → bits.length < f1 →
    bits.length < f2 → lzwRun f1 st bits = lzwRun f2 st bits := by
  intro f1
  induction f1 with
  | zero => intro f2 st bits _ h1; omega
  | succ g1 ih =>
    intro f2 st bits hnb h1 h2
    obtain ⟨g2, rfl⟩ : ∃ g, f2 = g + 1 := ⟨f2 - 1, by omega⟩
    simp only [lzwRun]
    split
    · rfl
    · rename_i hlen
      have hge : st.nbits ≤ bits.length := by
        simp only [List.length_take] at hlen; omega
      cases hf : feed st (natOfBits (bits.take st.nbits)) with
      | corrupt => rfl
      | indexError => rfl
      | ok st' x =>
        simp only
        rw [ih g2 st' (bits.drop st.nbits) (feed_nbits_pos st _ hnb st' x hf) (by simp; omega) (by simp; omega)]

theorem pngRows_fuel (nbytes bpp : Nat) : ∀ (f1 f2 : Nat) (above data : Bytes), data.length ≤ f1 → data.length ≤ f2 →
    pngRows nbytes bpp f1 above data = pngRows nbytes bpp f2 above data := by
  intro f1
  induction f1 with
  | zero =>
    intro f2 above data h1 _
    have : data = [] := List.eq_nil_of_length_eq_zero (by omega)
    subst this
    cases f2 <;> rfl
  | succ g1 ih =>
    intro f2 above data h1 h2
    cases data with
    | nil => cases f2 <;> rfl
    | cons ft rest =>
      simp only [List.length_cons] at h1 h2
      obtain ⟨g2, rfl⟩ : ∃ g, f2 = g + 1 := ⟨f2 - 1, by omega⟩
      simp only [pngRows]
      split
      · rfl
      · rw [ih g2 _ (rest.drop nbytes) (by simp; omega) (by simp; omega)]

theorem tiffRows_fuel (nbytes bpp : Nat) (hn : 0 < nbytes) : ∀ (f1 f2 : Nat) (data : Bytes), data.length ≤ f1 →
    data.length ≤ f2 → tiffRows nbytes bpp f1 data = tiffRows nbytes bpp f2 data := by
  intro f1
  induction f1 with
  | zero =>
    intro f2 data h1 _
    have : data = [] := List.eq_nil_of_length_eq_zero (by omega)
    subst this
    cases f2 <;> rfl
  | succ g1 ih =>
    intro f2 data h1 h2
    cases data with
    | nil => cases f2 <;> rfl
    | cons c rest =>
      obtain ⟨g2, rfl⟩ : ∃ g, f2 = g + 1 := ⟨f2 - 1, by simp at h2; omega⟩
      simp only [tiffRows]
      split
      · rfl
      · rename_i hlen
        simp only [List.length_cons] at h1 h2 hlen
        rw [ih g2 ((c :: rest).drop nbytes) (by simp; omega) (by simp; omega)]

end PdfVerif.Filters
