/-
RC4 on a state held in one natural number.  `ksa` and `prga` keep the permutation in an
`Array UInt8`; evaluated by the kernel, an array is a list and every `getD` / `setIfInBounds` walks it.
Here the 256 bytes are the base-256 digits of a `Nat` (`ofBytes`), read and written with `/`, `%`
and `^`, which the kernel computes on binary numerals: `rc4Core_eq_prgaNat` turns a test vector
into a few thousand bignum operations.
-/
import PdfVerif.Model.Crypt

namespace PdfVerif.Crypt
open PdfVerif

def byteAt (n i : Nat) : Nat := n / 256 ^ i % 256
def setByteAt (n i v : Nat) : Nat := n % 256 ^ i + 256 ^ i * (v + 256 * (n / 256 ^ (i + 1)))

theorem byteAt_succ (n i : Nat) : byteAt n (i + 1) = byteAt (n / 256) i := by
  rw [byteAt, byteAt, Nat.pow_succ', Nat.div_div_eq_div_mul]

theorem setByteAt_succ (n i v : Nat) :
    setByteAt n (i + 1) v = n % 256 + 256 * setByteAt (n / 256) i v := by
  rw [setByteAt, setByteAt, Nat.pow_succ' (n := i), Nat.mod_mul, Nat.pow_succ' (n := i + 1),
    ← Nat.div_div_eq_div_mul, Nat.mul_add 256, ← Nat.mul_assoc, Nat.add_assoc, Nat.pow_succ' (n := i)]

def ofBytes : Bytes → Nat
  | [] => 0
  | b :: bs => b.toNat + 256 * ofBytes bs

theorem byteAt_ofBytes (l : Bytes) (i : Nat) : byteAt (ofBytes l) i = (l.getD i 0).toNat := by
  induction l generalizing i with
  | nil => simp [byteAt, ofBytes]
  | cons x xs ih =>
    have hx := x.toNat_lt
    cases i with
    | zero => simp only [byteAt, ofBytes, Nat.pow_zero, Nat.div_one, List.getD_cons_zero]; omega
    | succ i =>
      rw [byteAt_succ, List.getD_cons_succ, ← ih, ofBytes]
      congr 1; omega

theorem toNat_getD_eq_byteAt (t : Array UInt8) (k : Nat) :
    (t.getD k 0).toNat = byteAt (ofBytes t.toList) k := by
  rw [byteAt_ofBytes]; simp

theorem ofBytes_set (l : Bytes) (i : Nat) (v : UInt8) (hi : i < l.length) :
    ofBytes (l.set i v) = setByteAt (ofBytes l) i v.toNat := by
  induction l generalizing i with
  | nil => cases hi
  | cons x xs ih =>
    have hx := x.toNat_lt
    cases i with
    | zero =>
      simp only [List.set_cons_zero, ofBytes, setByteAt, Nat.pow_zero, Nat.mod_one, Nat.zero_add, Nat.one_mul,
        Nat.pow_one]
      omega
    | succ i =>
      rw [List.set_cons_succ, ofBytes, ih i (Nat.lt_of_succ_lt_succ hi), setByteAt_succ, ofBytes]
      congr 1
      · omega
      · congr 2; omega

def swapNat (n i j : Nat) : Nat := setByteAt (setByteAt n i (byteAt n j)) j (byteAt n i)

theorem size_swap (s : Array UInt8) (i j : Nat) : (swap s i j).size = s.size := by
  simp [swap]

theorem ofBytes_swap (s : Array UInt8) (i j : Nat) (hi : i < s.size) (hj : j < s.size) :
    ofBytes (swap s i j).toList = swapNat (ofBytes s.toList) i j := by
  rw [swap, Array.toList_setIfInBounds, Array.toList_setIfInBounds, ofBytes_set _ _ _ (by simpa using hj),
    ofBytes_set _ _ _ hi, toNat_getD_eq_byteAt, toNat_getD_eq_byteAt, swapNat]

def ksaStepNat (key : Bytes) (st : Nat × Nat) (i : Nat) : Nat × Nat :=
  let j := (st.2 + byteAt st.1 i + (key.getD (i % key.length) 0).toNat) % 256
  (swapNat st.1 i j, j)

def ksaNat (key : Bytes) : Nat :=
  ((List.range 256).foldl (ksaStepNat key) (ofBytes ((List.range 256).map UInt8.ofNat), 0)).1

def KsaRel (st : Array UInt8 × Nat) (t : Nat × Nat) : Prop :=
  st.1.size = 256 ∧ ofBytes st.1.toList = t.1 ∧ st.2 = t.2

theorem ksaStep_rel (key : Bytes) {st : Array UInt8 × Nat} {t : Nat × Nat} (h : KsaRel st t) {i : Nat}
    (hi : i < 256) : KsaRel (ksaStep key.toArray st i) (ksaStepNat key t i) := by
  obtain ⟨hs, h1, h2⟩ := h
  have hk : ∀ k, key.toArray.getD k 0 = key.getD k 0 := fun k => by simp
  have hj : (ksaStep key.toArray st i).2 = (ksaStepNat key t i).2 := by
    simp only [ksaStep, ksaStepNat, hk, toNat_getD_eq_byteAt, List.size_toArray, h1, h2]
  refine ⟨(size_swap _ _ _).trans hs, ?_, hj⟩
  rw [ksaStep, ofBytes_swap _ _ _ (by omega) (by omega), h1]
  exact congrArg (swapNat t.1 i) hj

theorem ksa_ofBytes (key : Bytes) : (ksa key).size = 256 ∧ ofBytes (ksa key).toList = ksaNat key := by
  unfold ksa ksaNat
  have hr : ∀ i ∈ List.range 256, i < 256 := fun i hi => List.mem_range.mp hi
  have hn : (List.range 256).length = 256 := List.length_range
  -- kept away from the unifier, which would run the 256 steps on meeting `List.range 256`
  generalize List.range 256 = l at hr hn ⊢
  have h := List.foldl_rel (r := KsaRel) (f := ksaStep key.toArray) (g := ksaStepNat key) (l := l)
    (a := ((l.map UInt8.ofNat).toArray, 0)) (b := (_, 0))
    ⟨by rw [List.size_toArray, List.length_map, hn], rfl, rfl⟩ fun i hi _ _ h => ksaStep_rel key h (hr i hi)
  exact ⟨h.1, h.2.1⟩

def prgaNat (n i j : Nat) : Bytes → Bytes
  | [] => []
  | c :: cs =>
    let i' := (i + 1) % 256
    let j' := (j + byteAt n i') % 256
    let n' := swapNat n i' j'
    (c ^^^ UInt8.ofNat (byteAt n' ((byteAt n' i' + byteAt n' j') % 256))) :: prgaNat n' i' j' cs

theorem prga_ofBytes (s : Array UInt8) (hs : s.size = 256) (i j : Nat) (d : Bytes) :
    prga s i j d = prgaNat (ofBytes s.toList) i j d := by
  induction d generalizing s i j with
  | nil => rfl
  | cons c cs ih =>
    simp only [prga, prgaNat, toNat_getD_eq_byteAt]
    rw [← UInt8.ofNat_toNat (x := Array.getD _ _ _), toNat_getD_eq_byteAt,
      ih _ ((size_swap _ _ _).trans hs), ofBytes_swap _ _ _ (by omega) (by omega)]

theorem rc4Core_eq_prgaNat (key data : Bytes) : rc4Core key data = prgaNat (ksaNat key) 0 0 data := by
  rw [rc4Core, prga_ofBytes _ (ksa_ofBytes key).1, (ksa_ofBytes key).2]

end PdfVerif.Crypt
