/-
Token-level lemmas for C01: how the byte automaton (`Lexer.foldBytes`) reads the conformant
spellings of integers, reals, keywords, names, hexadecimal strings and literal strings.  Each kind
goes the same way: a byte of the main scanner opens the token, the scanner of that kind takes the
bytes of the spelling into its pending state, a byte of its END class emits the token and hands the
byte back to the main scanner.  What the byte classes have to do with one another is checked on
their closed forms (`Lemmas/LexTables.lean`), byte by byte.

What a spelling denotes is defined here too, next to the lemmas about its kind, and the statements of
C01 are written with these: `intValue`, `NameItem` / `nameValue`, `pairUp` / `codePairUp` (hexadecimal
strings, by ISO and as the code pairs them), `StrItem` / `strValue` with `nextOK`, `chainOK`, `depthAfter`
(literal strings).
-/
import PdfVerif.Lemmas.LexerErr
import PdfVerif.Lemmas.LexTables

namespace PdfVerif.Lexer
open PdfVerif PdfVerif.Gen.LexTables

theorem forall_byte_prop (P : UInt8 → Prop) [DecidablePred P]
    (h : (List.range 256).all (fun n => decide (P (UInt8.ofNat n))) = true) (c : UInt8) : P c :=
  of_decide_eq_true (forall_byte (fun c => decide (P c)) h c)

theorem fold_run (p : UInt8 → Bool) (st : St) (run : Bytes) (pos : Nat) (hs : searchClass st.mode = some p)
    (hm : st.mode ≠ .main) (hp : ∀ x ∈ run, p x = false) :
    foldBytes st run pos = ({ st with cur := st.cur ++ run }, []) := by
  have h := fold_nonmatch p run [] st pos hs hp
  rw [List.append_nil] at h
  rw [h]
  simp [foldBytes, accum, hm]

theorem fold_quiet {st st1 : St} {a : Bytes} {p : Nat} (h : foldBytes st a p = (st1, [])) (b : Bytes) :
    foldBytes st (a ++ b) p = foldBytes st1 b (p + a.length) := by
  rw [foldBytes_append, h]; rfl

theorem fold_cons_congr {s1 s2 : St} {c : UInt8} {p : Nat} (h : stepByte s1 c p = stepByte s2 c p) (rest : Bytes) :
    foldBytes s1 (c :: rest) p = foldBytes s2 (c :: rest) p := by
  simp only [foldBytes, h]

theorem digit_class : ∀ c : UInt8, isDigit c = true →
    isEND_NUMBER c = false ∧ isNONSPC c = true ∧ c ≠ 37 ∧ c ≠ 47 ∧ c ≠ 43 ∧ c ≠ 45 := by
  intro c; rw [isEND_NUMBER_eq, isNONSPC_eq]; revert c
  exact forall_byte_prop _ (by decide +kernel)

theorem main_number_start (st : St) (c : UInt8) (pos : Nat) (hm : st.mode = .main)
    (hc : isDigit c = true ∨ c = 43 ∨ c = 45) :
    stepByte st c pos = ({ st with tpos := pos, cur := [c], mode := .number }, []) := by
  rcases hc with h | rfl | rfl
  · obtain ⟨-, hns, h37, h47, -, -⟩ := digit_class c h
    rw [step_hit st c pos (.inr ⟨isNONSPC, congrArg searchClass hm, hns⟩)]
    simp [atHit, hm, parseMainHit, h37, h47, h]
  all_goals
    rw [step_hit st _ pos (.inr ⟨isNONSPC, congrArg searchClass hm, by rw [isNONSPC_eq]; rfl⟩)]
    simp [atHit, hm, parseMainHit]

theorem number_pending (st : St) (hm : st.mode = .main) (c : UInt8) (t : Bytes) (pos : Nat)
    (hc : isDigit c = true ∨ c = 43 ∨ c = 45) (ht : ∀ x ∈ t, isDigit x = true) :
    foldBytes st (c :: t) pos = ({ st with tpos := pos, cur := c :: t, mode := .number }, []) := by
  simp only [foldBytes, main_number_start st c pos hm hc]
  rw [fold_run isEND_NUMBER _ t (pos + 1) rfl (by simp) (fun x hx => (digit_class x (ht x hx)).1)]
  simp

theorem sign_digits_cons (sign ds : Bytes) (hs : sign = [] ∨ sign = [43] ∨ sign = [45])
    (hne : sign ++ ds ≠ []) (hd : ∀ c ∈ ds, isDigit c = true) :
    ∃ c t, sign ++ ds = c :: t ∧ (isDigit c = true ∨ c = 43 ∨ c = 45) ∧ ∀ x ∈ t, isDigit x = true := by
  rcases hs with rfl | rfl | rfl
  · cases ds with
    | nil => exact absurd rfl hne
    | cons c t => exact ⟨c, t, rfl, .inl (hd c (by simp)), fun x hx => hd x (by simp [hx])⟩
  · exact ⟨43, ds, rfl, .inr (.inl rfl), hd⟩
  · exact ⟨45, ds, rfl, .inr (.inr rfl), hd⟩

/-- decimal value of a digit string (Horner), the value the ISO grammar gives it -/
def decimalNat (ds : Bytes) : Nat := ds.foldl (fun acc c => acc * 10 + (c.toNat - 48)) 0

theorem natOfDigits_decimal : ∀ (ds : Bytes) (acc : Nat), (∀ c ∈ ds, isDigit c = true) →
    natOfDigits 10 ds acc = some (ds.foldl (fun a c => a * 10 + (c.toNat - 48)) acc)
  | [], acc, _ => rfl
  | c :: t, acc, h => by
    have hc := h c (by simp)
    have hv : digitVal c = some (c.toNat - 48) := by
      unfold isDigit at hc
      simp only [digitVal, hc, if_true]
    have hlt : c.toNat - 48 < 10 := by
      unfold isDigit at hc
      simp only [Bool.and_eq_true, decide_eq_true_eq] at hc
      have h2 : c.toNat ≤ 57 := UInt8.le_iff_toNat_le.mp hc.2
      omega
    simp only [natOfDigits, hv, hlt, if_true, List.foldl_cons]
    exact natOfDigits_decimal t _ (fun x hx => h x (by simp [hx]))

def intValue (sign : Bytes) (ds : Bytes) : Int :=
  if sign = [45] then -(decimalNat ds : Int) else (decimalNat ds : Int)

theorem pyInt_spelling (sign ds : Bytes) (hs : sign = [] ∨ sign = [43] ∨ sign = [45]) (hne : ds ≠ [])
    (hd : ∀ c ∈ ds, isDigit c = true) (hlen : ds.length ≤ maxStrDigits) :
    pyInt (sign ++ ds) = some (intValue sign ds) := by
  have hnat : pyIntBase 10 ds = some (decimalNat ds) := by
    simp [pyIntBase, List.isEmpty_eq_false_iff.mpr hne, natOfDigits_decimal ds 0 hd, decimalNat]
  have hnl : ¬ (ds.length > maxStrDigits) := by omega
  rcases hs with rfl | rfl | rfl
  · -- no sign: the first byte is a digit, so neither 45 nor 43
    cases ds with
    | nil => exact absurd rfl hne
    | cons c t =>
      obtain ⟨-, -, -, -, h43, h45⟩ := digit_class c (hd c (by simp))
      simp only [List.nil_append, pyInt]
      split
      · rename_i heq; simp at heq; exact absurd heq.1 h45
      · rename_i heq; simp at heq; exact absurd heq.1 h43
      · have hl : t.length + 1 ≤ maxStrDigits := by simpa using hlen
        simp [hnat, intValue, hl]
  · simp [pyInt, hnl, hnat, intValue]
  · simp [pyInt, hnl, hnat, intValue]

theorem int_token (st : St) (hm : st.mode = .main) (sign ds : Bytes) (d : UInt8) (rest : Bytes) (pos : Nat)
    (hs : sign = [] ∨ sign = [43] ∨ sign = [45]) (hne : ds ≠ []) (hd : ∀ c ∈ ds, isDigit c = true)
    (hlen : ds.length ≤ maxStrDigits) (hend : isEND_NUMBER d = true) (h46 : d ≠ 46) :
    (foldBytes st (sign ++ ds ++ d :: rest) pos).2 =
      (pos, Token.int (intValue sign ds)) ::
        (foldBytes { st with tpos := pos, cur := sign ++ ds, mode := .main } (d :: rest)
          (pos + (sign ++ ds).length)).2 := by
  obtain ⟨c, t, hct, hc, ht⟩ := sign_digits_cons sign ds hs (by simp [hne]) hd
  have h46' : (d == 46) = false := by simpa using h46
  rw [foldBytes_append, hct, number_pending st hm c t pos hc ht, ← hct]
  simp only [foldBytes, List.nil_append]
  rw [step_hit _ d _ (.inr ⟨isEND_NUMBER, rfl, hend⟩)]
  simp [atHit, parseNumberHit, h46', pyInt_spelling sign ds hs hne hd hlen, emit]

/-- a byte that may be written raw in a name: regular, 21h–7Eh, not `#` (ISO 32000-1 7.3.5) -/
def nameRaw (c : UInt8) : Bool :=
  33 ≤ c && c ≤ 126 && c != 35 && c != 40 && c != 41 && c != 60 && c != 62 && c != 91 && c != 93 &&
    c != 123 && c != 125 && c != 47 && c != 37

/-- one element of a name's spelling: a raw byte or `#` + two hexadecimal digit characters -/
inductive NameItem where
  | raw (c : UInt8)
  | esc (h l : UInt8)

def hexCharVal (c : UInt8) : Nat := (digitVal c).getD 0

def NameItem.ok : NameItem → Prop
  | .raw c => nameRaw c = true
  | .esc h l => isHEX h = true ∧ isHEX l = true

instance : DecidablePred NameItem.ok := fun i => by cases i <;> unfold NameItem.ok <;> infer_instance

def NameItem.render : NameItem → Bytes
  | .raw c => [c]
  | .esc h l => [35, h, l]

def NameItem.value : NameItem → UInt8
  | .raw c => c
  | .esc h l => UInt8.ofNat (hexCharVal h * 16 + hexCharVal l)

def renderName : List NameItem → Bytes
  | [] => []
  | i :: r => i.render ++ renderName r

def nameValue : List NameItem → Bytes
  | [] => []
  | i :: r => i.value :: nameValue r

theorem nameRaw_class : ∀ c : UInt8, nameRaw c = true → isEND_LITERAL c = false := by
  intro c; rw [isEND_LITERAL_eq]; revert c
  exact forall_byte_prop _ (by decide +kernel)

/-- `_parse_literal` is reading a name token that denotes `v` so far -/
def InName (v : Bytes) (tp : Nat) (st : St) : Prop := st.mode = .literal ∧ st.cur = v ∧ st.tpos = tp

theorem hexDigit_val (a : UInt8) (ha : isHEX a = true) : ∃ x, digitVal a = some x ∧ hexCharVal a = x ∧ x < 16 := by
  have h1 := hex_digit a
  simp only [ha, Bool.not_true, Bool.false_or, digitBelow] at h1
  split at h1
  · rename_i x hx; exact ⟨x, hx, by simp [hexCharVal, hx], by simpa using h1⟩
  · simp at h1

theorem literalHex_full (st : St) (c : UInt8) (p : Nat) (h l : UInt8) (hm : st.mode = .literalHex)
    (hx : st.hex = [h, l]) (hh : isHEX h = true) (hl : isHEX l = true) :
    stepByte st c p =
      stepByte { st with cur := st.cur ++ [UInt8.ofNat (hexCharVal h * 16 + hexCharVal l)], mode := .literal } c p := by
  obtain ⟨a, ha, hav, hal⟩ := hexDigit_val h hh
  obtain ⟨b, hb, hbv, hbl⟩ := hexDigit_val l hl
  have hlt : a * 16 + b < 256 := by omega
  rw [step_hit st c p (.inl (by rw [hm]; rfl))]
  simp [atHit, hm, parseLiteralHexHit, hx, pyIntBase, natOfDigits, ha, hb, hal, hbl, hav, hbv, hlt]

/-- The byte `c` after the item is part of the statement because after `#xx` the scanner is still
    `_parse_literal_hex`: it converts the two digits when it sees `c`, whatever `c` is. -/
theorem name_item (v : Bytes) (tp : Nat) (st : St) (p : Nat) (i : NameItem) (hs : InName v tp st) (hi : i.ok) :
    ∃ st', InName (v ++ [i.value]) tp st' ∧ ∀ c rest,
      foldBytes st (i.render ++ c :: rest) p = foldBytes st' (c :: rest) (p + i.render.length) := by
  obtain ⟨hm, hc, htp⟩ := hs
  cases i with
  | raw c =>
    have hf : foldBytes st [c] p = (accum st [c], []) := by
      simp [foldBytes, step_nonmatch st c p isEND_LITERAL (congrArg searchClass hm) (nameRaw_class c hi)]
    exact ⟨accum st [c], ⟨by simp [hm], by simp [accum, hm, hc, NameItem.value], by simp [accum, hm, htp]⟩,
      fun _ _ => fold_quiet hf _⟩
  | esc h l =>
    have s1 : stepByte st 35 p = ({ st with hex := [], mode := .literalHex }, []) := by
      rw [step_hit st 35 p (.inr ⟨isEND_LITERAL, congrArg searchClass hm, by rw [isEND_LITERAL_eq]; rfl⟩)]
      simp [atHit, hm, parseLiteralHit]
    have s2 : stepByte { st with hex := [], mode := .literalHex } h (p + 1)
        = ({ st with hex := [h], mode := .literalHex }, []) := by
      rw [step_hit _ h (p + 1) (.inl rfl)]
      simp [atHit, parseLiteralHexHit, hi.1]
    have s3 : stepByte { st with hex := [h], mode := .literalHex } l (p + 1 + 1)
        = ({ st with hex := [h, l], mode := .literalHex }, []) := by
      rw [step_hit _ l (p + 1 + 1) (.inl rfl)]
      simp [atHit, parseLiteralHexHit, hi.2]
    have hf : foldBytes st [35, h, l] p = ({ st with hex := [h, l], mode := .literalHex }, []) := by
      simp [foldBytes, s1, s2, s3]
    exact ⟨{ st with hex := [h, l], cur := st.cur ++ [UInt8.ofNat (hexCharVal h * 16 + hexCharVal l)], mode := .literal },
      ⟨rfl, by simp [hc, NameItem.value], htp⟩,
      fun c rest => (fold_quiet hf _).trans (fold_cons_congr (literalHex_full _ c _ h l rfl rfl hi.1 hi.2) rest)⟩

theorem name_items_fold : ∀ (items : List NameItem) (v : Bytes) (tp : Nat) (st : St) (p : Nat) (c : UInt8) (rest : Bytes),
    InName v tp st → (∀ i ∈ items, i.ok) →
    ∃ st', InName (v ++ nameValue items) tp st' ∧
      foldBytes st (renderName items ++ c :: rest) p = foldBytes st' (c :: rest) (p + (renderName items).length)
  | [], v, tp, st, p, c, rest, hs, _ => ⟨st, by simpa [nameValue] using hs, by simp [renderName]⟩
  | i :: r, v, tp, st, p, c, rest, hs, hok => by
    obtain ⟨st1, hs1, hf1⟩ := name_item v tp st p i hs (hok i (by simp))
    obtain ⟨st2, hs2, hf2⟩ := name_items_fold r (v ++ [i.value]) tp st1 (p + i.render.length) c rest hs1
      (fun j hj => hok j (by simp [hj]))
    refine ⟨st2, by simpa [nameValue] using hs2, ?_⟩
    obtain ⟨c', tl, hctl⟩ : ∃ c' tl, renderName r ++ c :: rest = c' :: tl := by
      cases renderName r with
      | nil => exact ⟨c, rest, rfl⟩
      | cons a t => exact ⟨a, t ++ c :: rest, rfl⟩
    rw [renderName, List.append_assoc, hctl, hf1, ← hctl, hf2]
    simp [Nat.add_assoc]

theorem name_end (v : Bytes) (tp : Nat) (st : St) (d : UInt8) (p : Nat) (hs : InName v tp st)
    (hd : isEND_LITERAL d = true) (h35 : d ≠ 35) :
    ∃ st', st'.mode = .main ∧
      stepByte st d p = ((stepByte st' d p).1, (tp, Token.lit v) :: (stepByte st' d p).2) := by
  obtain ⟨hm, hc, htp⟩ := hs
  have h35' : (d == 35) = false := by simpa using h35
  refine ⟨{ st with mode := .main }, rfl, ?_⟩
  rw [step_hit st d p (.inr ⟨isEND_LITERAL, congrArg searchClass hm, hd⟩)]
  simp [atHit, hm, parseLiteralHit, h35', emit, hc, htp]

theorem main_name_start (st : St) (pos : Nat) (hm : st.mode = .main) :
    ∃ st', InName [] pos st' ∧ stepByte st 47 pos = (st', []) := by
  refine ⟨{ st with tpos := pos, cur := [], mode := .literal }, ⟨rfl, rfl, rfl⟩, ?_⟩
  rw [step_hit st 47 pos (.inr ⟨isNONSPC, congrArg searchClass hm, by rw [isNONSPC_eq]; rfl⟩)]
  simp [atHit, hm, parseMainHit]

theorem name_token (st : St) (hm : st.mode = .main) (items : List NameItem) (hok : ∀ i ∈ items, i.ok)
    (d : UInt8) (rest : Bytes) (pos : Nat) (hd : isEND_LITERAL d = true) (h35 : d ≠ 35) :
    ∃ st', st'.mode = .main ∧
      (foldBytes st (47 :: renderName items ++ d :: rest) pos).2 =
        (pos, Token.lit (nameValue items)) ::
          (foldBytes st' (d :: rest) (pos + 1 + (renderName items).length)).2 := by
  obtain ⟨s1, hp1, hs1⟩ := main_name_start st pos hm
  obtain ⟨s2, hp2, hs2⟩ := name_items_fold items [] pos s1 (pos + 1) d rest hp1 hok
  obtain ⟨s3, hm3, hs3⟩ := name_end _ pos s2 d (pos + 1 + (renderName items).length) hp2 hd h35
  refine ⟨s3, hm3, ?_⟩
  simp only [List.cons_append, foldBytes, hs1, List.nil_append]
  rw [hs2]
  simp [foldBytes, hs3]

/-- ISO 32000-1 7.3.4.3: pairs of hexadecimal digits; a final odd digit is followed by an assumed 0. -/
def pairUp : Bytes → Bytes
  | [] => []
  | [a] => [UInt8.ofNat (hexCharVal a * 16)]
  | a :: b :: t => UInt8.ofNat (hexCharVal a * 16 + hexCharVal b) :: pairUp t

theorem hexbody_class : ∀ c : UInt8, isHEX c = true ∨ isSPC c = true → isEND_HEX_STRING c = false ∧ c ≠ 60 := by
  intro c; rw [isHEX_eq, isSPC_eq, isEND_HEX_STRING_eq]; revert c
  exact forall_byte_prop _ (by decide +kernel)

/-- the bytes the CODE makes of a run of hex digits: pairs, a final odd digit read as the LOW nibble
    (ISO 32000-1 7.3.4.3 says high nibble: `pairUp`) -/
def codePairUp : Bytes → Bytes
  | [] => []
  | [a] => [UInt8.ofNat (hexCharVal a)]
  | a :: b :: t => UInt8.ofNat (hexCharVal a * 16 + hexCharVal b) :: codePairUp t

theorem hexPairs_all : ∀ (ds : Bytes), (∀ c ∈ ds, isHEX c = true) → hexPairs ds = some (codePairUp ds)
  | [], _ => rfl
  | [a], hh => by
    have ha := hh a (by simp)
    obtain ⟨x, hx, hv, -⟩ := hexDigit_val a ha
    have hne : (a == 10) = false := by
      rw [beq_eq_false_iff_ne]; rintro rfl; rw [isHEX_eq] at ha; exact absurd ha (by decide)
    simp [hexPairs, hne, hx, codePairUp, hv]
  | a :: b :: t, hh => by
    have ha := hh a (by simp)
    have hb := hh b (by simp)
    obtain ⟨x, hx, hxv, -⟩ := hexDigit_val a ha
    obtain ⟨y, hy, hyv, -⟩ := hexDigit_val b hb
    have ih := hexPairs_all t (fun x hx => hh x (by simp [hx]))
    simp [hexPairs, ha, hb, hx, hy, ih, codePairUp, hxv, hyv]

theorem codePairUp_even : ∀ (n : Nat) (ds : Bytes), ds.length = 2 * n → codePairUp ds = pairUp ds
  | 0, ds, hl => by
    have : ds = [] := by cases ds with
      | nil => rfl
      | cons _ _ => simp at hl
    subst this; rfl
  | n + 1, ds, hl => by
    match ds, hl with
    | a :: b :: t, hl => simp [codePairUp, pairUp, codePairUp_even n t (by simp at hl; omega)]
    | [_], hl => simp at hl; omega
    | [], hl => simp at hl

theorem main_angle (st : St) (p : Nat) (hm : st.mode = .main) :
    stepByte st 60 p = ({ st with tpos := p, cur := [], mode := .wopen }, []) ∧
    stepByte st 62 p = ({ st with tpos := p, cur := [], mode := .wclose }, []) := by
  constructor
  all_goals
    rw [step_hit st _ p (.inr ⟨isNONSPC, congrArg searchClass hm, by rw [isNONSPC_eq]; rfl⟩)]
    simp [atHit, hm, parseMainHit, isDigit, isAlpha]

theorem fold_from_wopen (st : St) (c : UInt8) (tl : Bytes) (p : Nat) (hm : st.mode = .wopen) (hc : c ≠ 60) :
    foldBytes st (c :: tl) p = foldBytes { st with mode := .hexstring } (c :: tl) p := by
  have hc' : (c == 60) = false := by simpa using hc
  simp only [foldBytes]
  rw [step_hit st c p (.inl (by rw [hm]; rfl))]
  simp [atHit, hm, parseWopenHit, hc']

theorem hex_spelling_code (st : St) (hm : st.mode = .main) (body : Bytes) (pos : Nat)
    (hb : ∀ c ∈ body, isHEX c = true ∨ isSPC c = true) :
    foldBytes st (60 :: body ++ [62]) pos =
      ({ st with tpos := pos + 1 + body.length, cur := [], mode := .wclose },
       [(pos, Token.str (codePairUp (body.filter (fun c => !isSPC c))))]) := by
  have e62 : isEND_HEX_STRING 62 = true := by rw [isEND_HEX_STRING_eq]; rfl
  -- the byte after `<` is not `<`: the wopen scanner hands over to the hexstring scanner
  obtain ⟨c, tl, hctl, hc60⟩ : ∃ c tl, body ++ [62] = c :: tl ∧ c ≠ 60 := by
    cases body with
    | nil => exact ⟨62, [], rfl, by decide⟩
    | cons c t => exact ⟨c, t ++ [62], rfl, (hexbody_class c (hb c (by simp))).2⟩
  have hdig : ∀ c ∈ body.filter (fun c => !isSPC c), isHEX c = true := by
    intro c hc
    have hm' := List.mem_filter.mp hc
    rcases hb c hm'.1 with h | h
    · exact h
    · simp [h] at hm'
  have hpairs := hexPairs_all _ hdig
  simp only [List.cons_append, foldBytes, (main_angle st pos hm).1, List.nil_append]
  rw [hctl, fold_from_wopen _ c tl _ rfl hc60, ← hctl,
    fold_quiet (fold_run isEND_HEX_STRING _ body (pos + 1) rfl (by simp) (fun x hx => (hexbody_class x (hb x hx)).1))]
  simp only [foldBytes]
  rw [step_hit _ 62 _ (.inr ⟨isEND_HEX_STRING, rfl, e62⟩)]
  simp only [atHit, parseHexstringHit, List.nil_append, hpairs, Bool.false_eq_true, if_false]
  rw [(main_angle _ _ rfl).2]
  simp [emit]

theorem hex_spelling (st : St) (hm : st.mode = .main) (body : Bytes) (pos : Nat) (n : Nat)
    (hb : ∀ c ∈ body, isHEX c = true ∨ isSPC c = true)
    (heven : (body.filter (fun c => !isSPC c)).length = 2 * n) :
    foldBytes st (60 :: body ++ [62]) pos =
      ({ st with tpos := pos + 1 + body.length, cur := [], mode := .wclose },
       [(pos, Token.str (pairUp (body.filter (fun c => !isSPC c))))]) := by
  rw [← codePairUp_even n _ heven]
  exact hex_spelling_code st hm body pos hb

inductive Eol where
  | lf | cr | crlf

/-- one element of the spelling of a literal string's body (ISO 32000-1 7.3.4.2, Table 3) -/
inductive StrItem where
  | raw (c : UInt8)              -- the byte itself
  | esc (e : UInt8)              -- backslash + one of n r t b f ( ) backslash
  | oct1 (a : UInt8)             -- backslash + 1..3 octal digits
  | oct2 (a b : UInt8)
  | oct3 (a b c : UInt8)
  | cont (e : Eol)               -- backslash + end-of-line marker: nothing
  | ign (c : UInt8)              -- backslash + any other byte: the backslash is ignored
  | popen                        -- a raw, balanced `(`
  | pclose                       -- its `)`

def octByte (ds : Bytes) : UInt8 := UInt8.ofNat (((natOfDigits 8 ds 0).getD 0) % 256)

def StrItem.ok : StrItem → Prop
  | .raw c => isEND_STRING c = false ∧ c ≠ 13
  | .esc e => (escLookup e).isSome = true
  | .oct1 a => isOCT_STRING a = true
  | .oct2 a b => isOCT_STRING a = true ∧ isOCT_STRING b = true
  | .oct3 a b c => isOCT_STRING a = true ∧ isOCT_STRING b = true ∧ isOCT_STRING c = true
  | .cont _ => True
  | .ign c => isOCT_STRING c = false ∧ escLookup c = none ∧ c ≠ 13 ∧ c ≠ 10
  | .popen => True
  | .pclose => True

instance : DecidablePred StrItem.ok := fun i => by cases i <;> unfold StrItem.ok <;> infer_instance

def StrItem.render : StrItem → Bytes
  | .raw c => [c]
  | .esc e => [92, e]
  | .oct1 a => [92, a]
  | .oct2 a b => [92, a, b]
  | .oct3 a b c => [92, a, b, c]
  | .cont .lf => [92, 10]
  | .cont .cr => [92, 13]
  | .cont .crlf => [92, 13, 10]
  | .ign c => [92, c]
  | .popen => [40]
  | .pclose => [41]

def StrItem.value : StrItem → Bytes
  | .raw c => [c]
  | .esc e => [(escLookup e).getD 0]
  | .oct1 a => [octByte [a]]
  | .oct2 a b => [octByte [a, b]]
  | .oct3 a b c => [octByte [a, b, c]]
  | .cont _ => []
  | .ign c => [c]
  | .popen => [40]
  | .pclose => [41]

/-- what the byte FOLLOWING an item must not be, for the spelling to mean what it says: a short
    octal escape must not be followed by an octal digit, backslash-CR not by LF -/
def StrItem.nextOK : StrItem → UInt8 → Prop
  | .oct1 _, c => isOCT_STRING c = false
  | .oct2 _ _, c => isOCT_STRING c = false
  | .cont .cr, c => c ≠ 10
  | _, _ => True

def renderStr : List StrItem → Bytes
  | [] => []
  | i :: r => i.render ++ renderStr r

def strValue : List StrItem → Bytes
  | [] => []
  | i :: r => i.value ++ strValue r

/-- every item is followed by an acceptable byte (the closing parenthesis after the last one) -/
def chainOK : List StrItem → Prop
  | [] => True
  | [i] => i.nextOK 41
  | i :: j :: r => i.nextOK ((j.render ++ [41]).headD 41) ∧ chainOK (j :: r)

/-- nesting depth of raw parentheses after the items, `none` if a `)` has no partner -/
def depthAfter : Nat → List StrItem → Option Nat
  | d, [] => some d
  | d, .popen :: r => depthAfter (d + 1) r
  | 0, .pclose :: _ => none
  | d + 1, .pclose :: r => depthAfter d r
  | d, _ :: r => depthAfter d r

/-- stated this way round, the sweep looks up `ESC_STRING` for the eight octal digits only -/
theorem oct_not_esc : ∀ c : UInt8, isOCT_STRING c = true → escLookup c = none := by
  intro c; rw [isOCT_STRING_eq]; revert c
  exact forall_byte_prop _ (by decide +kernel)

/-- `_parse_string` is reading a string token that denotes `v` so far, at parenthesis depth `depth` -/
def Settled (v : Bytes) (depth tp : Nat) (st : St) : Prop :=
  st.mode = .string ∧ st.cur = v ∧ st.tpos = tp ∧ st.paren = (depth : Int) + 1

theorem oct_value (ds : Bytes) (hne : ds ≠ []) (hd : ∀ c ∈ ds, isOCT_STRING c = true) :
    ∃ v, pyIntBase 8 ds = some v ∧ UInt8.ofNat (v % 256) = octByte ds := by
  have hd' : ∀ c ∈ ds, digitBelow 8 c = true := fun c hc => by
    have := oct_digit c; simpa [hd c hc] using this
  obtain ⟨v, hv⟩ := natOfDigits_some 8 ds 0 hd'
  exact ⟨v, by simp [pyIntBase, List.isEmpty_eq_false_iff.mpr hne, hv], by simp [octByte, hv]⟩

theorem string1_flush (st : St) (c : UInt8) (p : Nat) (hm : st.mode = .string1) (hne : st.oct ≠ [])
    (hoct : ∀ x ∈ st.oct, isOCT_STRING x = true) (hc : st.oct.length = 3 ∨ isOCT_STRING c = false) :
    stepByte st c p = stepByte { st with cur := st.cur ++ [octByte st.oct], mode := .string } c p := by
  obtain ⟨val, hval, hbyte⟩ := oct_value st.oct hne hoct
  have hcond : (isOCT_STRING c && decide (st.oct.length < 3)) = false := by
    rcases hc with h3 | hc
    · simp [h3]
    · simp [hc]
  have hemp := List.isEmpty_eq_false_iff.mpr hne
  rw [step_hit st c p (.inl (by rw [hm]; rfl))]
  simp [atHit, hm, parseString1Hit, hcond, hemp, hval, hbyte]

theorem string2_other (st : St) (c : UInt8) (p : Nat) (hm : st.mode = .string2) (hc : c ≠ 10) :
    stepByte st c p = stepByte { st with mode := .string } c p := by
  have hc' : (c == 10) = false := by simpa using hc
  rw [step_hit st c p (.inl (by rw [hm]; rfl))]
  simp [atHit, hm, parseString2Hit, hc']

theorem string_backslash (st : St) (p : Nat) (hm : st.mode = .string) :
    stepByte st 92 p = ({ st with oct := [], mode := .string1 }, []) := by
  rw [step_hit st 92 p (.inr ⟨isEND_STRING, congrArg searchClass hm, by rw [isEND_STRING_eq]; rfl⟩)]
  simp [atHit, hm, parseStringHit]

/-- The byte after the backslash (no octal digits collected yet) is always consumed, and no token
    is added: `_parse_string_1` hands a byte back only when it ends a pending octal escape. -/
theorem string1_step (st : St) (c : UInt8) (p : Nat) (hm : st.mode = .string1) (ho : st.oct = []) :
    stepByte st c p = ((parseString1Hit st c).st, []) := by
  rw [step_hit st c p (.inl (by rw [hm]; rfl))]
  have hc : (parseString1Hit st c).consumed = true ∧ (parseString1Hit st c).toks = [] := by
    fun_cases parseString1Hit st c
    case case2 | case3 => simp_all  -- the branches that end an octal escape: there are no digits
    all_goals exact ⟨rfl, rfl⟩
  simp only [atHit, hm, hc.1, hc.2, if_true]

theorem string1_digits : ∀ (ds : Bytes) (st : St) (p : Nat), st.mode = .string1 → (∀ c ∈ ds, isOCT_STRING c = true) →
    st.oct.length + ds.length ≤ 3 → foldBytes st ds p = ({ st with oct := st.oct ++ ds }, [])
  | [], st, p, _, _, _ => by simp [foldBytes]
  | c :: t, st, p, hm, hd, hl => by
    have hc := hd c (by simp)
    have hl' : st.oct.length < 3 := by simp only [List.length_cons] at hl; omega
    have hs : stepByte st c p = ({ st with oct := st.oct ++ [c] }, []) := by
      rw [step_hit st c p (.inl (by rw [hm]; rfl))]
      simp [atHit, hm, parseString1Hit, hc, hl']
    rw [foldBytes, hs, string1_digits t { st with oct := st.oct ++ [c] } (p + 1) hm (fun x hx => hd x (by simp [hx]))
      (by simp only [List.length_append, List.length_cons, List.length_nil] at hl ⊢; omega)]
    simp

theorem string1_first (st : St) (c : UInt8) (p : Nat) (hm : st.mode = .string1) (ho : st.oct = []) :
    stepByte st c p =
      ((parseString1Hit st c).st, []) ∨ True := Or.inl (string1_step st c p hm ho)

/-- The byte `c` after the item is part of the statement because an octal escape and backslash-CR leave
    `_parse_string_1` / `_parse_string_2` waiting: it is `c`, which `nextOK` keeps from extending them, that
    takes the scanner back to `_parse_string`. -/
theorem str_item (st : St) (v : Bytes) (depth tp p : Nat) (i : StrItem) (hs : Settled v depth tp st)
    (hi : i.ok) (depth' : Nat) (hd : depthAfter depth [i] = some depth') :
    ∃ st', Settled (v ++ i.value) depth' tp st' ∧ ∀ c rest, i.nextOK c →
      foldBytes st (i.render ++ c :: rest) p = foldBytes st' (c :: rest) (p + i.render.length) := by
  obtain ⟨hm, hc, htp, hpar⟩ := hs
  have done : ∀ {st' : St}, Settled (v ++ i.value) depth' tp st' → foldBytes st i.render p = (st', []) →
      ∃ st', Settled (v ++ i.value) depth' tp st' ∧ ∀ c rest, i.nextOK c →
        foldBytes st (i.render ++ c :: rest) p = foldBytes st' (c :: rest) (p + i.render.length) :=
    fun h hf => ⟨_, h, fun _ _ _ => fold_quiet hf _⟩
  have hb := string_backslash st p hm
  have hB : ∀ (c : UInt8) (q : Nat), stepByte { st with oct := [], mode := .string1 } c q =
      ((parseString1Hit { st with oct := [], mode := .string1 } c).st, []) :=
    fun c q => string1_step _ c q rfl rfl
  have hoct : ∀ ds : Bytes, ds ≠ [] → ds.length ≤ 3 → (∀ x ∈ ds, isOCT_STRING x = true) →
      ∃ st', Settled (v ++ [octByte ds]) depth tp st' ∧ ∀ c rest, ds.length = 3 ∨ isOCT_STRING c = false →
        foldBytes st (92 :: ds ++ c :: rest) p = foldBytes st' (c :: rest) (p + (92 :: ds).length) :=
    fun ds hne hl hds =>
      have hf : foldBytes st (92 :: ds) p = ({ st with oct := ds, mode := .string1 }, []) := by
        rw [foldBytes, hb, string1_digits ds _ _ rfl hds (by simpa using hl)]; simp
      ⟨{ st with oct := ds, cur := st.cur ++ [octByte ds], mode := .string }, ⟨rfl, by simp [hc], htp, hpar⟩,
        fun c rest hn => (fold_quiet hf _).trans (fold_cons_congr (string1_flush _ c _ rfl hne hds hn) rest)⟩
  have e10 : escLookup 10 = none := by decide
  have e13 : escLookup 13 = none := by decide
  cases i with
  | raw c =>
    cases hd
    refine done (st' := accum st [c]) ⟨by simp [hm], by simp [accum, hm, hc, StrItem.value], by simp [accum, hm, htp],
      by simp [accum, hm, hpar]⟩ ?_
    simp only [StrItem.render, foldBytes, step_nonmatch st c p isEND_STRING (congrArg searchClass hm) hi.1]
    simp
  | esc e =>
    cases hd
    obtain ⟨x, hx⟩ := Option.isSome_iff_exists.mp hi
    have he : isOCT_STRING e = false := by
      cases ho : isOCT_STRING e with
      | false => rfl
      | true => rw [oct_not_esc e ho] at hx; cases hx
    refine done (st' := { st with oct := [], cur := st.cur ++ [x], mode := .string })
      ⟨rfl, by simp [hc, StrItem.value, hx], htp, hpar⟩ ?_
    simp only [StrItem.render, foldBytes, hb, hB]
    simp [parseString1Hit, he, hx]
  | oct1 a =>
    cases hd
    obtain ⟨s, h1, h2⟩ := hoct [a] (by simp) (by simp) (by simpa [StrItem.ok] using hi)
    exact ⟨s, h1, fun c rest hn => h2 c rest (.inr hn)⟩
  | oct2 a b =>
    cases hd
    obtain ⟨s, h1, h2⟩ := hoct [a, b] (by simp) (by simp) (by simpa [StrItem.ok] using hi)
    exact ⟨s, h1, fun c rest hn => h2 c rest (.inr hn)⟩
  | oct3 a b c =>
    cases hd
    obtain ⟨s, h1, h2⟩ := hoct [a, b, c] (by simp) (by simp) (by simpa [StrItem.ok] using hi)
    exact ⟨s, h1, fun c rest _ => h2 c rest (.inl rfl)⟩
  | cont e =>
    cases hd
    cases e with
    | lf =>
      refine done (st' := { st with oct := [], mode := .string }) ⟨rfl, by simp [hc, StrItem.value], htp, hpar⟩ ?_
      simp only [StrItem.render, foldBytes, hb, hB]
      simp [parseString1Hit, isOCT_STRING_eq, e10]
    | cr =>
      have hf : foldBytes st [92, 13] p = ({ st with oct := [], mode := .string2 }, []) := by
        simp only [foldBytes, hb, hB]
        simp [parseString1Hit, isOCT_STRING_eq, e13]
      exact ⟨{ st with oct := [], mode := .string }, ⟨rfl, by simp [hc, StrItem.value], htp, hpar⟩,
        fun c rest hn => (fold_quiet hf _).trans (fold_cons_congr (string2_other _ c _ rfl hn) rest)⟩
    | crlf =>
      refine done (st' := { st with oct := [], mode := .string }) ⟨rfl, by simp [hc, StrItem.value], htp, hpar⟩ ?_
      simp only [StrItem.render, foldBytes, hb, hB]
      have s2 : stepByte { st with oct := [], mode := .string2 } 10 (p + 1 + 1) =
          ({ st with oct := [], mode := .string }, []) := by
        rw [step_hit _ 10 _ (.inl rfl)]
        simp [atHit, parseString2Hit]
      simp [parseString1Hit, isOCT_STRING_eq, e13, s2]
  | ign c =>
    cases hd
    obtain ⟨h1, h2, h3, h4⟩ := hi
    have h3' : (c == 13) = false := by simpa using h3
    have h4' : (c != 10) = true := by simpa using h4
    refine done (st' := { st with oct := [], cur := st.cur ++ [c], mode := .string })
      ⟨rfl, by simp [hc, StrItem.value], htp, hpar⟩ ?_
    simp only [StrItem.render, foldBytes, hb, hB]
    simp [parseString1Hit, h1, h2, h3', h4']
  | popen =>
    cases hd
    refine done (st' := { st with paren := st.paren + 1, cur := st.cur ++ [40] })
      ⟨hm, by simp [hc, StrItem.value], htp, by simp [hpar]⟩ ?_
    simp only [StrItem.render, foldBytes]
    rw [step_hit st 40 p (.inr ⟨isEND_STRING, congrArg searchClass hm, by rw [isEND_STRING_eq]; rfl⟩)]
    simp [atHit, hm, parseStringHit]
  | pclose =>
    cases depth with
    | zero => simp [depthAfter] at hd
    | succ k =>
      cases hd
      have hne : (st.paren - 1 != 0) = true := by simp [hpar]; omega
      refine done (st' := { st with paren := st.paren - 1, cur := st.cur ++ [41] })
        ⟨hm, by simp [hc, StrItem.value], htp, by simp [hpar]⟩ ?_
      simp only [StrItem.render, foldBytes]
      rw [step_hit st 41 p (.inr ⟨isEND_STRING, congrArg searchClass hm, by rw [isEND_STRING_eq]; rfl⟩)]
      simp [atHit, hm, parseStringHit, hne]

theorem render_ne (i : StrItem) : ∃ c tl, i.render = c :: tl := by
  cases i with
  | cont e => cases e <;> exact ⟨_, _, rfl⟩
  | _ => exact ⟨_, _, rfl⟩

theorem depthAfter_cons (d : Nat) (i : StrItem) (r : List StrItem) :
    depthAfter d (i :: r) = (depthAfter d [i]).bind (fun d1 => depthAfter d1 r) := by
  cases i <;> cases d <;> simp [depthAfter]

theorem str_items_fold : ∀ (items : List StrItem) (v : Bytes) (depth tp : Nat) (st : St) (p : Nat) (depth' : Nat)
    (rest : Bytes), Settled v depth tp st → (∀ i ∈ items, i.ok) → chainOK items →
    depthAfter depth items = some depth' →
    ∃ st', Settled (v ++ strValue items) depth' tp st' ∧
      foldBytes st (renderStr items ++ 41 :: rest) p = foldBytes st' (41 :: rest) (p + (renderStr items).length)
  | [], v, depth, tp, st, p, depth', rest, hs, _, _, hd => by
    cases hd
    exact ⟨st, by simpa [strValue] using hs, by simp [renderStr]⟩
  | i :: r, v, depth, tp, st, p, depth', rest, hs, hok, hch, hd => by
    rw [depthAfter_cons] at hd
    cases hd1 : depthAfter depth [i] with
    | none => simp [hd1] at hd
    | some d1 =>
      simp only [hd1, Option.bind_some] at hd
      -- the byte after the item is the first of the next item, or the closing parenthesis
      obtain ⟨c, tl, hctl, hn, hch2⟩ : ∃ c tl, renderStr r ++ 41 :: rest = c :: tl ∧ i.nextOK c ∧ chainOK r := by
        cases r with
        | nil => exact ⟨41, rest, rfl, hch, trivial⟩
        | cons j r' =>
          obtain ⟨c, t0, hj⟩ := render_ne j
          refine ⟨c, t0 ++ (renderStr r' ++ 41 :: rest), by simp [renderStr, hj], ?_, hch.2⟩
          simpa [hj] using hch.1
      obtain ⟨st1, hs1, hf1⟩ := str_item st v depth tp p i hs (hok i (by simp)) d1 hd1
      obtain ⟨st2, hs2, hf2⟩ := str_items_fold r (v ++ i.value) d1 tp st1 (p + i.render.length) depth' rest hs1
        (fun j hj => hok j (by simp [hj])) hch2 hd
      refine ⟨st2, by simpa [strValue] using hs2, ?_⟩
      rw [renderStr, List.append_assoc, hctl, hf1 c tl hn, ← hctl, hf2]
      simp [Nat.add_assoc]

theorem str_end (v : Bytes) (tp : Nat) (st : St) (p : Nat) (hs : Settled v 0 tp st) :
    ∃ st', st'.mode = .main ∧ stepByte st 41 p = (st', [(tp, Token.str v)]) := by
  obtain ⟨hm, hc, htp, hpar⟩ := hs
  have hz : (st.paren - 1 != 0) = false := by simp [hpar]
  refine ⟨{ st with paren := st.paren - 1, mode := .main }, rfl, ?_⟩
  rw [step_hit st 41 p (.inr ⟨isEND_STRING, congrArg searchClass hm, by rw [isEND_STRING_eq]; rfl⟩)]
  simp [atHit, hm, parseStringHit, hz, emit, hc, htp]

theorem main_string_start (st : St) (pos : Nat) (hm : st.mode = .main) :
    ∃ st', Settled [] 0 pos st' ∧ stepByte st 40 pos = (st', []) := by
  refine ⟨{ st with tpos := pos, cur := [], paren := 1, mode := .string }, ⟨rfl, rfl, rfl, by simp⟩, ?_⟩
  rw [step_hit st 40 pos (.inr ⟨isNONSPC, congrArg searchClass hm, by rw [isNONSPC_eq]; rfl⟩)]
  simp [atHit, hm, parseMainHit, isDigit, isAlpha]

theorem string_token (st : St) (hm : st.mode = .main) (items : List StrItem) (pos : Nat)
    (hok : ∀ i ∈ items, i.ok) (hch : chainOK items) (hbal : depthAfter 0 items = some 0) :
    ∃ st', st'.mode = .main ∧
      foldBytes st (40 :: renderStr items ++ [41]) pos = (st', [(pos, Token.str (strValue items))]) := by
  obtain ⟨s1, hs1, hf1⟩ := main_string_start st pos hm
  obtain ⟨s2, hs2, hf2⟩ := str_items_fold items [] 0 pos s1 (pos + 1) 0 [] hs1 hok hch hbal
  obtain ⟨s3, hm3, hf3⟩ := str_end _ pos s2 (pos + 1 + (renderStr items).length) hs2
  refine ⟨s3, hm3, ?_⟩
  simp only [List.cons_append, foldBytes, hf1, List.nil_append]
  rw [hf2]
  simp [foldBytes, hf3]

theorem alpha_class : ∀ c : UInt8, isAlpha c = true →
    isEND_KEYWORD c = false ∧ isNONSPC c = true ∧ c ≠ 37 ∧ c ≠ 47 ∧ c ≠ 45 ∧ c ≠ 43 ∧ isDigit c = false ∧ c ≠ 46 := by
  intro c; rw [isEND_KEYWORD_eq_literal, isEND_LITERAL_eq, isNONSPC_eq]; revert c
  exact forall_byte_prop _ (by decide +kernel)

theorem main_keyword_start (st : St) (c : UInt8) (pos : Nat) (hm : st.mode = .main) (hc : isAlpha c = true) :
    stepByte st c pos = ({ st with tpos := pos, cur := [c], mode := .keyword }, []) := by
  obtain ⟨-, hns, h37, h47, h45, h43, hd, h46⟩ := alpha_class c hc
  rw [step_hit st c pos (.inr ⟨isNONSPC, congrArg searchClass hm, hns⟩)]
  simp [atHit, hm, parseMainHit, h37, h47, h45, h43, hd, h46, hc]

theorem keyword_pending (st : St) (hm : st.mode = .main) (c : UInt8) (w : Bytes) (pos : Nat)
    (hc : isAlpha c = true) (hw : ∀ x ∈ w, isAlpha x = true) :
    foldBytes st (c :: w) pos = ({ st with tpos := pos, cur := c :: w, mode := .keyword }, []) := by
  simp only [foldBytes, main_keyword_start st c pos hm hc]
  rw [fold_run isEND_KEYWORD _ w (pos + 1) rfl (by simp) (fun x hx => (alpha_class x (hw x hx)).1)]
  simp

theorem keyword_token (st : St) (hm : st.mode = .main) (c : UInt8) (w : Bytes) (d : UInt8) (rest : Bytes) (pos : Nat)
    (hc : isAlpha c = true) (hw : ∀ x ∈ w, isAlpha x = true) (hd : isEND_KEYWORD d = true) :
    (foldBytes st (c :: w ++ d :: rest) pos).2 =
      (pos, if (c :: w) == kwTrue then Token.bool true else if (c :: w) == kwFalse then Token.bool false
            else Token.kwd (c :: w)) ::
        (foldBytes { st with tpos := pos, cur := c :: w, mode := .main } (d :: rest) (pos + (c :: w).length)).2 := by
  rw [foldBytes_append, keyword_pending st hm c w pos hc hw]
  simp only [foldBytes, List.nil_append]
  rw [step_hit _ d _ (.inr ⟨isEND_KEYWORD, rfl, hd⟩)]
  simp [atHit, parseKeywordHit, emit]

theorem real_spelling_pending (st : St) (hm : st.mode = .main) (sign ip fp : Bytes) (pos : Nat)
    (hs : sign = [] ∨ sign = [43] ∨ sign = [45]) (hip : ∀ c ∈ ip, isDigit c = true)
    (hfp : ∀ c ∈ fp, isDigit c = true) :
    foldBytes st (sign ++ ip ++ 46 :: fp) pos =
      ({ st with tpos := pos, cur := sign ++ ip ++ 46 :: fp, mode := .float }, []) := by
  have hfl : ∀ (s0 : St) (p : Nat), s0.mode = .float →
      foldBytes s0 fp p = ({ s0 with cur := s0.cur ++ fp }, []) := fun s0 p hm0 =>
    fold_run isEND_NUMBER s0 fp p (congrArg searchClass hm0) (by simp [hm0])
      (fun x hx => (digit_class x (hfp x hx)).1)
  by_cases hempty : sign ++ ip = []
  · have hstart : stepByte st 46 pos = ({ st with tpos := pos, cur := [46], mode := .float }, []) := by
      have n46 : isNONSPC 46 = true := by rw [isNONSPC_eq]; rfl
      rw [step_hit st 46 pos (.inr ⟨isNONSPC, congrArg searchClass hm, n46⟩)]
      simp [atHit, hm, parseMainHit, isDigit]
    simp only [hempty, List.nil_append, foldBytes, hstart]
    rw [hfl _ _ rfl]
    simp
  · obtain ⟨c, t, hct, hc, ht⟩ := sign_digits_cons sign ip hs hempty hip
    have hnumdot : ∀ (s0 : St) (p : Nat), s0.mode = .number →
        stepByte s0 46 p = ({ s0 with cur := s0.cur ++ [46], mode := .float }, []) := by
      intro s0 p hm0
      have e46 : isEND_NUMBER 46 = true := by rw [isEND_NUMBER_eq]; rfl
      rw [step_hit s0 46 p (.inr ⟨isEND_NUMBER, congrArg searchClass hm0, e46⟩)]
      simp [atHit, hm0, parseNumberHit]
    rw [hct, foldBytes_append, number_pending st hm c t pos hc ht]
    simp only [foldBytes]
    rw [hnumdot _ _ rfl, hfl _ _ rfl]
    simp

theorem pyFloatOk_spelling (sign ip fp : Bytes) (hs : sign = [] ∨ sign = [43] ∨ sign = [45])
    (hip : ∀ c ∈ ip, isDigit c = true) (hfp : ∀ c ∈ fp, isDigit c = true) (hne : ¬ (ip = [] ∧ fp = [])) :
    pyFloatOk (sign ++ ip ++ 46 :: fp) = true := by
  have hbody : floatBody (ip ++ 46 :: fp) = true := by
    have d46 : isDigit 46 = false := by decide
    have h1 : (ip ++ 46 :: fp).takeWhile isDigit = ip := by
      rw [List.takeWhile_append_of_pos hip]; simp [d46]
    have h2 : (ip ++ 46 :: fp).dropWhile isDigit = 46 :: fp := by
      rw [List.dropWhile_append_of_pos hip]; simp [d46]
    simp only [floatBody, h1, h2]
    have hall : fp.all isDigit = true := List.all_eq_true.mpr hfp
    simp only [hall, Bool.true_and]
    cases ip with
    | nil => cases fp with
      | nil => simp at hne
      | cons _ _ => simp
    | cons _ _ => simp
  rcases hs with rfl | rfl | rfl
  · simp only [List.nil_append]
    cases ip with
    | nil => simp only [List.nil_append, pyFloatOk]; simpa using hbody
    | cons c t =>
      obtain ⟨-, -, -, -, h43, h45⟩ := digit_class c (hip c (by simp))
      simp only [List.cons_append, pyFloatOk]
      split
      · rename_i heq; simp at heq; exact absurd heq.1 h45
      · rename_i heq; simp at heq; exact absurd heq.1 h43
      · simpa using hbody
  · simpa [pyFloatOk] using hbody
  · simpa [pyFloatOk] using hbody

theorem real_token (st : St) (hm : st.mode = .main) (sign ip fp : Bytes) (d : UInt8) (rest : Bytes) (pos : Nat)
    (hs : sign = [] ∨ sign = [43] ∨ sign = [45]) (hip : ∀ c ∈ ip, isDigit c = true)
    (hfp : ∀ c ∈ fp, isDigit c = true) (hne : ¬ (ip = [] ∧ fp = [])) (hend : isEND_NUMBER d = true) :
    (foldBytes st (sign ++ ip ++ 46 :: fp ++ d :: rest) pos).2 =
      (pos, Token.real (sign ++ ip ++ 46 :: fp)) ::
        (foldBytes { st with tpos := pos, cur := sign ++ ip ++ 46 :: fp, mode := .main } (d :: rest)
          (pos + (sign ++ ip ++ 46 :: fp).length)).2 := by
  rw [foldBytes_append, real_spelling_pending st hm sign ip fp pos hs hip hfp]
  simp only [foldBytes, List.nil_append]
  rw [step_hit _ d _ (.inr ⟨isEND_NUMBER, rfl, hend⟩)]
  simp only [atHit, parseFloatHit, pyFloatOk_spelling sign ip fp hs hip hfp hne, if_true, emit]
  simp

end PdfVerif.Lexer
