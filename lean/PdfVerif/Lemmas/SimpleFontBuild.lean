/-
C06: the fields of the font that `build` constructs (`modelFont_eq`), in the specification's terms; at the end,
what construction from the bytes of a FontFile and the font cache contribute (`resolveFontFile_read`,
`cacheLookup_mem`).
-/
import PdfVerif.Lemmas.SimpleFont

namespace PdfVerif.SimpleFont
open PdfVerif PdfVerif.SimpleFont.Spec

/-- The `EncodingDB` the class body builds from the tables. -/
def dbOf (T : Tables) : EncDB := EncDB.ofRows T.gl T.rows T.cols T.dflt

/-- The font pdfminer constructs from a font dictionary. -/
def modelFont (T : Tables) (fd : FontDict) : Font := build T.gl (dbOf T) T.fm fd

/-- With the `EncodingDB` of the class body: the value of the last Differences name, else of the base table's name. -/
theorem tlookup_getEncoding_dbOf (T : Tables) (hres : RowsResolve T.gl T.rows) (name : String) (diff : List DiffTok)
    (code : Int) :
    tlookup (getEncoding T.gl (dbOf T) name diff) code =
      match lastAssigned (assignments 0 diff) code with
      | some nm => name2unicode T.gl nm
      | none => name2unicode T.gl (baseName T.rows (encColumn T.cols T.dflt name) code) := by
  rw [tlookup_getEncoding, dbOf, get_ofRows, tlookup_buildTable T.gl _ T.rows hres]
  cases lastAssigned (assignments 0 diff) code with
  | some nm => rfl
  | none => cases baseName T.rows (encColumn T.cols T.dflt name) code <;> rfl

/-- The three branches of `build` (Type3, standard 14, other) field by field, in the specification's terms. -/
theorem modelFont_eq (T : Tables) (fd : FontDict) : modelFont T fd =
    { cid2unicode := match usesBuiltin T fd with
        | some ff => builtinEncoding T.gl ff
        | none => specEncoding T.gl (dbOf T) fd.enc
      umap := fd.toUnicode.map buildUmap
      widthsInt := enumWidths (fd.firstChar.getD 0) (fd.widths.getD [])
      widthsStr := if fd.isType3 then [] else (getMetrics T.fm (fd.baseFont.getD "unknown")).getD []
      defaultWidth := missingWidth fd
      hscale := widthScale fd } := by
  have hw : descMissingWidth fd.desc = missingWidth fd := by
    unfold descMissingWidth missingWidth
    cases fd.desc <;> rfl
  unfold modelFont build usesBuiltin isStd14 widthScale
  rw [hw]
  dsimp only
  cases fd.isType3
  · cases getMetrics T.fm (fd.baseFont.getD "unknown") with
    | some m => rfl
    | none => cases fd.enc <;> cases fd.desc <;> rfl
  · rfl

/-- `to_unichr`: the ToUnicode map (exact rule) first, then the font's encoding. -/
theorem toUnichr_modelFont (T : Tables) (fd : FontDict) (code : Int) :
    toUnichr (modelFont T fd) code =
      match fd.toUnicode with
      | some es =>
        match tuTextExact (tuDefs es) code with
        | some t => some t
        | none => tlookup (modelFont T fd).cid2unicode code
      | none => tlookup (modelFont T fd).cid2unicode code := by
  unfold toUnichr
  rw [congrArg Font.umap (modelFont_eq T fd)]
  cases fd.toUnicode with
  | none => rfl
  | some es =>
    simp only [Option.map_some, tlookup_buildUmap_exact]
    rfl

theorem build_strWidth (T : Tables) (fd : FontDict) (u : Option Text) :
    (u.bind (strWidth (modelFont T fd))).map (Int.cast : Int → Rat) = std14MetricOf T fd u := by
  rw [modelFont_eq]
  unfold std14MetricOf strWidth
  dsimp only
  cases fd.isType3
  · cases getMetrics T.fm (fd.baseFont.getD "unknown") with
    | none => rcases u with _ | _ | ⟨c, _ | _⟩ <;> rfl
    | some m =>
      rcases u with _ | _ | ⟨c, _ | _⟩ <;> try rfl
      simp only [Bool.false_eq_true, if_false, Option.getD_some, Option.bind_some]
      cases slookup m c <;> rfl
  · rcases u with _ | _ | ⟨c, _ | _⟩ <;> rfl

theorem resolveFontFile_read {fm : Metrics} {raw : RawFontDict} {rf : RawFontFile}
    {puts : List (Int × Option Name)} (h : headerToRead fm raw = some rf)
    (hp : t1Puts (headerBytes rf) = .ok puts) :
    resolveFontFile fm raw = .ok (raw.withFontFile (some { puts := puts })) := by
  simp only [resolveFontFile, h, hp]

theorem cacheLookup_mem {c : List (Nat × Font)} {i : Nat} {f : Font} : cacheLookup c i = some f → (i, f) ∈ c := by
  fun_cases cacheLookup c i with
  | case1 e hf =>
    intro h
    cases h
    have hi : e.1 = i := by simpa using List.find?_some hf
    exact hi ▸ List.mem_of_find?_eq_some hf
  | case2 => exact nofun

end PdfVerif.SimpleFont
