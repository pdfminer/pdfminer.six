/-
C07 (composite fonts).
Identity CMaps: `specIdentity` cuts codes of a fixed length.
Trie CMaps: `walk` = what a trie says about a byte sequence, decoding along it (`decode_walk`), and tries built
by `add_code2cid` from a prefix-free table (`buildTrie_walk`).
ToUnicode: `putAll` = the assignments of a section in order, the bfchar / bfrange handlers make those of
`rangePairs` (`bfchar_fold`, `bfrange_fold`); the token machine of `CMapParser` run over a rendered file
(`parse_sections`, `parse_render`).
The pen movement of a shown string (`showCids_*`); the width arrays `W` and `W2` read into the maps the glyph-width
functions look up (`glyphWidth_toWMap`, `glyphWidthV_toW2Map`).
-/
import PdfVerif.Spec.CIDFont

namespace PdfVerif.CIDFontLemmas
open PdfVerif PdfVerif.CIDFont PdfVerif.CIDFontSpec

theorem nunpack_two (a b : UInt8) : nunpack [a, b] = be2 a b := by
  simp [nunpack, be2]

theorem nunpack_one (a : UInt8) : nunpack [a] = a.toNat := by
  simp [nunpack]

theorem nunpack_lt (t : Bytes) : nunpack t < 256 ^ t.length := by
  fun_induction nunpack t with
  | case1 => decide
  | case2 b rest ih =>
    have hm : b.toNat * 256 ^ rest.length ≤ 255 * 256 ^ rest.length :=
      Nat.mul_le_mul_right _ (Nat.le_of_lt_succ b.toNat_lt)
    rw [List.length_cons, Nat.pow_succ]
    omega

theorem specIdentity_append (c rest : Bytes) (hc : 0 < c.length) :
    specIdentity c.length (c ++ rest) = nunpack c :: specIdentity c.length rest := by
  unfold specIdentity
  rw [List.length_append, Nat.add_comm, Nat.add_div_right _ hc, List.range_succ_eq_map, List.map_cons, List.map_map]
  simp only [Nat.zero_mul, List.drop_zero, List.take_left']
  congr 1
  apply List.map_congr_left
  intro i _
  simp only [Function.comp, Nat.succ_eq_add_one]
  rw [Nat.add_mul, Nat.one_mul, Nat.add_comm, List.drop_length_add_append]

theorem specIdentity1 : ∀ (s : Bytes), specIdentity 1 s = s.map (·.toNat)
  | [] => by simp [specIdentity]
  | a :: rest => by
    rw [List.map_cons, ← specIdentity1 rest, ← nunpack_one]
    exact specIdentity_append [a] rest (Nat.zero_lt_succ _)

/-- What the CMap says about a byte sequence read from dictionary `d`: a CID (complete code),
an inner dictionary (proper prefix of codes) or nothing. -/
def walk : TDict → Bytes → Option Trie
  | d, [] => some (.node d)
  | d, b :: rest =>
    match d.lookup b with
    | some (.node d') => walk d' rest
    | some (.leaf c) => if rest = [] then some (.leaf c) else none
    | none => none

theorem decode_walk (root : TDict) (c : Bytes) (d : TDict) (t : Trie) (s : Bytes) : walk d c = some t →
    trieDecodeAux root d (c ++ s) = match t with
      | .leaf cid => cid :: trieDecodeAux root root s
      | .node d' => trieDecodeAux root d' s := by
  fun_induction walk d c with
  | case1 => rintro ⟨⟩; rfl
  | case2 d b rest d' hl ih => rw [List.cons_append, trieDecodeAux, hl]; exact ih
  | case3 d b cid hl => rintro ⟨⟩; rw [List.cons_append, trieDecodeAux, hl]; rfl
  | case4 => nofun
  | case5 => nofun

theorem lookup_dictSet_self (d : TDict) (k : UInt8) (v : Trie) : (dictSet d k v).lookup k = some v := by
  fun_induction dictSet d k v with
  | case1 => exact List.lookup_cons_self
  | case2 => exact List.lookup_cons_self
  | case3 k' v' rest h ih => rw [List.lookup_cons, BEq.comm, eq_false_of_ne_true h]; exact ih

theorem lookup_dictSet_other (d : TDict) (k k2 : UInt8) (v : Trie) (hk : k2 ≠ k) :
    (dictSet d k v).lookup k2 = d.lookup k2 := by
  fun_induction dictSet d k v with
  | case1 => rw [List.lookup_cons, beq_false_of_ne hk]
  | case2 k' v' rest h => rw [List.lookup_cons, List.lookup_cons, eq_of_beq h, beq_false_of_ne hk]
  | case3 k' v' rest h ih => rw [List.lookup_cons, List.lookup_cons, ih]

/-- The dictionary one byte down: `d[b]` when that is a dictionary, else the empty one (where
`add_code2cid` continues, and all a longer code can see of `d`). -/
def child (d : TDict) (b : UInt8) : TDict :=
  match d.lookup b with
  | some (.node d') => d'
  | _ => []

theorem child_dictSet_self (d : TDict) (b : UInt8) (t : TDict) : child (dictSet d b (.node t)) b = t := by
  simp only [child, lookup_dictSet_self]

theorem walk_cons (d : TDict) (b : UInt8) (r : Bytes) (hr : r ≠ []) : walk d (b :: r) = walk (child d b) r := by
  have hnil : walk [] r = none := by
    cases r with
    | nil => exact absurd rfl hr
    | cons x xs => rfl
  simp only [walk, child]
  cases d.lookup b with
  | none => exact hnil.symm
  | some t => cases t with
    | leaf c => simp only [hr, if_false, hnil]
    | node d' => rfl

theorem walk_insert_self (c : Bytes) (d d' : TDict) (cid : Nat) :
    trieInsert d c cid = .ok d' → walk d' c = some (.leaf cid) := by
  fun_induction trieInsert d c cid generalizing d' with
  | case1 | case4 | case5 | case7 => nofun
  | case2 d b cid => rintro ⟨⟩; simp [walk, lookup_dictSet_self]
  -- a code of two or more bytes is inserted one level down, into `d[b]` or into a new dictionary
  | case3 d b b2 rest cid dn hl t ht ih | case6 d b b2 rest cid hl t ht ih =>
    rintro ⟨⟩
    rw [walk_cons _ _ _ (List.cons_ne_nil _ _), child_dictSet_self]
    exact ih t ht

theorem walk_insert_other (c : Bytes) (d d' : TDict) (cid : Nat) (c2 : Bytes) :
    trieInsert d c cid = .ok d' → ¬ c <+: c2 → ¬ c2 <+: c → walk d' c2 = walk d c2 := by
  rcases c2 with _ | ⟨b', r2⟩
  · exact fun _ _ h2 => absurd List.nil_prefix h2
  fun_induction trieInsert d c cid generalizing d' b' r2 with
  | case1 | case4 | case5 | case7 => nofun
  | case2 d b cid =>
    rintro ⟨⟩ h1 _
    have hne : b' ≠ b := fun e => h1 (List.cons_prefix_cons.mpr ⟨e.symm, List.nil_prefix⟩)
    simp only [walk, lookup_dictSet_other _ _ _ _ hne]
  | case3 d b b2 rest cid dn hl t ht ih | case6 d b b2 rest cid hl t ht ih =>
    rintro ⟨⟩ h1 h2
    by_cases hb : b' = b
    · subst hb
      have h1' : ¬ (b2 :: rest) <+: r2 := fun hp => h1 (List.cons_prefix_cons.mpr ⟨rfl, hp⟩)
      have h2' : ¬ r2 <+: (b2 :: rest) := fun hp => h2 (List.cons_prefix_cons.mpr ⟨rfl, hp⟩)
      rcases r2 with _ | ⟨x, r⟩
      · exact absurd List.nil_prefix h2'
      -- one level down on both sides: `child d b'` is the dictionary the rest of the code went into
      rw [walk_cons _ _ _ (List.cons_ne_nil _ _), walk_cons _ _ _ (List.cons_ne_nil _ _), child_dictSet_self, child, hl]
      exact ih t x r ht h1' h2'
    · simp only [walk, lookup_dictSet_other _ _ _ _ hb]

/-- `add_code2cid` for every entry of a code table, in order. -/
def buildTrie : List (Bytes × Nat) → TDict → Except Err TDict
  | [], d => .ok d
  | e :: rest, d =>
    match trieInsert d e.1 e.2 with
    | .ok d' => buildTrie rest d'
    | .error err => .error err

/-- Codespace ranges guarantee this for CMaps. -/
def PrefixFree (tab : List (Bytes × Nat)) : Prop :=
  tab.Pairwise (fun a b => ¬ a.1 <+: b.1 ∧ ¬ b.1 <+: a.1)

theorem buildTrie_walk (tab : List (Bytes × Nat)) (d t : TDict) (hp : PrefixFree tab) : buildTrie tab d = .ok t →
    (∀ e ∈ tab, walk t e.1 = some (.leaf e.2)) ∧
    (∀ c2 : Bytes, (∀ e ∈ tab, ¬ e.1 <+: c2 ∧ ¬ c2 <+: e.1) → walk t c2 = walk d c2) := by
  fun_induction buildTrie tab d with
  | case1 => rintro ⟨⟩; exact ⟨nofun, fun _ _ => rfl⟩
  | case2 e rest d d1 hi ih =>
    intro h
    obtain ⟨hpe, hpr⟩ := List.pairwise_cons.mp hp
    obtain ⟨ih1, ih2⟩ := ih hpr h
    refine ⟨List.forall_mem_cons.mpr ⟨?_, ih1⟩, fun c2 hc => ?_⟩
    -- the later insertions leave `e` alone (frame part of the induction hypothesis), the first one put it there
    · rw [ih2 e.1 (fun y hy => (hpe y hy).symm)]
      exact walk_insert_self e.1 d d1 e.2 hi
    · obtain ⟨hce, hcr⟩ := List.forall_mem_cons.mp hc
      rw [ih2 c2 hcr]
      exact walk_insert_other e.1 d d1 e.2 c2 hi hce.1 hce.2
  | case3 => nofun

/-- A sequence of `add_cid2unichr` assignments. -/
def putAll (ps : List (Int × List Nat)) (m : UMap) : UMap :=
  ps.foldl (fun m p => umapPut m p.1 p.2) m

theorem putAll_nil (m : UMap) : putAll [] m = m := rfl

theorem putAll_cons (p : Int × List Nat) (ps : List (Int × List Nat)) (m : UMap) :
    putAll (p :: ps) m = putAll ps (umapPut m p.1 p.2) := rfl

theorem putAll_append (a b : List (Int × List Nat)) (m : UMap) :
    putAll (a ++ b) m = putAll b (putAll a m) := by
  simp [putAll, List.foldl_append]

theorem putAll_quirkFree : ∀ (ps : List (Int × List Nat)) (m : UMap), quirkFree ps m = true →
    putAll ps m = ps.reverse ++ m
  | [], m, _ => by simp [putAll]
  | (c, u) :: rest, m, h => by
    simp only [quirkFree, Bool.and_eq_true, Bool.not_eq_true', Bool.and_eq_false_iff, beq_eq_false_iff_ne] at h
    have hput : umapPut m c u = (c, u) :: m := if_neg (fun ⟨hu, hl⟩ => h.1.elim (· hu) (· hl))
    rw [putAll_cons, hput, putAll_quirkFree rest _ h.2, List.reverse_cons, List.append_assoc]
    rfl

/-- In the domain no assignment meets the U+00A0 rule: what is assigned is the specified map. -/
theorem putAll_specPairs (secs : List Sec) (h : inDomain secs = true) : putAll (specPairs secs) [] = specMap secs := by
  rw [putAll_quirkFree _ _ (Bool.and_eq_true_iff.mp h).2, List.append_nil, specMap]

theorem chop2_flatMap {α β : Type} (a b : α → β) : ∀ (es : List α),
    chop2 (es.flatMap (fun e => [a e, b e])) = es.map (fun e => (a e, b e))
  | [] => rfl
  | e :: es => by
    simp only [List.flatMap_cons, List.cons_append, List.nil_append, chop2, List.map_cons, chop2_flatMap a b es]

theorem chop3_flatMap {α β : Type} (a b c : α → β) : ∀ (es : List α),
    chop3 (es.flatMap (fun e => [a e, b e, c e])) = es.map (fun e => (a e, b e, c e))
  | [] => rfl
  | e :: es => by
    simp only [List.flatMap_cons, List.cons_append, List.nil_append, chop3, List.map_cons, chop3_flatMap a b c es]

theorem foldEntries_map {α ε : Type} (f : UMap → ε → Except Err UMap) (g : α → ε) (k : α → List (Int × List Nat)) :
    ∀ (es : List α) (m : UMap), (∀ e ∈ es, ∀ m, f m (g e) = .ok (putAll (k e) m)) →
      foldEntries f (es.map g) m = .ok (putAll (es.flatMap k) m)
  | [], _, _ => rfl
  | e :: es, m, h => by
    simp only [List.map_cons, foldEntries, h e (List.mem_cons_self ..), List.flatMap_cons, putAll_append]
    exact foldEntries_map f g k es _ (fun x hx => h x (List.mem_cons_of_mem _ hx))

theorem foldEntries_pairs {α β : Type} (f : UMap → β × β → Except Err UMap) (a b : α → β) (k : α → Int × List Nat)
    (hf : ∀ e m, f m (a e, b e) = .ok (putAll [k e] m)) (es : List α) (m : UMap) :
    foldEntries f (chop2 (es.flatMap (fun e => [a e, b e]))) m = .ok (putAll (es.map k) m) := by
  have h := foldEntries_map f (fun e => (a e, b e)) (fun e => [k e]) es m (fun e _ m => hf e m)
  rwa [← List.map_eq_flatMap, ← chop2_flatMap] at h

theorem bfchar_fold (es : List (Bytes × Bytes)) (m : UMap) :
    foldEntries bfcharEntry (chop2 (es.flatMap (fun e => [Tok.str e.1, Tok.str e.2]))) m
      = .ok (putAll (es.map (fun e => ((nunpack e.1 : Int), utf16Ignore e.2))) m) :=
  foldEntries_pairs bfcharEntry _ _ _ (fun _ _ => rfl) es m

theorem pack32_ok (v : Nat) (h : v < 4294967296) : pack32 v = .ok (natToBE 4 v) := by
  simp [pack32, h, natToBE, Nat.div_div_eq_div_mul]

theorem takeLast_natToBE4 (n v : Nat) (h1 : 1 ≤ n) (h4 : n ≤ 4) : takeLast n (natToBE 4 v) = natToBE n v := by
  -- for each of the four lengths both sides unfold to the same list
  rcases n with _ | _ | _ | _ | _ | n
  · exact absurd h1 (by decide)
  · rfl
  · rfl
  · rfl
  · rfl
  · omega

theorem rangeLoop_ok (pfx : Bytes) (base vlen : Nat) (key0 : Int) : ∀ (n i : Nat) (m : UMap),
    base + i + n ≤ 4294967296 →
    rangeLoop pfx base vlen key0 n i m = .ok (putAll ((List.range' i n).map (fun j =>
      (key0 + ((j : Nat) : Int), utf16Ignore (pfx ++ takeLast vlen (natToBE 4 (base + j)))))) m)
  | 0, i, m, _ => rfl
  | n + 1, i, m, h => by
    rw [rangeLoop, pack32_ok (base + i) (by omega)]
    simp only
    rw [rangeLoop_ok pfx base vlen key0 n (i + 1) _ (by omega), List.range'_succ, List.map_cons, putAll_cons]

theorem arrLoop_ok : ∀ (n k : Nat) (ds : List Bytes) (m : UMap),
    arrLoop n (k : Int) (ds.map AElem.str) m = .ok (putAll (zipFrom k (ds.take n)) m)
  | 0, k, ds, m => by simp [arrLoop, zipFrom, putAll]
  | n + 1, k, [], m => by simp [arrLoop, zipFrom, putAll]
  | n + 1, k, d :: ds, m => by
    simp only [List.map_cons, arrLoop, addCid, List.take_succ_cons, zipFrom, putAll_cons]
    have := arrLoop_ok n (k + 1) ds (umapPut m (k : Int) (utf16Ignore d))
    simpa using this

theorem takeLast4_length (d : Bytes) : (takeLast 4 d).length ≤ 4 ∧ (d ≠ [] → 1 ≤ (takeLast 4 d).length) := by
  unfold takeLast
  simp only [show (4 : Nat) ≠ 0 by decide, if_false, List.length_drop]
  constructor
  · omega
  · intro h
    have : 0 < d.length := List.length_pos_iff.mpr h
    omega

theorem pow256_le (n : Nat) (h : n ≤ 4) : 256 ^ n ≤ 4294967296 :=
  Nat.pow_le_pow_right (by decide) h

/-- The loop of `endbfrange` / `endcidrange` over a non-empty string `d`: entry `j` is `d` with its last `min 4 len`
bytes, read as a big-endian number, incremented by `j` (no `struct.error` while the numbers stay within 32 bits). -/
theorem rangeLoop_incBE (d : Bytes) (hne : d ≠ []) (key0 : Int) (n : Nat) (m : UMap)
    (h : nunpack (takeLast 4 d) + n ≤ 4294967296) :
    rangeLoop (dropLast4 d) (nunpack (takeLast 4 d)) (takeLast 4 d).length key0 n 0 m =
      .ok (putAll ((List.range n).map (fun j => (key0 + ((j : Nat) : Int), utf16Ignore (incBE d j)))) m) := by
  obtain ⟨hl4, hl1⟩ := takeLast4_length d
  rw [rangeLoop_ok _ _ _ _ _ _ _ (by omega), ← List.range_eq_range']
  simp only [incBE, takeLast_natToBE4 _ _ (hl1 hne) hl4]

theorem bfrangeEntry_ok (e : REntry) (m : UMap) (h : entryOk e = true) :
    bfrangeEntry m (Tok.str e.lo, Tok.str e.hi, dstTok e.dst) = .ok (putAll (rangePairs e) m) := by
  obtain ⟨lo, hi, dst⟩ := e
  simp only [entryOk, Bool.and_eq_true, beq_iff_eq] at h
  obtain ⟨hlen, hd⟩ := h
  cases dst with
  | arr ds =>
    simp only [dstTok, bfrangeEntry, hlen, ne_eq, not_true_eq_false, if_false, rangePairs]
    exact arrLoop_ok _ _ ds m
  | inc d =>
    simp only [Bool.and_eq_true, Bool.not_eq_true', List.isEmpty_eq_false_iff, decide_eq_true_eq] at hd
    obtain ⟨hne, hov⟩ := hd
    have hpow := pow256_le _ (takeLast4_length d).1
    simp only [dstTok, bfrangeEntry, hlen, ne_eq, not_true_eq_false, if_false, rangePairs]
    rw [rangeLoop_incBE d hne _ _ m (by omega)]
    simp only [Int.natCast_add]

theorem bfrange_fold (es : List REntry) (m : UMap) (h : es.all entryOk = true) :
    foldEntries bfrangeEntry (chop3 (es.flatMap renderREntry)) m = .ok (putAll (es.flatMap rangePairs) m) := by
  rw [show renderREntry = fun e => [Tok.str e.lo, Tok.str e.hi, dstTok e.dst] from rfl, chop3_flatMap]
  exact foldEntries_map bfrangeEntry _ _ es m (fun e he m => bfrangeEntry_ok e m (List.all_eq_true.mp h e he))

theorem nunpack_snoc : ∀ (t : Bytes) (b : UInt8), nunpack (t ++ [b]) = nunpack t * 256 + b.toNat
  | [], b => by simp [nunpack]
  | a :: t, b => by
    simp only [List.cons_append, nunpack, List.length_append, List.length_cons, List.length_nil, Nat.zero_add,
      nunpack_snoc t b, Nat.pow_succ, Nat.add_mul, Nat.mul_assoc, Nat.add_assoc]

theorem natToBE_snoc (n x r : Nat) (h : r < 256) :
    natToBE (n + 1) (x * 256 + r) = natToBE n x ++ [UInt8.ofNat r] := by
  rw [natToBE, Nat.mul_comm, Nat.mul_add_div (by decide), Nat.mul_add_mod, Nat.div_eq_of_lt h, Nat.mod_eq_of_lt h,
    Nat.add_zero]

theorem natToBE_nunpack : ∀ (n : Nat) (t : Bytes), t.length = n → natToBE n (nunpack t) = t
  | 0, t, h => by rw [List.length_eq_zero_iff.mp h]; rfl
  | n + 1, t, h => by
    rcases List.eq_nil_or_concat t with rfl | ⟨init, b, rfl⟩
    · cases h
    · rw [List.concat_eq_append] at h ⊢
      rw [nunpack_snoc, natToBE_snoc n _ _ b.toNat_lt, natToBE_nunpack n init (by simpa using h), UInt8.ofNat_toNat]

theorem incBE_snoc (init : Bytes) (b : UInt8) (k : Nat) (hb : b.toNat + k < 256) :
    incBE (init ++ [b]) k = init ++ [UInt8.ofNat (b.toNat + k)] := by
  have hn : (init ++ [b]).length - 4 = init.length - 3 := by
    rw [List.length_append]; exact Nat.add_sub_add_right _ 1 3
  have e1 : dropLast4 (init ++ [b]) = init.take (init.length - 3) := by
    rw [dropLast4, hn, List.take_append_of_le_length (Nat.sub_le ..)]
  have e2 : takeLast 4 (init ++ [b]) = init.drop (init.length - 3) ++ [b] := by
    rw [takeLast, if_neg (by decide), hn, List.drop_append_of_le_length (Nat.sub_le ..)]
  rw [incBE, e1, e2, nunpack_snoc, List.length_append, List.length_singleton, Nat.add_assoc, natToBE_snoc _ _ _ hb,
    natToBE_nunpack _ _ rfl, ← List.append_assoc, List.take_append_drop]

theorem runToks_append : ∀ (a b : List Tok) (st : PState),
    runToks (a ++ b) st = match runToks a st with
      | .ok st' => runToks b st'
      | .error e => .error e
  | [], b, st => rfl
  | t :: a, b, st => by
    simp only [List.cons_append, runToks]
    cases stepTok st t with
    | error e => rfl
    | ok st' => exact runToks_append a b st'

def notKw : Tok → Bool
  | .kw _ => false
  | _ => true

theorem runToks_push : ∀ (ts : List Tok) (st : PState), ts.all notKw = true →
    runToks ts st = .ok { st with stack := ts.reverse ++ st.stack }
  | [], st, _ => rfl
  | t :: ts, st, h => by
    simp only [List.all_cons, Bool.and_eq_true] at h
    have ht : stepTok st t = .ok { st with stack := t :: st.stack } := by
      cases t with
      | kw k => exact absurd h.1 (by simp [notKw])
      | _ => rfl
    simp only [runToks, ht]
    rw [runToks_push ts _ h.2]
    simp

theorem runToks_ops_kw (ops : List Tok) (hops : ops.all notKw = true) (k : String) (st : PState) :
    runToks (ops ++ [.kw k]) st = doKeyword { st with stack := ops.reverse ++ st.stack } k := by
  rw [runToks_append, runToks_push _ _ hops]
  simp only [runToks, stepTok]
  cases doKeyword { st with stack := ops.reverse ++ st.stack } k <;> rfl

/-- The `self.popall(); return` keywords of `do_keyword`, inside a CMap. -/
theorem doKw_popall (k : String) (hk : k ∈ popallKeywords) (s : List Tok) (m : UMap) :
    doKeyword ⟨s, true, m⟩ k = .ok ⟨[], true, m⟩ := by
  have h1 : k ≠ "begincmap" := by rintro rfl; simp [popallKeywords] at hk
  have h2 : k ≠ "endcmap" := by rintro rfl; simp [popallKeywords] at hk
  have h3 : k ≠ "def" := by rintro rfl; simp [popallKeywords] at hk
  have h4 : k ≠ "usecmap" := by rintro rfl; simp [popallKeywords] at hk
  simp [doKeyword, h1, h2, h3, h4, hk]

theorem doKw_endbfchar (s : List Tok) (m m' : UMap) (hf : foldEntries bfcharEntry (chop2 s.reverse) m = .ok m') :
    doKeyword ⟨s, true, m⟩ "endbfchar" = .ok ⟨[], true, m'⟩ := by
  simp [doKeyword, popallKeywords, hf]

theorem doKw_endbfrange (s : List Tok) (m m' : UMap) (hf : foldEntries bfrangeEntry (chop3 s.reverse) m = .ok m') :
    doKeyword ⟨s, true, m⟩ "endbfrange" = .ok ⟨[], true, m'⟩ := by
  simp [doKeyword, popallKeywords, hf]

theorem chars_notKw (es : List (Bytes × Bytes)) :
    (es.flatMap (fun e => [Tok.str e.1, Tok.str e.2])).all notKw = true := by
  simp [List.all_flatMap, notKw]

theorem ranges_notKw (es : List REntry) : (es.flatMap renderREntry).all notKw = true := by
  rw [List.all_flatMap, List.all_eq_true]
  intro e _
  cases h : e.dst <;> simp [renderREntry, dstTok, notKw, h]

/-- A section with any integer `n` written before its `begin…` keyword: the parser discards it (`renderSec` writes
the number of entries, a file may hold anything). -/
def renderSecN (n : Int) : Sec → List Tok
  | .chars es => [.int n, .kw "beginbfchar"] ++ es.flatMap (fun e => [Tok.str e.1, Tok.str e.2]) ++ [.kw "endbfchar"]
  | .ranges es => [.int n, .kw "beginbfrange"] ++ es.flatMap renderREntry ++ [.kw "endbfrange"]

theorem renderSec_eq_renderSecN (sec : Sec) : ∃ n, renderSec sec = renderSecN n sec := by
  cases sec <;> exact ⟨_, rfl⟩

theorem runToks_section (pre ops : List Tok) (hpre : pre.all notKw = true) (hops : ops.all notKw = true)
    (k1 k2 : String) (hk : k1 ∈ popallKeywords) (s : List Tok) (m : UMap) :
    runToks (pre ++ [.kw k1] ++ (ops ++ [.kw k2])) ⟨s, true, m⟩ = doKeyword ⟨ops.reverse, true, m⟩ k2 := by
  rw [runToks_append, runToks_ops_kw pre hpre, doKw_popall k1 hk]
  simp only
  rw [runToks_ops_kw ops hops, List.append_nil]

theorem runSecN (n : Int) (sec : Sec) (st : PState) (hc : st.inCmap = true) (hok : secOk sec = true) :
    runToks (renderSecN n sec) st = .ok { st with stack := [], map := putAll (secPairs sec) st.map } := by
  obtain ⟨s, c, m⟩ := st
  simp only at hc
  subst hc
  cases sec with
  | chars es =>
    exact (runToks_section [.int n] _ rfl (chars_notKw es) _ _ (by simp [popallKeywords]) s m).trans
      (doKw_endbfchar _ _ _ (by rw [List.reverse_reverse]; exact bfchar_fold es m))
  | ranges es =>
    exact (runToks_section [.int n] _ rfl (ranges_notKw es) _ _ (by simp [popallKeywords]) s m).trans
      (doKw_endbfrange _ _ _ (by rw [List.reverse_reverse]; exact bfrange_fold es m hok))

theorem runSecs {α : Type} (r : α → List Tok) (sec : α → Sec) (hr : ∀ a, ∃ n, r a = renderSecN n (sec a)) :
    ∀ (l : List α) (st : PState), st.inCmap = true → st.stack = [] → (l.map sec).all secOk = true →
      runToks (l.flatMap r) st = .ok { st with map := putAll (specPairs (l.map sec)) st.map }
  | [], st, _, _, _ => rfl
  | a :: l, st, hc, hs, hok => by
    simp only [List.map_cons, List.all_cons, Bool.and_eq_true] at hok
    obtain ⟨n, hn⟩ := hr a
    rw [List.flatMap_cons, runToks_append, hn, runSecN n _ st hc hok.1]
    simp only
    rw [runSecs r sec hr l { st with stack := [], map := putAll (secPairs (sec a)) st.map } hc rfl hok.2]
    simp only [specPairs, List.map_cons, List.flatMap_cons, putAll_append, hs]

/-- `begincmap` empties the stack; `def` and the codespace keywords pop their operands. -/
theorem run_header : runToks headerToks PState.init = .ok PState.init := by rfl

/-- After `endcmap` every keyword is skipped. -/
theorem run_trailer (c : Bool) (m : UMap) : runToks trailerToks ⟨[], c, m⟩ = .ok ⟨[.name "CMap".toUTF8.toList], false, m⟩ := by
  simp [trailerToks, runToks, stepTok, doKeyword]

theorem parse_sections {α : Type} (r : α → List Tok) (sec : α → Sec) (hr : ∀ a, ∃ n, r a = renderSecN n (sec a))
    (l : List α) (hok : (l.map sec).all secOk = true) :
    parseToUnicode (headerToks ++ l.flatMap r ++ trailerToks) = .ok (putAll (specPairs (l.map sec)) []) := by
  -- `rw` with the equation of `parseToUnicode`: `unfold` would have the kernel run the header tokens once more
  rw [parseToUnicode, List.append_assoc, runToks_append, run_header]
  simp only
  rw [runToks_append, runSecs r sec hr l PState.init rfl rfl hok]
  simp only [PState.init]
  rw [run_trailer]

theorem parse_render (secs : List Sec) (hok : secs.all secOk = true) :
    parseToUnicode (render secs) = .ok (putAll (specPairs secs) []) := by
  simpa [render] using parse_sections renderSec id renderSec_eq_renderSecN secs (by simpa using hok)

def advSum (fs : Rat) (w : Nat → Rat) : List Nat → Rat
  | [] => 0
  | c :: cs => w c * (1 / 1000) * fs + advSum fs w cs

theorem showCids_snd (v : Bool) (fs : Rat) (w : Nat → Rat) : ∀ (cs : List Nat) (x y : Rat),
    (showCids v fs w cs (x, y)).2 = if v then (x, y + advSum fs w cs) else (x + advSum fs w cs, y)
  | [], x, y => by cases v <;> simp only [showCids, advSum, Rat.add_zero, Bool.false_eq_true, if_false, if_true]
  | c :: cs, x, y => by
    cases v <;>
      simp only [showCids, advSum, Bool.false_eq_true, if_false, if_true, showCids_snd _ fs w cs, Rat.add_assoc]

theorem showCids_append (v : Bool) (fs : Rat) (w : Nat → Rat) : ∀ (a b : List Nat) (p : Rat × Rat),
    showCids v fs w (a ++ b) p =
      ((showCids v fs w a p).1 ++ (showCids v fs w b (showCids v fs w a p).2).1,
       (showCids v fs w b (showCids v fs w a p).2).2)
  | [], b, p => by simp [showCids]
  | c :: a, b, (x, y) => by
    simp only [List.cons_append, showCids]
    rw [showCids_append v fs w a b]

theorem showCids_head (v : Bool) (fs : Rat) (w : Nat → Rat) (c : Nat) (cs : List Nat) (x y : Rat) :
    (showCids v fs w (c :: cs) (x, y)).1.head? = some ⟨c, x, y, w c * (1 / 1000) * fs⟩ := by
  simp [showCids]

def toWMap (ps : List (Int × Rat)) : WMap := ps.map (fun e => ((e.1 : Rat), WVal.num e.2))

theorem toWMap_append (a b : List (Int × Rat)) : toWMap (a ++ b) = toWMap a ++ toWMap b := by
  simp [toWMap]

theorem putList_eq (c : Nat) : ∀ (ws : List (Rat × Bool)) (i : Nat) (m : WMap),
    putList (c : Rat) i (ws.map (fun w => WVal.num w.1)) m = toWMap (listPairs c i ws).reverse ++ m
  | [], i, m => by simp [putList, listPairs, toWMap]
  | w :: ws, i, m => by
    simp only [List.map_cons, putList, listPairs, List.reverse_cons, toWMap_append]
    rw [putList_eq c ws (i + 1)]
    simp only [toWMap, List.map_cons, List.map_nil, List.append_assoc, List.cons_append, List.nil_append,
      Rat.intCast_natCast, Rat.natCast_add]

theorem putRange_eq {β : Type} (c1 : Int) (v : β) : ∀ (n i : Nat) (m : List (Rat × β)),
    putRange c1 v n i m = ((List.range' i n).map (fun (j : Nat) => (((c1 + (j : Int) : Int) : Rat), v))).reverse ++ m
  | 0, i, m => rfl
  | n + 1, i, m => by
    rw [putRange, putRange_eq c1 v n (i + 1), List.range'_succ, List.map_cons, List.reverse_cons, List.append_assoc]
    rfl

theorem widths_entry (e : WEntry) (m : WMap) :
    (renderWEntry e).foldl widthsStep (m, []) = (toWMap (wentryPairs e).reverse ++ m, []) := by
  cases e with
  | list c ws =>
    simp only [renderWEntry, List.foldl_cons, List.foldl_nil, widthsStep, List.nil_append, List.getLast?_singleton,
      wentryPairs]
    rw [putList_eq]
  | range c1 c2 w =>
    simp only [renderWEntry, List.foldl_cons, List.foldl_nil, widthsStep, List.nil_append, List.cons_append,
      and_self, if_true, Rat.floor_intCast, wentryPairs, Gen.CIDFont.MAX_CID]
    rw [putRange_eq, ← List.range_eq_range']
    simp [toWMap, Function.comp_def]

theorem widths_fold : ∀ (es : List WEntry) (m : WMap),
    (renderW es).foldl widthsStep (m, []) = (toWMap (specWidthPairs es).reverse ++ m, [])
  | [], m => rfl
  | e :: rest, m => by
    have ih := widths_fold rest (toWMap (wentryPairs e).reverse ++ m)
    simp only [renderW, specWidthPairs, List.flatMap_cons, List.foldl_append, widths_entry, List.reverse_append,
      toWMap_append, List.append_assoc] at ih ⊢
    exact ih

theorem lookup_natCast_map {β γ : Type} (f : β → γ) (cid : Nat) : ∀ (ps : List (Int × β)),
    (ps.map (fun e => ((e.1 : Rat), f e.2))).lookup (cid : Rat) = (ps.lookup (cid : Int)).map f
  | [] => rfl
  | (k, w) :: rest => by
    have hk : ((cid : Rat) == (k : Rat)) = ((cid : Int) == k) := by
      rw [← Rat.intCast_natCast, Bool.eq_iff_iff, beq_iff_eq, beq_iff_eq, Rat.intCast_inj]
    simp only [List.map_cons, List.lookup_cons, hk, lookup_natCast_map f cid rest]
    cases (cid : Int) == k <;> rfl

theorem glyphWidth_toWMap (ps : List (Int × Rat)) (dw : Option Rat) (cid : Nat) :
    glyphWidth (toWMap ps) dw cid = match ps.lookup (cid : Int) with
      | some w => w
      | none => dw.getD Gen.CIDFont.DW_DEFAULT := by
  rw [glyphWidth, toWMap, lookup_natCast_map WVal.num]
  cases ps.lookup (cid : Int) <;> rfl

abbrev Num3 := (Rat × Bool) × (Rat × Bool) × (Rat × Bool)

def toW2Map (ps : List (Int × (Rat × Rat × Rat))) : W2Map :=
  ps.map (fun e => ((e.1 : Rat), (WVal.num e.2.1, WVal.num e.2.2.1, WVal.num e.2.2.2)))

theorem toW2Map_append (a b : List (Int × (Rat × Rat × Rat))) : toW2Map (a ++ b) = toW2Map a ++ toW2Map b := by
  simp [toW2Map]

theorem chop3W_flat : ∀ (ws : List Num3),
    chop3W (ws.flatMap (fun w => [WVal.num w.1.1, WVal.num w.2.1.1, WVal.num w.2.2.1]))
      = ws.map (fun w => (WVal.num w.1.1, WVal.num w.2.1.1, WVal.num w.2.2.1))
  | [] => by simp [chop3W]
  | w :: ws => by
    simp only [List.flatMap_cons, List.cons_append, List.nil_append, chop3W, List.map_cons]
    rw [chop3W_flat ws]

theorem putList2_eq (c : Nat) : ∀ (ws : List Num3) (i : Nat) (m : W2Map),
    putList2 (c : Rat) i (ws.map (fun w => (WVal.num w.1.1, WVal.num w.2.1.1, WVal.num w.2.2.1))) m
      = toW2Map (list2Pairs c i ws).reverse ++ m
  | [], i, m => by simp [putList2, list2Pairs, toW2Map]
  | w :: ws, i, m => by
    simp only [List.map_cons, putList2, list2Pairs, List.reverse_cons, toW2Map_append, isNum3, if_true]
    rw [putList2_eq c ws (i + 1)]
    simp only [toW2Map, List.map_cons, List.map_nil, List.append_assoc, List.cons_append, List.nil_append,
      Rat.intCast_natCast, Rat.natCast_add]

theorem widths2_entry (e : W2Entry) (rest : List WElem) (m : W2Map) :
    getWidths2Aux (renderW2Entry e ++ rest) (m, []) =
      getWidths2Aux rest (toW2Map (w2entryPairs e).reverse ++ m, []) := by
  cases e with
  | list c ws =>
    simp only [renderW2Entry, List.cons_append, List.nil_append, getWidths2Aux, widths2Step,
      List.getLast?_singleton, w2entryPairs, chop3W_flat]
    rw [putList2_eq]
  | range c1 c2 w =>
    simp only [renderW2Entry, List.cons_append, List.nil_append, getWidths2Aux, widths2Step, and_self, if_true,
      Rat.floor_intCast, w2entryPairs, Gen.CIDFont.MAX_CID]
    rw [putRange_eq, ← List.range_eq_range']
    simp [toW2Map, Function.comp_def]

theorem widths2_fold : ∀ (es : List W2Entry) (m : W2Map),
    getWidths2Aux (renderW2 es) (m, []) = .ok (toW2Map (specWidth2Pairs es).reverse ++ m)
  | [], m => rfl
  | e :: rest, m => by
    have ih := widths2_fold rest (toW2Map (w2entryPairs e).reverse ++ m)
    simp only [renderW2, specWidth2Pairs, List.flatMap_cons, widths2_entry, List.reverse_append,
      toW2Map_append, List.append_assoc] at ih ⊢
    exact ih

theorem glyphWidthV_toW2Map (ps : List (Int × (Rat × Rat × Rat))) (dw2 : Option (Rat × Rat)) (cid : Nat) :
    glyphWidthV (toW2Map ps) dw2 cid = match ps.lookup (cid : Int) with
      | some w => w.1
      | none => (dw2.getD Gen.CIDFont.DW2_DEFAULT).2 := by
  rw [glyphWidthV, toW2Map, lookup_natCast_map (fun w : Rat × Rat × Rat => (WVal.num w.1, WVal.num w.2.1, WVal.num w.2.2))]
  cases ps.lookup (cid : Int) <;> rfl

theorem glyphDispV_toW2Map (ps : List (Int × (Rat × Rat × Rat))) (dw2 : Option (Rat × Rat)) (cid : Nat) :
    glyphDispV (toW2Map ps) dw2 cid = match ps.lookup (cid : Int) with
      | some w => (some w.2.1, w.2.2)
      | none => (none, (dw2.getD Gen.CIDFont.DW2_DEFAULT).1) := by
  rw [glyphDispV, toW2Map, lookup_natCast_map (fun w : Rat × Rat × Rat => (WVal.num w.1, WVal.num w.2.1, WVal.num w.2.2))]
  cases ps.lookup (cid : Int) <;> rfl

end PdfVerif.CIDFontLemmas
