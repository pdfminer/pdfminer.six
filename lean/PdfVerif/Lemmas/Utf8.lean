/-
C06: UTF-8.  `utf8Chars (utf8Encode cs) = some cs` for every character list (1-4 byte forms, all boundaries, the
surrogate gap), and the spelling of a glyph NAME as the `NameItem`s of a PDF/PostScript name (raw regular bytes,
`#XX` otherwise) - so that the Type 1 header round trip is stated over names instead of name bytes.
-/
import PdfVerif.Lemmas.Type1Roundtrip

namespace PdfVerif.SimpleFont
open PdfVerif PdfVerif.Lexer PdfVerif.StackParser PdfVerif.Gen.LexTables PdfVerif.Roundtrip

theorem byte_between (lo b hi : UInt8) :
    (decide (lo ≤ b) && decide (b ≤ hi)) = decide (lo.toNat ≤ b.toNat ∧ b.toNat ≤ hi.toNat) := by
  simp only [UInt8.le_iff_toNat_le, Bool.decide_and]

theorem toNat_ite_beq (a k x y : UInt8) :
    (if a == k then x else y).toNat = if a.toNat = k.toNat then x.toNat else y.toNat := by
  by_cases h : a = k
  · simp [h]
  · have : a.toNat ≠ k.toNat := fun e => h (UInt8.toNat_inj.mp e)
    simp [h, this]

theorem contByte {y : Nat} (hy : y < 64) :
    (UInt8.ofNat (0x80 + y)).toNat = 0x80 + y ∧ (0x80 ≤ 0x80 + y ∧ 0x80 + y ≤ 0xBF) :=
  ⟨UInt8.toNat_ofNat_of_lt' (show _ < 256 by omega), by omega⟩

/-! The lead byte carries the top bits `x` of the character number, every continuation byte `80 + y` six more bits. -/

theorem utf8Chars_one (n : Nat) (r : Bytes) (hn : n < 0x80) :
    utf8Chars (UInt8.ofNat n :: r) = (utf8Chars r).map (fun cs => Char.ofNat n :: cs) := by
  have ea := UInt8.toNat_ofNat_of_lt' (n := n) (show _ < 256 by omega)
  conv => lhs; unfold utf8Chars
  rw [if_pos (UInt8.lt_iff_toNat_lt.mpr (by rw [ea]; exact hn)), ea]

/-- `x < 2` would be an over-long form of a one-byte character. -/
theorem utf8Chars_two (x y : Nat) (r : Bytes) (hx : 2 ≤ x ∧ x < 32) (hy : y < 64) :
    utf8Chars (UInt8.ofNat (0xC0 + x) :: UInt8.ofNat (0x80 + y) :: r) =
      (utf8Chars r).map (fun cs => Char.ofNat (x * 64 + y) :: cs) := by
  obtain ⟨hlt, h1, ha⟩ : 0xC0 + x < 256 ∧ ¬ 0xC0 + x < 0x80 ∧ (0xC2 ≤ 0xC0 + x ∧ 0xC0 + x ≤ 0xDF) := by omega
  conv => lhs; unfold utf8Chars
  simp only [UInt8.lt_iff_toNat_lt, byte_between, UInt8.reduceToNat, UInt8.toNat_ofNat_of_lt' hlt, contByte hy, h1, ha,
    and_self, decide_true, if_true, if_false, Nat.add_sub_cancel_left]

/-- After E0 the second byte starts at A0 (below: over-long), after ED it ends at 9F (above: a surrogate). -/
theorem utf8Chars_three (x y z : Nat) (r : Bytes) (hx : x < 16) (hy : y < 64) (hz : z < 64)
    (hlo : x = 0 → 32 ≤ y) (hhi : x = 13 → y < 32) :
    utf8Chars (UInt8.ofNat (0xE0 + x) :: UInt8.ofNat (0x80 + y) :: UInt8.ofNat (0x80 + z) :: r) =
      (utf8Chars r).map (fun cs => Char.ofNat (x * 4096 + y * 64 + z) :: cs) := by
  obtain ⟨hlt, h1, h2, ha⟩ : 0xE0 + x < 256 ∧ ¬ 0xE0 + x < 0x80 ∧ ¬ (0xC2 ≤ 0xE0 + x ∧ 0xE0 + x ≤ 0xDF) ∧
      (0xE0 ≤ 0xE0 + x ∧ 0xE0 + x ≤ 0xEF) := by omega
  have hb : (if 0xE0 + x = 0xE0 then 0xA0 else 0x80) ≤ 0x80 + y ∧
      0x80 + y ≤ (if 0xE0 + x = 0xED then 0x9F else 0xBF) := by
    constructor <;> split <;> omega
  conv => lhs; unfold utf8Chars
  simp only [UInt8.lt_iff_toNat_lt, byte_between, toNat_ite_beq, UInt8.reduceToNat, UInt8.toNat_ofNat_of_lt' hlt,
    (contByte hy).1, contByte hz, h1, h2, ha, hb, and_self, decide_true, decide_false, Bool.false_eq_true, if_true,
    if_false, Bool.and_self, Nat.add_sub_cancel_left]

/-- After F0 the second byte starts at 90 (below: over-long), after F4 it ends at 8F (above: beyond U+10FFFF). -/
theorem utf8Chars_four (x y z w : Nat) (r : Bytes) (hx : x < 5) (hy : y < 64) (hz : z < 64) (hw : w < 64)
    (hlo : x = 0 → 16 ≤ y) (hhi : x = 4 → y < 16) :
    utf8Chars (UInt8.ofNat (0xF0 + x) :: UInt8.ofNat (0x80 + y) :: UInt8.ofNat (0x80 + z) ::
        UInt8.ofNat (0x80 + w) :: r) =
      (utf8Chars r).map (fun cs => Char.ofNat (x * 262144 + y * 4096 + z * 64 + w) :: cs) := by
  obtain ⟨hlt, h1, h2, h3, ha⟩ : 0xF0 + x < 256 ∧ ¬ 0xF0 + x < 0x80 ∧ ¬ (0xC2 ≤ 0xF0 + x ∧ 0xF0 + x ≤ 0xDF) ∧
      ¬ (0xE0 ≤ 0xF0 + x ∧ 0xF0 + x ≤ 0xEF) ∧ (0xF0 ≤ 0xF0 + x ∧ 0xF0 + x ≤ 0xF4) := by omega
  have hb : (if 0xF0 + x = 0xF0 then 0x90 else 0x80) ≤ 0x80 + y ∧
      0x80 + y ≤ (if 0xF0 + x = 0xF4 then 0x8F else 0xBF) := by
    constructor <;> split <;> omega
  conv => lhs; unfold utf8Chars
  simp only [UInt8.lt_iff_toNat_lt, byte_between, toNat_ite_beq, UInt8.reduceToNat, UInt8.toNat_ofNat_of_lt' hlt,
    (contByte hy).1, contByte hz, contByte hw, h1, h2, h3, ha, hb, and_self, decide_true, decide_false,
    Bool.false_eq_true, if_true, if_false, Bool.and_self, Nat.add_sub_cancel_left]

/-- In each form the bytes carry the base-64 digits of the character number.  A `Char` is a scalar value, which is
what keeps the second byte after ED below A0. -/
theorem dec_char (c : Char) (r : Bytes) :
    utf8Chars (utf8EncodeChar c ++ r) = (utf8Chars r).map (fun cs => c :: cs) := by
  have hv : c.toNat < 0xd800 ∨ (0xdfff < c.toNat ∧ c.toNat < 0x110000) := c.valid
  have hc : Char.ofNat c.toNat = c := Char.ofNat_toNat c
  unfold utf8EncodeChar
  generalize c.toNat = n at hv hc
  subst hc
  simp only
  by_cases h1 : n < 0x80
  · rw [if_pos h1]
    exact utf8Chars_one n r h1
  rw [if_neg h1]
  by_cases h2 : n < 0x800
  · obtain ⟨x, y, hx, hy, hn, hb⟩ : ∃ x y, n / 64 = x ∧ n % 64 = y ∧ n = x * 64 + y ∧ (2 ≤ x ∧ x < 32) ∧ y < 64 :=
      ⟨_, _, rfl, rfl, by omega⟩
    rw [if_pos h2, hx, hy, hn]
    exact utf8Chars_two x y r hb.1 hb.2
  rw [if_neg h2]
  by_cases h3 : n < 0x10000
  · obtain ⟨x, y, z, hx, hy, hz, hn, hb⟩ : ∃ x y z, n / 4096 = x ∧ n / 64 % 64 = y ∧ n % 64 = z ∧
        n = x * 4096 + y * 64 + z ∧ x < 16 ∧ y < 64 ∧ z < 64 ∧ (x = 0 → 32 ≤ y) ∧ (x = 13 → y < 32) :=
      ⟨_, _, _, rfl, rfl, rfl, by omega⟩
    rw [if_pos h3, hx, hy, hz, hn]
    exact utf8Chars_three x y z r hb.1 hb.2.1 hb.2.2.1 hb.2.2.2.1 hb.2.2.2.2
  · obtain ⟨x, y, z, w, hx, hy, hz, hw, hn, hb⟩ : ∃ x y z w, n / 262144 = x ∧ n / 4096 % 64 = y ∧
        n / 64 % 64 = z ∧ n % 64 = w ∧ n = x * 262144 + y * 4096 + z * 64 + w ∧ x < 5 ∧ y < 64 ∧ z < 64 ∧ w < 64 ∧
        (x = 0 → 16 ≤ y) ∧ (x = 4 → y < 16) := ⟨_, _, _, _, rfl, rfl, rfl, rfl, by omega⟩
    rw [if_neg h3, hx, hy, hz, hw, hn]
    exact utf8Chars_four x y z w r hb.1 hb.2.1 hb.2.2.1 hb.2.2.2.1 hb.2.2.2.2.1 hb.2.2.2.2.2

theorem utf8Chars_encode : ∀ (cs : List Char), utf8Chars (utf8Encode cs) = some cs
  | [] => rfl
  | c :: cs => by
    rw [utf8Encode, dec_char, utf8Chars_encode cs]
    rfl

def hexDigitByte (v : Nat) : UInt8 := if v < 10 then UInt8.ofNat (48 + v) else UInt8.ofNat (55 + v)

def spellByte (b : UInt8) : NameItem :=
  if nameRaw b then .raw b else .esc (hexDigitByte (b.toNat / 16)) (hexDigitByte (b.toNat % 16))

def spellBytes (bs : Bytes) : List NameItem := bs.map spellByte

def spellName (cs : List Char) : List NameItem := spellBytes (utf8Encode cs)

theorem hexDigitByte_spec : ∀ v, v < 16 → isHEX (hexDigitByte v) = true ∧ hexCharVal (hexDigitByte v) = v := by
  decide +kernel

theorem spellByte_ok (b : UInt8) : (spellByte b).ok ∧ (spellByte b).value = b := by
  unfold spellByte
  cases hr : nameRaw b
  · obtain ⟨h1, v1⟩ := hexDigitByte_spec (b.toNat / 16) (by have := b.toNat_lt; omega)
    obtain ⟨h2, v2⟩ := hexDigitByte_spec (b.toNat % 16) (by omega)
    refine ⟨⟨h1, h2⟩, ?_⟩
    show UInt8.ofNat (hexCharVal _ * 16 + hexCharVal _) = b
    rw [v1, v2, Nat.div_add_mod', UInt8.ofNat_toNat]
  · exact ⟨hr, rfl⟩

theorem spellBytes_ok (bs : Bytes) : (∀ i ∈ spellBytes bs, i.ok) ∧ nameValue (spellBytes bs) = bs := by
  constructor
  · intro i hi
    obtain ⟨b, _, rfl⟩ := List.mem_map.mp hi
    exact (spellByte_ok b).1
  · induction bs with
    | nil => rfl
    | cons b r ih => show _ :: nameValue (spellBytes r) = _; rw [(spellByte_ok b).2, ih]

/-- A `dup <key> /<name> put` line given by its glyph NAME. -/
structure NamedPut where
  sign : Bytes
  digits : Bytes
  name : List Char
  g1 : List SepItem
  g2 : List SepItem
  g3 : List SepItem
  g4 : List SepItem

def NamedPut.spelling (p : NamedPut) : PutSpelling :=
  { sign := p.sign, digits := p.digits, name := spellName p.name, g1 := p.g1, g2 := p.g2, g3 := p.g3, g4 := p.g4 }

def NamedPut.ok (p : NamedPut) : Prop :=
  signOK p.sign ∧ digitsOK p.digits ∧ sepOK p.g1 ∧ p.g1 ≠ [] ∧ sepOK p.g2 ∧ sepOK p.g3 ∧ p.g3 ≠ [] ∧
    sepOK p.g4 ∧ p.g4 ≠ []

theorem NamedPut.spelling_ok (p : NamedPut) (h : p.ok) : p.spelling.ok := by
  obtain ⟨a, b, c, d, e, f, g, i, j⟩ := h
  exact ⟨a, b, (spellBytes_ok _).1, c, d, e, f, g, i, j⟩

theorem NamedPut.spelling_value (p : NamedPut) : utf8Chars (nameValue p.spelling.name) = some p.name := by
  rw [NamedPut.spelling, spellName, (spellBytes_ok _).2, utf8Chars_encode]

end PdfVerif.SimpleFont
