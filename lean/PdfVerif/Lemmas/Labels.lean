/-
C17 — `decode_text` against the specification of text strings: PDFDocEncoding by table, UTF-16BE by
the decoder's state machine.
-/
import PdfVerif.Lemmas.LabelsFinite

namespace PdfVerif.Lemmas.Labels
open PdfVerif PdfVerif.Labels PdfVerif.Gen.LabelTables PdfVerif.Lemmas.LabelsFinite

theorem docChar_spec (c : UInt8) (u : Nat) (h : Spec.Labels.pdfDoc c.toNat = some u) : docChar c = u := by
  have hc : c.toNat < PDFDocEncoding.length := Nat.lt_of_lt_of_eq c.toNat_lt pdfDoc_length.symm
  have hm : (PDFDocEncoding[c.toNat], c.toNat) ∈ PDFDocEncoding.zipIdx :=
    List.mk_mem_zipIdx_iff_getElem?.mpr (List.getElem?_eq_getElem hc)
  rw [docChar, List.getD_eq_getElem?_getD, List.getElem?_eq_getElem hc]
  exact pdfDoc_table _ hm u h

theorem units_of_exact : ∀ (s : Bytes) (us : List Nat), Spec.Labels.unitsExact s = some us → units s = us
  | [], us, h => by cases h; rfl
  | [_], us, h => by cases h
  | a :: b :: rest, us, h => by
    simp only [Spec.Labels.unitsExact, Option.map_eq_some_iff] at h
    obtain ⟨t, ht, rfl⟩ := h
    simp [units, units_of_exact rest t ht]

theorem pair_eq (h l : Nat) : Spec.Labels.surrogatePair h l = pair h l := rfl

theorem decodeAux_of_utf16Aux (us : List Nat) (st : Option Nat) (t : Text)
    (h : Spec.Labels.utf16Aux st us = some t) : decodeAux st us = t := by
  fun_induction Spec.Labels.utf16Aux st us generalizing t
  case case1 => cases h; rfl
  case case3 hu ih => rw [decodeAux, if_pos hu, ih t h]
  case case5 hu hl ih =>
    obtain ⟨t', ht', rfl⟩ := Option.map_eq_some_iff.mp h
    rw [decodeAux, if_neg hu, if_neg hl, ih t' ht']
  case case6 hv ih =>
    obtain ⟨t', ht', rfl⟩ := Option.map_eq_some_iff.mp h
    rw [decodeAux, if_pos hv, ih t' ht', pair_eq]
  all_goals cases h

theorem map_of_mapM_doc : ∀ (s : Bytes) (t : Text),
    s.mapM (fun c => Spec.Labels.pdfDoc c.toNat) = some t → s.map docChar = t
  | [], t, h => by cases h; rfl
  | c :: cs, t, h => by
    simp only [List.mapM_cons, Option.pure_def, Option.bind_eq_bind, Option.bind_eq_some_iff, Option.some.injEq] at h
    obtain ⟨u, hu, ts, hts, rfl⟩ := h
    rw [List.map_cons, docChar_spec c u hu, map_of_mapM_doc cs ts hts]

theorem decodeText_of_spec (s : Bytes) (t : Text) (h : Spec.Labels.text s = some t) : decodeText s = t := by
  unfold Spec.Labels.text at h
  unfold decodeText
  cases hb : hasBOM s <;> simp only [hb, Bool.false_eq_true, if_true, if_false] at h ⊢
  · exact map_of_mapM_doc s t h
  · obtain ⟨us, hus, hut⟩ := Option.bind_eq_some_iff.mp h
    rw [units_of_exact _ us hus]
    exact decodeAux_of_utf16Aux us none t hut

end PdfVerif.Lemmas.Labels
