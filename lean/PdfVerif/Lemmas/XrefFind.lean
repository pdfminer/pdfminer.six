/-
C02 — `PDFDocument.find_xref`: the backward scan finds the LAST `startxref` line and the first
non-blank line after it, whatever stands before (older revisions with their own `startxref`) and
however the tail is laid out (EOL style, trailing blanks, blank lines, with or without a final EOL).
-/
import PdfVerif.Lemmas.XrefTable

namespace PdfVerif.Xref

open PdfVerif.Gen.Xref

/-- A physical line as `revreadlines` yields it: the EOL byte that starts it, then EOL-free bytes. -/
structure RLine where
  e : UInt8
  t : Bytes

def RLine.bytes (l : RLine) : Bytes := l.e :: l.t

def RLine.OK (l : RLine) : Prop := isEol l.e = true ∧ noEol l.t

instance (l : RLine) : Decidable l.OK := by unfold RLine.OK; infer_instance

def rlinesBytes : List RLine → Bytes
  | [] => []
  | l :: r => l.bytes ++ rlinesBytes r

theorem rlinesBytes_append (a b : List RLine) : rlinesBytes (a ++ b) = rlinesBytes a ++ rlinesBytes b := by
  induction a with
  | nil => rfl
  | cons l a ih => simp [rlinesBytes, ih]

/-- a run of EOL bytes = that many empty lines -/
def blankLines (es : Bytes) : List RLine := es.map (fun e => ⟨e, []⟩)

theorem rlinesBytes_blank (es : Bytes) : rlinesBytes (blankLines es) = es := by
  induction es with
  | nil => rfl
  | cons e es ih =>
    show rlinesBytes (⟨e, []⟩ :: blankLines es) = e :: es
    simp [rlinesBytes, RLine.bytes, ih]

theorem revLines_lines (ls : List RLine) (h : ∀ l ∈ ls, l.OK) (pre : Bytes) :
    revLines (pre ++ rlinesBytes ls) = (ls.map RLine.bytes).reverse ++ revLines pre := by
  induction ls generalizing pre with
  | nil => simp [rlinesBytes]
  | cons l ls ih =>
    obtain ⟨he, ht⟩ := h l List.mem_cons_self
    rw [rlinesBytes, ← List.append_assoc, ih (fun x hx => h x (List.mem_cons_of_mem _ hx)), revLines, revLines,
      RLine.bytes, segs_append_eol pre l.e l.t he ht]
    simp [RLine.bytes]

/-- `if line: prev = line` -/
def prevStep (p : Bytes) (line : Bytes) : Bytes := if (strip line).isEmpty then p else strip line

theorem findXrefLines_skip (ls rest : List Bytes) (prev : Bytes) (h : ∀ l ∈ ls, strip l ≠ kwStartxref) :
    findXrefLines (ls ++ rest) prev = findXrefLines rest (ls.foldl prevStep prev) := by
  induction ls generalizing prev with
  | nil => rfl
  | cons l ls ih =>
    have hl : (strip l == kwStartxref) = false := by
      simpa using h l List.mem_cons_self
    simp only [List.cons_append, findXrefLines, hl, List.foldl_cons, Bool.false_eq_true, ↓reduceIte]
    rw [ih _ (fun x hx => h x (List.mem_cons_of_mem _ hx))]
    rfl

theorem foldl_prevStep_blank (ls : List Bytes) (prev : Bytes) (h : ∀ l ∈ ls, strip l = []) :
    ls.foldl prevStep prev = prev := by
  induction ls generalizing prev with
  | nil => rfl
  | cons l ls ih =>
    have hl := h l List.mem_cons_self
    simp only [List.foldl_cons, prevStep, hl, List.isEmpty_nil, ↓reduceIte]
    exact ih _ (fun x hx => h x (List.mem_cons_of_mem _ hx))

/-- The loop on the reversed lines: lines `after` (none is the keyword), the first non-blank line
`num` after the keyword line, blank lines `middle`, the keyword line, anything older. -/
theorem findXrefLines_layout (pre : List Bytes) (kw num : Bytes) (middle after : List Bytes)
    (hkw : strip kw = kwStartxref) (hmid : ∀ l ∈ middle, strip l = [])
    (hnum1 : strip num ≠ []) (hnum2 : strip num ≠ kwStartxref)
    (hafter : ∀ l ∈ after, strip l ≠ kwStartxref) :
    findXrefLines (after.reverse ++ num :: (middle.reverse ++ kw :: pre)) [] =
      if isDigits (strip num) then .ok (decNat (strip num)) else .error .noValidXRef := by
  have e1 : after.reverse ++ num :: (middle.reverse ++ kw :: pre) =
      (after.reverse ++ (num :: middle.reverse)) ++ (kw :: pre) := by simp
  have hskip : ∀ l ∈ after.reverse ++ (num :: middle.reverse), strip l ≠ kwStartxref := by
    rw [List.forall_mem_append, List.forall_mem_cons]
    exact ⟨fun l hl => hafter l (List.mem_reverse.mp hl), hnum2,
      fun l hl => by rw [hmid l (List.mem_reverse.mp hl)]; decide⟩
  rw [e1, findXrefLines_skip _ _ _ hskip, findXrefLines, hkw, beq_self_eq_true, if_pos rfl]
  have hn : (strip num).isEmpty = false := List.isEmpty_eq_false_iff.mpr hnum1
  have : (after.reverse ++ (num :: middle.reverse)).foldl prevStep [] = strip num := by
    rw [List.foldl_append, List.foldl_cons,
      foldl_prevStep_blank middle.reverse _ (fun l hl => hmid l (List.mem_reverse.mp hl))]
    simp [prevStep, hn]
  rw [this]

/-- No line is the keyword: `PDFNoValidXRef("Unexpected EOF")`. -/
theorem findXrefLines_none (ls : List Bytes) (prev : Bytes) (h : ∀ l ∈ ls, strip l ≠ kwStartxref) :
    findXrefLines ls prev = .error .noValidXRef := by
  rw [← List.append_nil ls, findXrefLines_skip ls [] prev h]
  rfl

theorem findXref_layout_bytes (pre : Bytes) (kw num : RLine) (middle after : List RLine)
    (hk : kw.OK) (hn : num.OK) (hm : ∀ l ∈ middle, l.OK) (ha : ∀ l ∈ after, l.OK)
    (hkw : strip kw.bytes = kwStartxref) (hmid : ∀ l ∈ middle, strip l.bytes = [])
    (hnum1 : strip num.bytes ≠ []) (hnum2 : strip num.bytes ≠ kwStartxref)
    (hafter : ∀ l ∈ after, strip l.bytes ≠ kwStartxref) :
    findXrefLines (revLines (pre ++ rlinesBytes (kw :: middle ++ num :: after))) [] =
      if isDigits (strip num.bytes) then .ok (decNat (strip num.bytes)) else .error .noValidXRef := by
  have hall : ∀ l ∈ kw :: middle ++ num :: after, l.OK := by
    rw [List.cons_append, List.forall_mem_cons, List.forall_mem_append, List.forall_mem_cons]
    exact ⟨hk, hm, hn, ha⟩
  rw [revLines_lines _ hall]
  have e : ((kw :: middle ++ num :: after).map RLine.bytes).reverse ++ revLines pre =
      (after.map RLine.bytes).reverse ++ num.bytes ::
        ((middle.map RLine.bytes).reverse ++ kw.bytes :: revLines pre) := by simp
  rw [e]
  exact findXrefLines_layout (revLines pre) kw.bytes num.bytes (middle.map RLine.bytes) (after.map RLine.bytes)
    hkw (List.forall_mem_map.mpr hmid) hnum1 hnum2 (List.forall_mem_map.mpr hafter)

theorem blank_facts (es : Bytes) (hes : ∀ x ∈ es, isEol x = true) :
    ∀ l ∈ blankLines es, l.OK ∧ strip l.bytes = [] := by
  intro l hl
  obtain ⟨e, he, rfl⟩ := List.mem_map.mp hl
  refine ⟨⟨hes e he, noEol_nil⟩, ?_⟩
  rcases Bool.or_eq_true_iff.mp (hes e he) with h | h <;> rw [RLine.bytes, beq_iff_eq.mp h] <;> rfl

theorem wordLine (e : UInt8) (w sp : Bytes) (he : isEol e = true) (hne : w ≠ [])
    (hw : ∀ b ∈ w, isPySpace b = false) (hweol : noEol w) (hsp : ∀ x ∈ sp, x = 32) :
    (RLine.mk e (w ++ sp)).OK ∧ strip (RLine.mk e (w ++ sp)).bytes = w :=
  ⟨⟨he, noEol_append hweol (fun x hx => by rw [hsp x hx]; rfl)⟩,
   strip_pad [e] w sp hne (fun c hc => hw c (List.mem_of_mem_head? hc))
     (fun c hc => hw c (List.mem_of_mem_getLast? hc)) (List.forall_mem_singleton.mpr (eol_space he))
     (fun x hx => by rw [hsp x hx]; rfl)⟩

/-- The tail of a file: keyword, number and `%%EOF`, each possibly followed by blanks, separated
by non-empty runs of EOL bytes (any mixture of CR and LF), optionally ended by such a run. -/
theorem findXref_tail_bytes (pre : Bytes) (e0 : UInt8) (he0 : isEol e0 = true)
    (sp1 sp2 sp3 X1 X2 X3 d : Bytes)
    (hsp1 : ∀ x ∈ sp1, x = 32) (hsp2 : ∀ x ∈ sp2, x = 32) (hsp3 : ∀ x ∈ sp3, x = 32)
    (hX1 : ∀ x ∈ X1, isEol x = true) (hX2 : ∀ x ∈ X2, isEol x = true) (hX3 : ∀ x ∈ X3, isEol x = true)
    (hX1ne : X1 ≠ []) (hX2ne : X2 ≠ []) (hdne : d ≠ []) (hd : ∀ x ∈ d, isDigit x = true) :
    findXrefLines (revLines (pre ++ e0 :: (kwStartxref ++ (sp1 ++ (X1 ++ (d ++ (sp2 ++ (X2 ++
      (kwEOF ++ (sp3 ++ X3)))))))))) [] = .ok (decNat d) := by
  -- the last EOL byte of each run starts the next line; the others are blank lines
  obtain ⟨E1, e1, rfl⟩ : ∃ E1 e1, X1 = E1 ++ [e1] := ⟨_, _, (List.dropLast_concat_getLast hX1ne).symm⟩
  obtain ⟨E2, e2, rfl⟩ : ∃ E2 e2, X2 = E2 ++ [e2] := ⟨_, _, (List.dropLast_concat_getLast hX2ne).symm⟩
  rw [List.forall_mem_append, List.forall_mem_singleton] at hX1 hX2
  have hdata : pre ++ e0 :: (kwStartxref ++ (sp1 ++ ((E1 ++ [e1]) ++ (d ++ (sp2 ++ ((E2 ++ [e2]) ++
      (kwEOF ++ (sp3 ++ X3)))))))) =
      pre ++ rlinesBytes ((⟨e0, kwStartxref ++ sp1⟩ : RLine) :: blankLines E1 ++ (⟨e1, d ++ sp2⟩ : RLine) ::
        (blankLines E2 ++ (⟨e2, kwEOF ++ sp3⟩ : RLine) :: blankLines X3)) := by
    simp only [rlinesBytes, rlinesBytes_append, rlinesBytes_blank, RLine.bytes, List.append_assoc, List.cons_append,
      List.nil_append]
  obtain ⟨hkOK, hkS⟩ := wordLine e0 kwStartxref sp1 he0 (by decide) (by decide) (by decide) hsp1
  obtain ⟨hnOK, hnS⟩ := wordLine e1 d sp2 hX1.2 hdne (fun x hx => digit_not_space (hd x hx))
    (noEol_digits hd) hsp2
  obtain ⟨hfOK, hfS⟩ := wordLine e2 kwEOF sp3 hX2.2 (by decide) (by decide) (by decide) hsp3
  have hb1 := blank_facts E1 hX1.1
  have hb2 := blank_facts E2 hX2.1
  have hb3 := blank_facts X3 hX3
  have hafter : ∀ l ∈ blankLines E2 ++ (⟨e2, kwEOF ++ sp3⟩ : RLine) :: blankLines X3,
      l.OK ∧ strip l.bytes ≠ kwStartxref := by
    rw [List.forall_mem_append, List.forall_mem_cons]
    exact ⟨fun l hl => ⟨(hb2 l hl).1, by rw [(hb2 l hl).2]; decide⟩, ⟨hfOK, by rw [hfS]; decide⟩,
      fun l hl => ⟨(hb3 l hl).1, by rw [(hb3 l hl).2]; decide⟩⟩
  have hdig : isDigits d = true := by
    rw [isDigits, List.isEmpty_eq_false_iff.mpr hdne, List.all_eq_true.mpr hd]
    rfl
  rw [hdata, findXref_layout_bytes pre _ _ (blankLines E1) _ hkOK hnOK (fun l hl => (hb1 l hl).1)
    (fun l hl => (hafter l hl).1) hkS (fun l hl => (hb1 l hl).2) (by rw [hnS]; exact hdne)
    (by rw [hnS]; exact fun hk => absurd (hd 115 (hk ▸ by decide)) (by decide))
    (fun l hl => (hafter l hl).2), hnS, hdig, if_pos rfl]

theorem eolRep_eol (eol : LineEol) (k : Nat) : ∀ x ∈ eolRep eol k, isEol x = true := by
  induction k with
  | zero => nofun
  | succ k ih =>
    rw [eolRep, List.forall_mem_append]
    exact ⟨by cases eol <;> decide, ih⟩

theorem eolRep_succ_ne (eol : LineEol) (k : Nat) : eolRep eol (k + 1) ≠ [] := by
  cases eol <;> simp [eolRep, LineEol.bytes]

end PdfVerif.Xref
