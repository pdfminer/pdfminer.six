/-
Vocabulary of the C08 statements about a `Result` (glyphs / boxes / lines of a result, `LineOK`) and the
helper lemmas that open up `analyze` into its stages.  Property theorems are in `Props/C08.lean`.
-/
import PdfVerif.Lemmas.LayoutAnalyze

namespace PdfVerif.Layout
open PdfVerif PdfVerif.Gen.Layout

variable {le : Cmp}

def Child.glyphs : Child → List Glyph
  | .box b => b.glyphs
  | .line l => l.glyphs
  | .glyph g => [g]
  | .other _ => []

def Child.other? : Child → Option Nat
  | .other i => some i
  | _ => none

def Child.box? : Child → Option Box
  | .box b => some b
  | _ => none

def Child.line? : Child → Option Line
  | .line l => some l
  | _ => none

def boxesOf (r : Result) : List Box := r.children.filterMap Child.box?

/-- Every text line of a result: those inside boxes and the empty ones kept beside them. -/
def linesOf (r : Result) : List Line := (boxesOf r).flatMap (·.lines) ++ r.children.filterMap Child.line?

/-- The page box is not inverted (the `Plane` model of C20 asks this of its bounds).  The same condition on any box is
`WfBB` (Lemmas/LayoutSpec.lean); the two unfold to the same conjunction. -/
def WfPage (bb : BB) : Prop := bb.x0 ≤ bb.x1 ∧ bb.y0 ≤ bb.y1

/-- A line as `group_objects` builds it, after `LTTextLine.analyze`: glyphs of one orientation
(consecutive members satisfy the alignment predicate of the line's class), box = tight hull of its
glyphs, the only annotations are word spaces and one final line break. -/
structure LineOK (p : LAParams) (l : Line) : Prop where
  nonempty : l.glyphs ≠ []
  bbox : IsUnion l.bb (l.glyphs.map (·.bb))
  uniform : Chain (aligned p l.vertical) l.glyphs
  vertical_only_if_detected : l.vertical = true → p.detect_vertical = true
  ends_in_break : l.elems.getLast? = some (Elem.anno 10)
  one_break : l.elems.count (Elem.anno 10) = 1
  annos : ∀ c, Elem.anno c ∈ l.elems → c = 32 ∨ c = 10

theorem lineOK_of_inv {p : LAParams} {l : Line} (h : LineInv p l) : LineOK p l.analyze := by
  have hno : Elem.anno 10 ∉ l.elems := fun hc => by have := h.annos 10 hc; omega
  refine ⟨by rw [glyphs_analyze]; exact h.ne, ?_, ?_, h.vert, by simp [Line.analyze], ?_, ?_⟩
  · rw [glyphs_analyze]
    show IsUnion l.bb _
    rw [h.bb]
    exact bbOfList_isUnion _ (by simpa using h.ne)
  · rw [glyphs_analyze]; exact h.uniform
  · simp only [Line.analyze, List.count_append, List.count_singleton_self]
    rw [List.count_eq_zero_of_not_mem hno]
  · intro c hc
    simp only [Line.analyze, List.mem_append, List.mem_singleton, Elem.anno.injEq] at hc
    rcases hc with hc | hc
    · exact Or.inl (h.annos c hc)
    · exact Or.inr hc

theorem toChild_glyphs (items : List Item) :
    (items.map Item.toChild).flatMap Child.glyphs = items.filterMap Item.glyph? := by
  induction items with
  | nil => rfl
  | cons it r ih =>
    cases it <;> simp only [List.map_cons, List.flatMap_cons, List.filterMap_cons, Item.toChild, Child.glyphs,
      Item.glyph?, ih] <;> rfl

theorem toChild_others (items : List Item) :
    (items.map Item.toChild).filterMap Child.other? = items.filterMap Item.other? := by
  rw [List.filterMap_map]
  exact List.filterMap_congr fun it _ => by cases it <;> rfl

/-- The stages of `analyze` on a container that has at least one glyph. -/
structure Stages (le : Cmp) (p : LAParams) (pageBB : BB) (items : List Item) where
  lines : List Line
  boxes : List Box
  hlines : lines = groupObjects p (items.filterMap Item.glyph?)
  hboxes : boxes = groupTextlines p pageBB (lines.filter (fun l => !l.isEmpty))
  children : (analyze le p pageBB items).children =
    (finalBoxes le p pageBB boxes).1.map Child.box ++ (items.filterMap Item.other?).map Child.other
      ++ ((lines.filter Line.isEmpty).map Line.analyze).map Child.line
  groups : (analyze le p pageBB items).groups = (finalBoxes le p pageBB boxes).2.1
  flags : (analyze le p pageBB items).flags = (finalBoxes le p pageBB boxes).2.2

def stages (le : Cmp) (p : LAParams) (pageBB : BB) (items : List Item)
    (h : (items.filterMap Item.glyph?).isEmpty = false) : Stages le p pageBB items :=
  { lines := groupObjects p (items.filterMap Item.glyph?),
    boxes := groupTextlines p pageBB ((groupObjects p (items.filterMap Item.glyph?)).filter (fun l => !l.isEmpty)),
    hlines := rfl, hboxes := rfl,
    children := by simp [analyze, h],
    groups := by simp [analyze, h],
    flags := by simp [analyze, h] }

theorem boxesOf_stages {p : LAParams} {pageBB : BB} {items : List Item} (s : Stages le p pageBB items) :
    boxesOf (analyze le p pageBB items) = (finalBoxes le p pageBB s.boxes).1 := by
  simp [boxesOf, s.children, Function.comp_def, Child.box?]

theorem emptiesOf_stages {p : LAParams} {pageBB : BB} {items : List Item} (s : Stages le p pageBB items) :
    (analyze le p pageBB items).children.filterMap Child.line? = (s.lines.filter Line.isEmpty).map Line.analyze := by
  simp [s.children, Function.comp_def, Child.line?]

theorem othersOf_stages {p : LAParams} {pageBB : BB} {items : List Item} (s : Stages le p pageBB items) :
    (analyze le p pageBB items).children.filterMap Child.other? = items.filterMap Item.other? := by
  simp [s.children, Function.comp_def, Child.other?]

theorem analyze_of_no_glyphs (le : Cmp) (p : LAParams) (pageBB : BB) {items : List Item}
    (h : (items.filterMap Item.glyph?).isEmpty = true) :
    analyze le p pageBB items = { children := items.map Item.toChild, groups := none, flags := {} } := by
  simp only [analyze, h, if_true]

theorem toChild_box? (items : List Item) : (items.map Item.toChild).filterMap Child.box? = [] := by
  rw [List.filterMap_map, List.filterMap_eq_nil_iff]
  intro it _
  cases it <;> rfl

theorem toChild_line? (items : List Item) : (items.map Item.toChild).filterMap Child.line? = [] := by
  rw [List.filterMap_map, List.filterMap_eq_nil_iff]
  intro it _
  cases it <;> rfl

theorem boxesOf_of_no_glyphs (le : Cmp) (p : LAParams) (pageBB : BB) {items : List Item}
    (h : (items.filterMap Item.glyph?).isEmpty = true) : boxesOf (analyze le p pageBB items) = [] := by
  rw [analyze_of_no_glyphs le p pageBB h]; exact toChild_box? items

theorem Stages.spec {p : LAParams} {pageBB : BB} {items : List Item} (s : Stages le p pageBB items)
    (hp : WfPage pageBB) :
    (s.boxes.flatMap (·.lines)).Perm (s.lines.filter (fun l => !l.isEmpty))
    ∧ (s.boxes.map (·.bid)).Nodup
    ∧ ∀ b ∈ s.boxes, b.index = -1 ∧ b.lines ≠ [] ∧ b.bb = bbOfList (b.lines.map (·.bb)) ∧ b.isEmpty = false := by
  rw [s.hboxes]
  exact groupTextlines_spec p pageBB hp _ (nonEmpty_filter _)

theorem boxesOf_origin (p : LAParams) (pageBB : BB) (hp : WfPage pageBB) (items : List Item) :
    ∀ b' ∈ boxesOf (analyze le p pageBB items),
      ∃ b ∈ groupTextlines p pageBB ((groupObjects p (items.filterMap Item.glyph?)).filter (fun l => !l.isEmpty)),
        b'.bid = b.bid ∧ b'.vertical = b.vertical ∧ b'.lines = b.analyze.lines ∧ b'.bb = b.bb := by
  intro b' hb'
  cases h : (items.filterMap Item.glyph?).isEmpty with
  | true => rw [boxesOf_of_no_glyphs le p pageBB h] at hb'; cases hb'
  | false =>
    have s := stages le p pageBB items h
    rw [boxesOf_stages s] at hb'
    have := (finalBoxes_spec (le := le) p pageBB s.boxes (s.spec hp).2.1).1.subset (List.mem_map_of_mem hb')
    simp only [List.mem_map] at this
    obtain ⟨_, ⟨b, hb, rfl⟩, h2⟩ := this
    obtain ⟨h1, h2, h3, h4, _⟩ := Box.mk.inj h2
    exact ⟨b, s.hlines ▸ s.hboxes ▸ hb, h1.symm, h2.symm, h3.symm, h4.symm⟩

theorem linesOf_origin (p : LAParams) (pageBB : BB) (hp : WfPage pageBB) (items : List Item) :
    ∀ l ∈ linesOf (analyze le p pageBB items),
      ∃ l0 ∈ groupObjects p (items.filterMap Item.glyph?), l = l0.analyze := by
  intro l hl
  rcases List.mem_append.mp hl with hl | hl
  · obtain ⟨b', hb', hlb⟩ := List.mem_flatMap.mp hl
    obtain ⟨b, hb, -, -, hlines, -⟩ := boxesOf_origin (le := le) p pageBB hp items b' hb'
    have hlb' : l ∈ b.analyze.lines := hlines ▸ hlb
    obtain ⟨l0, hl0, rfl⟩ := List.mem_map.mp ((box_analyze_perm b).subset hlb')
    have := (groupTextlines_spec p pageBB hp _ (nonEmpty_filter _)).1.subset (List.mem_flatMap.mpr ⟨b, hb, hl0⟩)
    exact ⟨l0, (List.mem_filter.mp this).1, rfl⟩
  · cases h : (items.filterMap Item.glyph?).isEmpty with
    | true => rw [analyze_of_no_glyphs le p pageBB h, toChild_line?] at hl; cases hl
    | false =>
      rw [emptiesOf_stages (stages le p pageBB items h)] at hl
      obtain ⟨l0, hl0, rfl⟩ := List.mem_map.mp hl
      exact ⟨l0, (List.mem_filter.mp hl0).1, rfl⟩

theorem analyze_root {p : LAParams} {bf : Rat} (hbf : p.boxes_flow = some bf) (pageBB : BB) (hp : WfPage pageBB)
    (items : List Item) :
    boxesOf (analyze le p pageBB items) = [] ∨ ∃ g, (analyze le p pageBB items).groups = some [g] ∧
      g.leaves = boxesOf (analyze le p pageBB items) ∧ GroupOK bf g := by
  cases h : (items.filterMap Item.glyph?).isEmpty with
  | true => exact Or.inl (boxesOf_of_no_glyphs le p pageBB h)
  | false =>
    have s := stages le p pageBB items h
    have hg : (finalBoxes le p pageBB s.boxes).2.1 = some (analyzeGroups bf (groupTextboxes le pageBB s.boxes).1 0) := by
      unfold finalBoxes; rw [hbf]
    have hlen : (analyzeGroups bf (groupTextboxes le pageBB s.boxes).1 0).length ≤ 1 := by
      rw [analyzeGroups_length]; exact groupTextboxes_single_root pageBB _
    have hleaves := (finalBoxes_spec (le := le) p pageBB s.boxes (s.spec hp).2.1).2.2.2.2.1 _ hg
    have hok := finalBoxes_groupsOK (le := le) p pageBB s.boxes bf hbf _ hg
    rw [boxesOf_stages s, s.groups, hg]
    generalize analyzeGroups bf (groupTextboxes le pageBB s.boxes).1 0 = gs at hlen hleaves hok
    match gs, hlen, hleaves, hok with
    | [], _, hleaves, _ => exact Or.inl hleaves.symm
    | [g], _, hleaves, hok =>
      exact Or.inr ⟨g, rfl, by simpa using hleaves, hok g List.mem_cons_self⟩
    | _ :: _ :: _, hlen, _, _ => simp at hlen

theorem analyze_flags (p : LAParams) (pageBB : BB) (items : List Item) :
    (analyze le p pageBB items).flags.fuel = false ∧ (analyze le p pageBB items).flags.err = false := by
  fun_cases analyze le p pageBB items
  · exact ⟨rfl, rfl⟩
  · show (finalBoxes le p pageBB _).2.2.fuel = false ∧ (finalBoxes le p pageBB _).2.2.err = false
    fun_cases finalBoxes le p pageBB _
    · exact ⟨rfl, rfl⟩
    · exact ⟨groupTextboxes_fuel (le := le) pageBB _, (groupTextboxes_spec (le := le) pageBB _).2.2.1⟩

end PdfVerif.Layout
