/-
Every regenerated predicate and measure of the layout analysis is homogeneous under multiplication of all
coordinates by `s > 0` (decisions unchanged, lengths times `s`, the area distance times `s²`); hence `group_objects`
commutes with scaling.
-/
import Mathlib.Algebra.Order.Field.Rat
import Mathlib.Algebra.Order.Ring.Abs
import Mathlib.Tactic.Linarith
import Mathlib.Tactic.Ring
import PdfVerif.Model.Layout
import PdfVerif.Spec.Layout
namespace PdfVerif.Layout
open PdfVerif PdfVerif.Gen.Layout

abbrev scaleBB := Spec.scaleBB

theorem scale_width (s : Rat) (b : BB) : (scaleBB s b).width = s * b.width := by
  simp only [Spec.scaleBB, BB.width]; ring
theorem scale_height (s : Rat) (b : BB) : (scaleBB s b).height = s * b.height := by
  simp only [Spec.scaleBB, BB.height]; ring

theorem rabs_eq_abs (x : Rat) : rabs x = |x| := by
  unfold rabs
  split
  · rename_i h; exact (abs_of_neg h).symm
  · rename_i h; exact (abs_of_nonneg (not_lt.mp h)).symm

theorem rabs_nonneg (x : Rat) : 0 ≤ rabs x := by rw [rabs_eq_abs]; exact abs_nonneg x

theorem rabs_zero : rabs 0 = 0 := by rw [rabs_eq_abs, abs_zero]

theorem rabs_scale {s : Rat} (hs : 0 < s) (x : Rat) : rabs (s * x) = s * rabs x := by
  rw [rabs_eq_abs, rabs_eq_abs, abs_mul, abs_of_pos hs]

theorem min_scale {s : Rat} (hs : 0 < s) (x y : Rat) : min (s * x) (s * y) = s * min x y :=
  (mul_min_of_nonneg x y hs.le).symm
theorem max_scale {s : Rat} (hs : 0 < s) (x y : Rat) : max (s * x) (s * y) = s * max x y :=
  (mul_max_of_nonneg x y hs.le).symm

theorem le_scale {s : Rat} (hs : 0 < s) (x y : Rat) : s * x ≤ s * y ↔ x ≤ y := mul_le_mul_iff_right₀ hs
theorem lt_scale {s : Rat} (hs : 0 < s) (x y : Rat) : s * x < s * y ↔ x < y := mul_lt_mul_iff_right₀ hs

section
variable {s : Rat} (hs : 0 < s)
include hs

theorem is_voverlap_scale (a b : BB) : is_voverlap (scaleBB s a) (scaleBB s b) = is_voverlap a b := by
  simp only [is_voverlap, Spec.scaleBB, le_scale hs]
theorem is_hoverlap_scale (a b : BB) : is_hoverlap (scaleBB s a) (scaleBB s b) = is_hoverlap a b := by
  simp only [is_hoverlap, Spec.scaleBB, le_scale hs]

theorem voverlap_scale (a b : BB) : voverlap (scaleBB s a) (scaleBB s b) = s * voverlap a b := by
  simp only [voverlap, is_voverlap_scale hs, mul_ite, mul_zero]
  simp only [Spec.scaleBB, min_scale hs, max_scale hs, ← mul_sub]
theorem hoverlap_scale (a b : BB) : hoverlap (scaleBB s a) (scaleBB s b) = s * hoverlap a b := by
  simp only [hoverlap, is_hoverlap_scale hs, mul_ite, mul_zero]
  simp only [Spec.scaleBB, min_scale hs, max_scale hs, ← mul_sub]
theorem hdistance_scale (a b : BB) : hdistance (scaleBB s a) (scaleBB s b) = s * hdistance a b := by
  simp only [hdistance, is_hoverlap_scale hs, mul_ite, mul_zero]
  simp only [Spec.scaleBB, ← mul_sub, rabs_scale hs, min_scale hs]
theorem vdistance_scale (a b : BB) : vdistance (scaleBB s a) (scaleBB s b) = s * vdistance a b := by
  simp only [vdistance, is_voverlap_scale hs, mul_ite, mul_zero]
  simp only [Spec.scaleBB, ← mul_sub, rabs_scale hs, min_scale hs]

theorem halign_scale (p : LAParams) (a b : BB) : halign p (scaleBB s a) (scaleBB s b) = halign p a b := by
  simp only [halign, is_voverlap_scale hs, voverlap_scale hs, hdistance_scale hs, scale_height, scale_width,
    min_scale hs, max_scale hs, mul_assoc, lt_scale hs]

theorem valign_scale (p : LAParams) (a b : BB) : valign p (scaleBB s a) (scaleBB s b) = valign p a b := by
  simp only [valign, is_hoverlap_scale hs, hoverlap_scale hs, vdistance_scale hs, scale_height, scale_width,
    min_scale hs, max_scale hs, mul_assoc, lt_scale hs]

theorem need_space_h_scale (wm last : Rat) (b : BB) :
    need_space_h wm (s * last) (scaleBB s b) = need_space_h wm last b := by
  simp only [need_space_h, scale_height, scale_width, max_scale hs]
  simp only [Spec.scaleBB, mul_left_comm wm s, ← mul_sub, lt_scale hs]

theorem need_space_v_scale (wm last : Rat) (b : BB) :
    need_space_v wm (s * last) (scaleBB s b) = need_space_v wm last b := by
  simp only [need_space_v, scale_height, scale_width, max_scale hs]
  simp only [Spec.scaleBB, mul_left_comm wm s, ← mul_add, lt_scale hs]

theorem is_empty_scale (b : BB) : is_empty (scaleBB s b) = is_empty b := by
  have h : ∀ x : Rat, s * x ≤ 0 ↔ x ≤ 0 := fun x => by rw [← le_scale hs x 0, mul_zero]
  simp only [is_empty, scale_width, scale_height, h]

theorem union_scale (a b : BB) : (scaleBB s a).union (scaleBB s b) = scaleBB s (a.union b) := by
  simp only [BB.union, expand_bbox, Spec.scaleBB, min_scale hs, max_scale hs]

theorem dist_scale (a b : BB) : dist (scaleBB s a) (scaleBB s b) = s * s * dist a b := by
  simp only [dist, scale_width, scale_height]
  simp only [Spec.scaleBB, min_scale hs, max_scale hs]
  ring

theorem key_lrtb_scale (bf : Rat) (b : BB) : key_lrtb bf (scaleBB s b) = s * key_lrtb bf b := by
  simp only [key_lrtb, Spec.scaleBB]; ring
theorem key_tbrl_scale (bf : Rat) (b : BB) : key_tbrl bf (scaleBB s b) = s * key_tbrl bf b := by
  simp only [key_tbrl, Spec.scaleBB]; ring

theorem neighbor_filter_h_scale (a o : BB) (c : Bool) (r : Rat) :
    neighbor_filter_h (scaleBB s a) (scaleBB s o) c r = neighbor_filter_h a o c r := by
  simp only [neighbor_filter_h, is_same_height_as, is_left_aligned_with, is_right_aligned_with,
    is_hcentrally_aligned_with, scale_height]
  simp only [Spec.scaleBB, ← mul_add, mul_div_assoc, ← mul_sub, rabs_scale hs, mul_left_comm r s, le_scale hs]

theorem neighbor_filter_v_scale (a o : BB) (c : Bool) (r : Rat) :
    neighbor_filter_v (scaleBB s a) (scaleBB s o) c r = neighbor_filter_v a o c r := by
  simp only [neighbor_filter_v, is_same_width_as, is_lower_aligned_with, is_upper_aligned_with,
    is_vcentrally_aligned_with, scale_width]
  simp only [Spec.scaleBB, ← mul_add, mul_div_assoc, ← mul_sub, rabs_scale hs, mul_left_comm r s, le_scale hs]

end

def scaleGlyph (s : Rat) (g : Glyph) : Glyph := { g with bb := scaleBB s g.bb }

def scaleElem (s : Rat) : Elem → Elem
  | .ch g => .ch (scaleGlyph s g)
  | .anno c => .anno c

def scaleLine (s : Rat) (l : Line) : Line :=
  { vertical := l.vertical, elems := l.elems.map (scaleElem s), bb := scaleBB s l.bb, last := s * l.last }

theorem newLine_scale (s : Rat) (v : Bool) (g : Glyph) :
    newLine v (scaleGlyph s g) = scaleLine s (newLine v g) := by
  cases v <;> simp [newLine, scaleLine, scaleGlyph, scaleElem, next_last_h, next_last_v, Spec.scaleBB]

section
variable {s : Rat} (hs : 0 < s)
include hs

theorem needSpace_scale (wm : Rat) (l : Line) (g : Glyph) :
    needSpace wm (scaleLine s l) (scaleGlyph s g) = needSpace wm l g := by
  simp only [needSpace, scaleLine, scaleGlyph, need_space_h_scale hs, need_space_v_scale hs]

theorem add_scale (wm : Rat) (l : Line) (g : Glyph) :
    (scaleLine s l).add wm (scaleGlyph s g) = scaleLine s (l.add wm g) := by
  rw [Line.add, needSpace_scale hs, Line.add]
  simp only [scaleLine, scaleGlyph, BB.union, expand_bbox, min_scale hs, max_scale hs, List.map_append, List.map_cons,
    List.map_nil, scaleElem, next_last_h, next_last_v, Spec.scaleBB, apply_ite (List.map (scaleElem s)),
    apply_ite (s * ·)]

theorem go_scale (p : LAParams) (rest : List Glyph) (obj0 : Glyph) (line : Option Line) :
    go p (scaleGlyph s obj0) (line.map (scaleLine s)) (rest.map (scaleGlyph s))
      = (go p obj0 line rest).map (scaleLine s) := by
  induction rest generalizing obj0 line with
  | nil => cases line <;> simp [go, newLine_scale]
  | cons obj1 rest ih =>
    have hh : halign p (scaleGlyph s obj0).bb (scaleGlyph s obj1).bb = halign p obj0.bb obj1.bb :=
      halign_scale hs p obj0.bb obj1.bb
    have hv : valign p (scaleGlyph s obj0).bb (scaleGlyph s obj1).bb = valign p obj0.bb obj1.bb :=
      valign_scale hs p obj0.bb obj1.bb
    have hl : ∀ l : Line, (scaleLine s l).vertical = l.vertical := fun _ => rfl
    -- the same branch is taken; in it the induction hypothesis applies to the scaled line
    cases line with
    | some l =>
      simp only [go, List.map_cons, Option.map_some, hh, hv, hl]
      split <;> simp only [add_scale hs, List.map_cons, ← ih, Option.map_some, Option.map_none]
    | none =>
      simp only [go, List.map_cons, Option.map_none, hh, hv]
      split
      · simp only [newLine_scale, add_scale hs, ← ih, Option.map_some]
      · split <;> simp only [newLine_scale, add_scale hs, List.map_cons, ← ih, Option.map_some, Option.map_none]

theorem groupObjects_scale (p : LAParams) (gs : List Glyph) :
    groupObjects p (gs.map (scaleGlyph s)) = (groupObjects p gs).map (scaleLine s) := by
  cases gs with
  | nil => rfl
  | cons g rest => exact go_scale hs p rest g none

theorem text_scale (l : Line) : (scaleLine s l).text = l.text := by
  simp only [Line.text, scaleLine, List.flatMap_map]
  congr 1
  funext e
  cases e <;> rfl

theorem isEmpty_scale (l : Line) : (scaleLine s l).isEmpty = l.isEmpty := by
  simp only [Line.isEmpty, text_scale hs]
  congr 1
  exact is_empty_scale hs l.bb

end

end PdfVerif.Layout
