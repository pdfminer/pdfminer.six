/-
Lemmas about the stack-parser model: feeding the token serialisation of any object tree
rebuilds the tree (to any nesting depth).

The trees as written (`PObj`), their tokens (`ser`), the value read back (`norm`) and the domain
(`clean`) are defined here.  `feed_ser` is the nesting theorem, for any dialect that treats `null` and
`R` as `GoodDialect` says, from any state in which the end of a loop iteration does nothing (`Quiet`).
For `PDFParser` (`objDialect`): `results` only grows, so `nextobject` hands nothing out before the last
token of a tree (`nextobjectP_ser`).  For `PDFStreamParser` (`streamDialect`): a sequence of top-level
objects, with the integers the flush holds back for a possible `n g R` (`Top`, `top_ser`, `finish_top`).
-/
import PdfVerif.Model.StackParser

namespace PdfVerif.StackParser
open PdfVerif PdfVerif.Lexer

/-- An object as WRITTEN: like `SObj`, but an indirect reference still has its generation number
    (which `PDFObjRef` does not keep). -/
inductive PObj where
  | null
  | bool (b : Bool)
  | int (v : Int)
  | real (text : Bytes)
  | str (s : Bytes)
  | lit (name : Bytes)
  | kwd (name : Bytes)
  | arr (items : List PObj)
  | dict (entries : List (Bytes × PObj))
  | ref (objid gen : Int)
  deriving Repr, Inhabited

mutual
/-- The token sequence every conformant spelling of the tree lexes to (`n g R` for a reference). -/
def ser : PObj → List Token
  | .null => [.kwd kwNull]
  | .bool b => [.bool b]
  | .int v => [.int v]
  | .real t => [.real t]
  | .str s => [.str s]
  | .lit n => [.lit n]
  | .kwd n => [.kwd n]
  | .arr items => Token.kwd [91] :: (serList items ++ [Token.kwd [93]])
  | .dict es => Token.kwd [60, 60] :: (serEntries es ++ [Token.kwd [62, 62]])
  | .ref n g => [.int n, .int g, .kwd kwR]
def serList : List PObj → List Token
  | [] => []
  | o :: r => ser o ++ serList r
def serEntries : List (Bytes × PObj) → List Token
  | [] => []
  | (k, v) :: r => Token.lit k :: (ser v ++ serEntries r)
end

def isNullP : PObj → Bool
  | .null => true
  | _ => false

mutual
/-- The value read back: a dictionary entry whose value is null is absent (ISO 32000-1 7.3.7); a
    reference keeps its object number. -/
def norm : PObj → SObj
  | .arr items => .arr (normList items)
  | .dict es => .dict (normEntries es)
  | .null => .null
  | .bool b => .bool b
  | .int v => .int v
  | .real t => .real t
  | .str s => .str s
  | .lit n => .lit n
  | .kwd n => .kwd n
  | .ref n _ => .ref n
def normList : List PObj → List SObj
  | [] => []
  | o :: r => norm o :: normList r
def normEntries : List (Bytes × PObj) → List (Bytes × SObj)
  | [] => []
  | (k, v) :: r => if isNullP v then normEntries r else (k, norm v) :: normEntries r
end

def keysOf : List (Bytes × PObj) → List Bytes
  | [] => []
  | (k, _) :: r => k :: keysOf r

mutual
/-- Trees in the domain: no bare keywords, dictionary keys distinct and UTF-8. -/
def clean : PObj → Prop
  | .kwd _ => False
  | .arr items => cleanList items
  | .dict es => cleanEntries es ∧ (keysOf es).Nodup ∧ ∀ k ∈ keysOf es, utf8Valid k = true
  | _ => True
def cleanList : List PObj → Prop
  | [] => True
  | o :: r => clean o ∧ cleanList r
def cleanEntries : List (Bytes × PObj) → Prop
  | [] => True
  | (_, v) :: r => clean v ∧ cleanEntries r
end

/-- the operand stack holding the entries of a dictionary being read -/
def pairsOf : List (Bytes × PObj) → List SObj
  | [] => []
  | (k, v) :: r => .lit k :: norm v :: pairsOf r

def tokObj : Token → Option SObj
  | .int v => some (.int v)
  | .real t => some (.real t)
  | .bool b => some (.bool b)
  | .str s => some (.str s)
  | .lit n => some (.lit n)
  | _ => none

/-- the keywords `nextobject` handles itself: `[ ] << >> { }` -/
def isBracketKw (name : Bytes) : Bool :=
  name == [91] || name == [93] || name == [60, 60] || name == [62, 62] || name == [123] || name == [125]

/-- the end of one loop iteration: an error ends everything, otherwise `flush` when no container is open -/
def endIter (D : Dialect) (st : PState) : PState :=
  if st.error.isSome then st else if st.context.isEmpty && D.flushes then flushHold st else st

/-- no error so far, and `endIter` will not flush: a container is open, or the dialect never flushes -/
def Quiet (D : Dialect) (st : PState) : Prop := st.error = none ∧ (D.flushes = true → st.context ≠ [])

structure GoodDialect (D : Dialect) : Prop where
  null : ∀ st, D.doKeyword st kwNull = push st .null
  ref : ∀ (st : PState) (cs : List SObj) (n g : Int), st.curstack = cs ++ [.int n, .int g] →
    D.doKeyword st kwR = push { st with curstack := cs } (.ref n)

theorem good_stream : GoodDialect streamDialect := by
  constructor
  · intro st
    simp +decide [streamDialect, doKeyword]
  · intro st cs n g h
    simp [streamDialect, doKeyword, h, push]
    intro hlt; omega

theorem good_obj : GoodDialect objDialect := by
  constructor
  · intro st
    simp +decide [objDialect, doKeywordP]
  · intro st cs n g h
    simp +decide [objDialect, doKeywordP, h, push]
    intro hlt; omega

theorem feedAllWith_append (D : Dialect) (st : PState) (a b : List Token) :
    feedAllWith D st (a ++ b) = feedAllWith D (feedAllWith D st a) b := by
  simp [feedAllWith, List.foldl_append]

theorem feedAllWith_cons (D : Dialect) (st : PState) (t : Token) (r : List Token) :
    feedAllWith D st (t :: r) = feedAllWith D (feedWith D st t) r := rfl

theorem feedAllWith_nil (D : Dialect) (st : PState) : feedAllWith D st [] = st := rfl

theorem quiet_push {D : Dialect} (st : PState) (o : SObj) (h : Quiet D st) : Quiet D (push st o) := by
  simpa [Quiet, push] using h

theorem feedWith_scalar {D : Dialect} (st : PState) (tok : Token) (o : SObj) (herr : st.error = none)
    (ht : tokObj tok = some o) : feedWith D st tok = endIter D (push st o) := by
  cases tok with
  | kwd _ => cases ht
  | err _ => cases ht
  | _ => cases ht; simp [feedWith, herr, endIter]

theorem feedWith_kwd {D : Dialect} (st : PState) (name : Bytes) (herr : st.error = none)
    (hb : isBracketKw name = false) : feedWith D st (.kwd name) = endIter D (D.doKeyword st name) := by
  simp only [isBracketKw, Bool.or_eq_false_iff] at hb
  obtain ⟨⟨⟨⟨⟨h1, h2⟩, h3⟩, h4⟩, h5⟩, h6⟩ := hb
  simp [feedWith, herr, h1, h2, h3, h4, h5, h6, endIter]

theorem endIter_quiet {D : Dialect} {st : PState} (h : Quiet D st) : endIter D st = st := by
  cases hf : D.flushes with
  | false => simp [endIter, h.1, hf]
  | true => simp [endIter, h.1, List.isEmpty_eq_false_iff.mpr (h.2 hf)]

theorem feed_scalar {D : Dialect} (st : PState) (h : Quiet D st) (tok : Token) (o : SObj)
    (ht : tokObj tok = some o) : feedWith D st tok = push st o := by
  rw [feedWith_scalar st tok o h.1 ht, endIter_quiet (quiet_push st o h)]

theorem feed_ref {D : Dialect} (hD : GoodDialect D) (st : PState) (n g : Int) (h : Quiet D st) :
    feedAllWith D st [.int n, .int g, .kwd kwR] = push st (.ref n) := by
  have h1 := quiet_push st (.int n) h
  have h2 := quiet_push (push st (.int n)) (.int g) h1
  simp only [feedAllWith_cons, feedAllWith_nil, feed_scalar st h (.int n) _ rfl, feed_scalar _ h1 (.int g) _ rfl]
  rw [feedWith_kwd _ kwR h2.1 (by decide), hD.ref _ st.curstack n g (by simp [push])]
  exact endIter_quiet (quiet_push st _ h)

theorem isNullS_norm (v : PObj) : isNullS (norm v) = isNullP v := by
  cases v <;> simp [norm, isNullS, isNullP]

theorem dictSet_fresh (k : Bytes) (v : SObj) : ∀ (acc : List (Bytes × SObj)), k ∉ acc.map (·.1) →
    dictSet k v acc = acc ++ [(k, v)]
  | [], _ => rfl
  | (k', v') :: r, h => by
    have hne : (k' == k) = false := by
      simp only [List.map_cons, List.mem_cons, not_or] at h
      simpa using fun e => h.1 e.symm
    simp only [dictSet, hne, Bool.false_eq_true, if_false, List.cons_append]
    rw [dictSet_fresh k v r (by simp only [List.map_cons, List.mem_cons, not_or] at h; exact h.2)]

theorem buildDict_pairs : ∀ (es : List (Bytes × PObj)) (acc : List (Bytes × SObj)),
    (keysOf es).Nodup → (∀ k ∈ keysOf es, utf8Valid k = true) → (∀ k ∈ keysOf es, k ∉ acc.map (·.1)) →
    buildDict (pairsOf es) acc = some (acc ++ normEntries es)
  | [], acc, _, _, _ => by simp [pairsOf, buildDict, normEntries]
  | (k, v) :: r, acc, hnd, hu, hf => by
    simp only [keysOf, List.nodup_cons] at hnd
    have hk : utf8Valid k = true := hu k (by simp [keysOf])
    have hfr : k ∉ acc.map (·.1) := hf k (by simp [keysOf])
    simp only [pairsOf, buildDict, hk, if_true, isNullS_norm, normEntries]
    by_cases hn : isNullP v = true
    · simp only [hn, if_true]
      exact buildDict_pairs r acc hnd.2 (fun k' h' => hu k' (by simp [keysOf, h'])) (fun k' h' => hf k' (by simp [keysOf, h']))
    · simp only [hn, Bool.false_eq_true, if_false]
      rw [dictSet_fresh k (norm v) acc hfr]
      rw [buildDict_pairs r (acc ++ [(k, norm v)]) hnd.2 (fun k' h' => hu k' (by simp [keysOf, h']))]
      · simp
      · intro k' h'
        simp only [List.map_append, List.map_cons, List.map_nil, List.mem_append, List.mem_singleton, not_or]
        exact ⟨hf k' (by simp [keysOf, h']), fun e => hnd.1 (e ▸ h')⟩

theorem pairsOf_even (es : List (Bytes × PObj)) : (pairsOf es).length % 2 = 0 := by
  induction es with
  | nil => rfl
  | cons e r ih => obtain ⟨k, v⟩ := e; simp only [pairsOf, List.length_cons]; omega

theorem feed_close_arr {D : Dialect} (st : PState) (objs : List SObj) (herr : st.error = none) :
    feedWith D { startType st .a with curstack := objs } (.kwd [93]) = endIter D (push st (.arr objs)) := by
  simp +decide [feedWith, startType, herr, endType, push, endIter]

theorem feed_close_dict {D : Dialect} (st : PState) (es : List (Bytes × PObj)) (herr : st.error = none)
    (hnd : (keysOf es).Nodup) (hu : ∀ k ∈ keysOf es, utf8Valid k = true) :
    feedWith D { startType st .d with curstack := pairsOf es } (.kwd [62, 62]) =
      endIter D (push st (.dict (normEntries es))) := by
  have hb := buildDict_pairs es [] hnd hu (by simp)
  have hev := pairsOf_even es
  simp only [List.nil_append] at hb
  simp +decide [feedWith, startType, herr, endType, push, endIter, hev, hb]

theorem quiet_startType {D : Dialect} (st : PState) (t : Ctx) (herr : st.error = none) : Quiet D (startType st t) := by
  simp [Quiet, startType, herr]

theorem feed_container {D : Dialect} (st : PState) (name close : Bytes) (t : Ctx) (body : List Token)
    (objs : List SObj) (o : SObj) (hopen : feedWith D st (.kwd name) = startType st t)
    (hbody : feedAllWith D (startType st t) body =
      { startType st t with curstack := (startType st t).curstack ++ objs })
    (hclose : feedWith D { startType st t with curstack := objs } (.kwd close) = endIter D (push st o)) :
    feedAllWith D st (Token.kwd name :: (body ++ [Token.kwd close])) = endIter D (push st o) := by
  rw [feedAllWith_cons, hopen, feedAllWith_append, hbody, feedAllWith_cons, feedAllWith_nil]
  exact hclose

theorem feed_arr {D : Dialect} (st : PState) (herr : st.error = none) (items : List PObj)
    (h : feedAllWith D (startType st .a) (serList items) =
      { startType st .a with curstack := (startType st .a).curstack ++ normList items }) :
    feedAllWith D st (ser (.arr items)) = endIter D (push st (.arr (normList items))) := by
  rw [ser]
  exact feed_container st [91] [93] .a _ _ _ (by simp +decide [feedWith, herr, startType]) h (feed_close_arr st _ herr)

theorem feed_dict {D : Dialect} (st : PState) (herr : st.error = none) (es : List (Bytes × PObj))
    (hnd : (keysOf es).Nodup) (hu : ∀ k ∈ keysOf es, utf8Valid k = true)
    (h : feedAllWith D (startType st .d) (serEntries es) =
      { startType st .d with curstack := (startType st .d).curstack ++ pairsOf es }) :
    feedAllWith D st (ser (.dict es)) = endIter D (push st (.dict (normEntries es))) := by
  rw [ser]
  exact feed_container st [60, 60] [62, 62] .d _ _ _ (by simp +decide [feedWith, herr, startType]) h
    (feed_close_dict st es herr hnd hu)

mutual
/-- While no flush can happen, the tokens of any clean tree push exactly its value. -/
theorem feed_ser {D : Dialect} (hD : GoodDialect D) : ∀ (v : PObj) (st : PState), Quiet D st → clean v →
    feedAllWith D st (ser v) = push st (norm v)
  | .null, st, h, _ => by
    rw [ser, norm, feedAllWith_cons, feedAllWith_nil, feedWith_kwd st kwNull h.1 (by decide), hD.null,
      endIter_quiet (quiet_push st _ h)]
  | .bool b, st, h, _ => by rw [ser, norm]; exact feed_scalar st h (.bool b) _ rfl
  | .int v, st, h, _ => by rw [ser, norm]; exact feed_scalar st h (.int v) _ rfl
  | .real t, st, h, _ => by rw [ser, norm]; exact feed_scalar st h (.real t) _ rfl
  | .str s, st, h, _ => by rw [ser, norm]; exact feed_scalar st h (.str s) _ rfl
  | .lit n, st, h, _ => by rw [ser, norm]; exact feed_scalar st h (.lit n) _ rfl
  | .kwd _, _, _, hc => by simp [clean] at hc
  | .ref n g, st, h, _ => by simp only [ser, norm]; exact feed_ref hD st n g h
  | .arr items, st, h, hc => by
    simp only [clean] at hc
    rw [feed_arr st h.1 items (feed_serList hD items _ (quiet_startType st .a h.1) hc),
      endIter_quiet (quiet_push st _ h), norm]
  | .dict es, st, h, hc => by
    simp only [clean] at hc
    rw [feed_dict st h.1 es hc.2.1 hc.2.2 (feed_serEntries hD es _ (quiet_startType st .d h.1) hc.1),
      endIter_quiet (quiet_push st _ h), norm]
theorem feed_serList {D : Dialect} (hD : GoodDialect D) : ∀ (vs : List PObj) (st : PState), Quiet D st → cleanList vs →
    feedAllWith D st (serList vs) = { st with curstack := st.curstack ++ normList vs }
  | [], st, _, _ => by simp [serList, feedAllWith_nil, normList]
  | o :: r, st, h, hc => by
    simp only [cleanList] at hc
    simp only [serList, feedAllWith_append]
    rw [feed_ser hD o st h hc.1, feed_serList hD r (push st (norm o)) (quiet_push st _ h) hc.2]
    simp [push, normList]
theorem feed_serEntries {D : Dialect} (hD : GoodDialect D) : ∀ (es : List (Bytes × PObj)) (st : PState), Quiet D st →
    cleanEntries es → feedAllWith D st (serEntries es) = { st with curstack := st.curstack ++ pairsOf es }
  | [], st, _, _ => by simp [serEntries, feedAllWith_nil, pairsOf]
  | (k, v) :: r, st, h, hc => by
    simp only [cleanEntries] at hc
    simp only [serEntries, feedAllWith_cons, feedAllWith_append, feed_scalar st h (.lit k) _ rfl]
    have h1 := quiet_push st (.lit k) h
    rw [feed_ser hD v (push st (.lit k)) h1 hc.1,
        feed_serEntries hD r (push (push st (.lit k)) (norm v)) (quiet_push _ _ h1) hc.2]
    simp [push, pairsOf]
end

/-- `results` only ever grows: a prefix survives both branches of a test -/
theorem results_ite {l : List SObj} {c : Prop} [Decidable c] {a b : PState} (ha : l <+: a.results)
    (hb : l <+: b.results) : l <+: (if c then a else b).results := by
  split <;> assumption

theorem doKeywordP_results (st : PState) (name : Bytes) : st.results <+: (doKeywordP st name).results := by
  fun_cases doKeywordP st name
  case case1 | case2 => exact List.prefix_append _ _
  all_goals exact List.prefix_refl _

theorem endType_results (st : PState) (t : Ctx) (objs : List SObj) (st' : PState)
    (h : endType st t = some (objs, st')) : st'.results = st.results := by
  revert h
  fun_cases endType st t
  case case3 => intro h; cases h; rfl
  all_goals intro h; cases h

theorem close_results (st : PState) (t : Ctx) (f : List SObj → PState → PState)
    (hf : ∀ objs st', (f objs st').results = st'.results) :
    st.results <+: (match endType st t with
      | some (objs, st') => f objs st'
      | none => st).results := by
  split
  · rename_i h; rw [hf, endType_results _ _ _ _ h]; exact List.prefix_refl _
  · exact List.prefix_refl _

theorem endIter_results {D : Dialect} {l : List SObj} (st : PState) (h : l <+: st.results) :
    l <+: (endIter D st).results :=
  results_ite h (results_ite (h.trans (List.prefix_append _ _)) h)

theorem feedWith_obj_results (st : PState) (t : Token) :
    st.results <+: (feedWith objDialect st t).results := by
  unfold feedWith
  refine results_ite (List.prefix_refl _) (endIter_results _ ?_)
  cases t with
  | kwd name =>
    -- the keyword dispatch: brackets open or close a container, everything else goes to `do_keyword`
    refine results_ite ?_ (results_ite ?_ (results_ite ?_ (results_ite ?_ (results_ite ?_ (results_ite ?_ ?_)))))
    · exact List.prefix_refl _
    · exact close_results st .a _ (fun _ _ => rfl)
    · exact List.prefix_refl _
    · refine close_results st .d _ (fun objs st' => ?_)
      split
      · rfl
      · split <;> rfl
    · exact List.prefix_refl _
    · exact close_results st .p _ (fun _ _ => rfl)
    · exact doKeywordP_results st name
  | _ => exact List.prefix_refl _

theorem feedAllWith_obj_results : ∀ (a : List Token) (st : PState), st.results <+: (feedAllWith objDialect st a).results
  | [], _ => List.prefix_refl _
  | t :: r, st => (feedWith_obj_results st t).trans (feedAllWith_obj_results r _)

theorem feedWith_error_none {D : Dialect} (st : PState) (t : Token) (h : (feedWith D st t).error = none) :
    st.error = none := by
  cases he : st.error with
  | none => rfl
  | some e => simp [feedWith, he] at h

theorem feedAllWith_error_none {D : Dialect} : ∀ (a : List Token) (st : PState),
    (feedAllWith D st a).error = none → st.error = none
  | [], _, h => h
  | t :: r, st, h => feedWith_error_none st t (feedAllWith_error_none r _ h)

theorem nextobjectP_step (st : PState) (t : Token) (r : List Token) (hr : st.results = []) (he : st.error = none) :
    nextobjectP st (t :: r) = nextobjectP (feedWith objDialect st t) r := by
  simp [nextobjectP, hr, he]

theorem nextobjectP_prefix : ∀ (a b : List Token) (st : PState),
    (feedAllWith objDialect st a).results = [] → (feedAllWith objDialect st a).error = none →
    nextobjectP st (a ++ b) = nextobjectP (feedAllWith objDialect st a) b
  | [], b, st, _, _ => rfl
  | t :: r, b, st, h1, h2 => by
    rw [List.cons_append, nextobjectP_step st t _ (List.prefix_nil.mp (h1 ▸ feedAllWith_obj_results (t :: r) st))
      (feedAllWith_error_none (t :: r) st h2)]
    exact nextobjectP_prefix r b (feedWith objDialect st t) h1 h2

theorem nextobjectP_done (st : PState) (toks : List Token) (h : st.results ≠ []) : nextobjectP st toks = some st := by
  have : st.results.isEmpty = false := List.isEmpty_eq_false_iff.mpr h
  cases toks <;> simp [nextobjectP, this]

/-- PDFParser's `nextobject` on the tokens of a clean tree hands nothing out before the last of them -/
theorem nextobjectP_ser (v : PObj) (hc : clean v) (b : List Token) :
    feedAllWith objDialect {} (ser v) = push {} (norm v) ∧
    nextobjectP {} (ser v ++ b) = nextobjectP (push {} (norm v)) b := by
  have hf := feed_ser good_obj v {} ⟨rfl, by simp [objDialect]⟩ hc
  exact ⟨hf, by rw [nextobjectP_prefix (ser v) b {} (by rw [hf]; rfl) (by rw [hf]; rfl), hf]⟩

/-- Between two tokens at top level: no error, no open container, and everything read so far is
    `results ++ curstack` in order (the operand stack holds only what `flush` held back). -/
def Top (L : List SObj) (st : PState) : Prop :=
  st.error = none ∧ st.context = [] ∧ st.curtype = none ∧ st.results ++ st.curstack = L

theorem flushHold_inv (st : PState) :
    (flushHold st).results ++ (flushHold st).curstack = st.results ++ st.curstack ∧
    (flushHold st).error = st.error ∧ (flushHold st).context = st.context ∧ (flushHold st).curtype = st.curtype := by
  simp [flushHold, List.append_assoc]

theorem heldCount_snoc_int (xs : List SObj) (a : Int) : 1 ≤ heldCount (xs ++ [.int a]) ∧ heldCount (xs ++ [.int a]) ≤ 2 := by
  unfold heldCount
  simp only [List.reverse_append, List.reverse_cons, List.reverse_nil, List.nil_append, List.cons_append]
  split <;> simp_all

theorem heldCount_snoc_int2 (xs : List SObj) (a b : Int) : heldCount (xs ++ [.int a, .int b]) = 2 := by
  unfold heldCount
  simp

theorem heldCount_snoc_other (xs : List SObj) (o : SObj) (h : ∀ v, o ≠ .int v) : heldCount (xs ++ [o]) = 0 := by
  unfold heldCount
  simp only [List.reverse_append, List.reverse_cons, List.reverse_nil, List.nil_append, List.cons_append]
  split
  · rename_i heq; simp at heq; exact absurd heq.1 (h _)
  · rename_i heq; simp at heq; exact absurd heq.1 (h _)
  · rfl

theorem endIter_top {st : PState} (he : st.error = none) (hc : st.context = []) :
    endIter streamDialect st = flushHold st := by
  simp [endIter, he, hc, streamDialect]

theorem top_push (L : List SObj) (st : PState) (o : SObj) (h : Top L st) :
    Top (L ++ [o]) (endIter streamDialect (push st o)) := by
  obtain ⟨he, hc, ht, hl⟩ := h
  have hi := flushHold_inv (push st o)
  rw [endIter_top (st := push st o) he hc]
  exact ⟨hi.2.1.trans he, hi.2.2.1.trans hc, hi.2.2.2.trans ht, by rw [hi.1]; simp [push, ← hl]⟩

theorem top_scalar (L : List SObj) (st : PState) (h : Top L st) (tok : Token) (o : SObj) (ht : tokObj tok = some o) :
    Top (L ++ [o]) (feedWith streamDialect st tok) := by
  rw [feedWith_scalar st tok o h.1 ht]; exact top_push L st o h

theorem flushHold_snoc_int (st : PState) (cs : List SObj) (n : Int) (h : st.curstack = cs ++ [.int n]) :
    ∃ c, (flushHold st).curstack = c ++ [.int n] := by
  have hh := heldCount_snoc_int cs n
  simp only [flushHold, h]
  generalize heldCount (cs ++ [SObj.int n]) = k at hh
  have hk : k = 1 ∨ k = 2 := by omega
  rcases hk with rfl | rfl
  · exact ⟨[], by simp⟩
  · refine ⟨cs.drop (cs.length + 1 - 2), ?_⟩
    simp only [List.length_append, List.length_cons, List.length_nil]
    rw [List.drop_append_of_le_length (by omega)]

theorem flushHold_snoc_int2 (st : PState) (cs : List SObj) (n g : Int) (h : st.curstack = cs ++ [.int n, .int g]) :
    (flushHold st).curstack = [.int n, .int g] := by
  simp [flushHold, h, heldCount_snoc_int2]

/-- `n g R` at top level: the two integers are still on the operand stack when `R` arrives -/
theorem top_ref (L : List SObj) (st : PState) (n g : Int) (h : Top L st) :
    Top (L ++ [.ref n]) (feedAllWith streamDialect st [.int n, .int g, .kwd kwR]) := by
  have step : ∀ {L s} (h : Top L s) (v : Int), feedWith streamDialect s (.int v) = flushHold (push s (.int v)) :=
    fun h v => (feedWith_scalar _ (.int v) _ h.1 rfl).trans (endIter_top h.1 h.2.1)
  -- after the first integer the stack ends with it, after the second one `flush` has kept exactly the two
  have h1 := top_scalar L st h (.int n) _ rfl
  obtain ⟨c1, hc1⟩ := flushHold_snoc_int (push st (.int n)) st.curstack n rfl
  rw [← step h n] at hc1
  have h2 := top_scalar _ _ h1 (.int g) _ rfl
  have hc2 := flushHold_snoc_int2 (push (feedWith streamDialect st (.int n)) (.int g)) c1 n g (by simp [push, hc1])
  rw [← step h1 g] at hc2
  simp only [feedAllWith_cons, feedAllWith_nil]
  generalize feedWith streamDialect (feedWith streamDialect st (.int n)) (.int g) = s2 at h2 hc2 ⊢
  have hres : s2.results = L := by
    have := h2.2.2.2
    rw [hc2] at this
    exact List.append_cancel_right (this.trans (by simp))
  rw [feedWith_kwd s2 kwR h2.1 (by decide), good_stream.ref s2 [] n g hc2]
  exact top_push L { s2 with curstack := [] } (.ref n) ⟨h2.1, h2.2.1, h2.2.2.1, by simp [hres]⟩

/-- One more top-level object of a stream: whatever is held back, the objects stay in order. -/
theorem top_ser (L : List SObj) (st : PState) (v : PObj) (hc : clean v) (h : Top L st) :
    Top (L ++ [norm v]) (feedAllWith streamDialect st (ser v)) := by
  cases v with
  | null =>
    rw [ser, feedAllWith_cons, feedAllWith_nil, feedWith_kwd st kwNull h.1 (by decide), good_stream.null st]
    exact top_push L st .null h
  | bool b => exact top_scalar L st h (.bool b) _ rfl
  | int i => exact top_scalar L st h (.int i) _ rfl
  | real t => exact top_scalar L st h (.real t) _ rfl
  | str x => exact top_scalar L st h (.str x) _ rfl
  | lit n => exact top_scalar L st h (.lit n) _ rfl
  | kwd n => simp [clean] at hc
  | ref n g => exact top_ref L st n g h
  | arr items =>
    simp only [clean] at hc
    rw [feed_arr st h.1 items (feed_serList good_stream items _ (quiet_startType st .a h.1) hc), norm]
    exact top_push L st _ h
  | dict es =>
    simp only [clean] at hc
    rw [feed_dict st h.1 es hc.2.1 hc.2.2 (feed_serEntries good_stream es _ (quiet_startType st .d h.1) hc.1), norm]
    exact top_push L st _ h

theorem top_serList : ∀ (vs : List PObj) (L : List SObj) (st : PState), cleanList vs → Top L st →
    Top (L ++ normList vs) (feedAllWith streamDialect st (serList vs))
  | [], L, st, _, h => by simpa [serList, feedAllWith_nil, normList] using h
  | v :: r, L, st, hc, h => by
    simp only [cleanList] at hc
    simp only [serList, feedAllWith_append]
    have h1 := top_ser L st v hc.1 h
    have h2 := top_serList r (L ++ [norm v]) _ hc.2 h1
    simpa [normList, List.append_assoc] using h2

/-- at PSEOF the integers held back are handed out, and nothing else is left in the parser -/
theorem finish_top (L : List SObj) (st : PState) (h : Top L st) : finish st = { results := L } := by
  obtain ⟨ctx, ct, cs, rs, er⟩ := st
  obtain ⟨he, hc, ht, hl⟩ := h
  simp only at he hc ht hl
  subst he hc ht hl
  rfl

end PdfVerif.StackParser
