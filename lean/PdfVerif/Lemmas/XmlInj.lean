/- C11: the skeleton determines the layout tree.  With strip_control it is the skeleton of the tree after
`CONTROL.sub` on the strings `XMLConverter` strips (`stripItem`, `stripPage` in Spec/Xml.lean), so injectivity
is shown without stripping and transported. -/
import PdfVerif.Spec.Xml

namespace PdfVerif.Xml
open PdfVerif.Convert

theorem maybeStrip_false (s : Str) : maybeStrip false s = s := rfl

mutual
theorem itemNodes_strip (strip : Bool) (i : Item) : itemNodes strip i = itemNodes false (stripItem strip i) := by
  cases i with
  | image w h src => cases src <;> rfl
  | figure n b kids => simp only [itemNodes, stripItem, itemNodesL_strip strip kids]; rfl
  | textline b kids => simp only [itemNodes, stripItem, itemNodesL_strip strip kids]
  | textbox i b v kids => simp only [itemNodes, stripItem, itemNodesL_strip strip kids]
  | _ => rfl
theorem itemNodesL_strip (strip : Bool) (is : List Item) :
    itemNodesL strip is = itemNodesL false (stripItemL strip is) := by
  cases is with
  | nil => rfl
  | cons i is => simp only [itemNodesL, stripItemL, itemNodes_strip strip i, itemNodesL_strip strip is]
end

mutual
theorem stripItem_false (i : Item) : stripItem false i = i := by
  cases i with
  | image w h src => cases src <;> rfl
  | figure n b kids => simp only [stripItem, stripItemL_false kids]; rfl
  | textline b kids => simp only [stripItem, stripItemL_false kids]
  | textbox i b v kids => simp only [stripItem, stripItemL_false kids]
  | _ => rfl
theorem stripItemL_false (is : List Item) : stripItemL false is = is := by
  cases is with
  | nil => rfl
  | cons i is => simp only [stripItemL, stripItem_false i, stripItemL_false is]
end

theorem stripPage_false (p : Page) : stripPage false p = p := by
  simp [stripPage, stripItemL_false]

theorem docSkeleton_strip (strip : Bool) (ps : List Page) :
    docSkeleton strip ps = docSkeleton false (ps.map (stripPage strip)) := by
  simp only [docSkeleton, Node.elem.injEq, List.cons.injEq, true_and]
  induction ps with
  | nil => rfl
  | cons p ps ih =>
    simp only [List.flatMap_cons, List.map_cons, ih]
    simp [pageNodes, stripPage, itemNodesL_strip strip p.kids]

/-! ### injectivity

Every item, group and page is written as a block of two nodes, its element and a line break, so a list of
blocks splits in one way only; the element's name and attributes tell the constructor and its fields. -/

theorem textNodes_inj {a b : Str} (h : textNodes a = textNodes b) : a = b := by
  unfold textNodes at h
  split at h <;> split at h <;> simp_all

theorem elem_inj {n n' : Str} {a a' : List (Str × Str)} {k k' r r' : List Node}
    (h : Node.elem n a k :: r = Node.elem n' a' k' :: r') : n = n' ∧ a = a' ∧ k = k' := by
  cases h; exact ⟨rfl, rfl, rfl⟩

theorem nil_ne_block {β : Type} {x xs : List β} (hx : x.length = 2) : [] ≠ x ++ xs := by
  intro h
  have := congrArg List.length h
  simp only [List.length_nil, List.length_append, hx] at this
  omega

theorem itemNodes_length (strip : Bool) (i : Item) : (itemNodes strip i).length = 2 := by cases i <;> rfl

theorem groupNodes_length (g : Group) : (groupNodes g).length = 2 := by cases g <;> rfl

mutual
theorem itemNodes_inj (i j : Item) (h : itemNodes false i = itemNodes false j) : i = j := by
  -- different constructors write different element names, except that glyphs and annotations are both `text`
  cases i <;> cases j <;> try exact absurd (elem_inj h).1 (by decide)
  case char.char =>
    obtain ⟨-, ha, hk⟩ := elem_inj h
    simp only [maybeStrip_false] at ha hk; cases ha; rw [textNodes_inj hk]
  case char.anno => cases (elem_inj h).2.1
  case anno.char => cases (elem_inj h).2.1
  case anno.anno => rw [textNodes_inj (elem_inj h).2.2]
  case line.line => cases (elem_inj h).2.1; rfl
  case rect.rect => cases (elem_inj h).2.1; rfl
  case curve.curve => cases (elem_inj h).2.1; rfl
  case image.image w hh src w' hh' src' =>
    have ha := (elem_inj h).2.1
    cases src <;> cases src' <;> simp only [maybeStrip_false] at ha <;> cases ha <;> rfl
  case figure.figure =>
    obtain ⟨-, ha, hk⟩ := elem_inj h
    simp only [maybeStrip_false] at ha; cases ha; rw [itemNodesL_inj _ _ (List.cons.inj hk).2]
  case textline.textline =>
    obtain ⟨-, ha, hk⟩ := elem_inj h
    cases ha; rw [itemNodesL_inj _ _ (List.cons.inj hk).2]
  case textbox.textbox ix b v kids ix' b' v' kids' =>
    obtain ⟨-, ha, hk⟩ := elem_inj h
    cases v <;> cases v' <;> cases ha <;> rw [itemNodesL_inj _ _ (List.cons.inj hk).2]
theorem itemNodesL_inj (is js : List Item) (h : itemNodesL false is = itemNodesL false js) : is = js := by
  cases is with
  | nil =>
    cases js with
    | nil => rfl
    | cons j js => exact absurd h (nil_ne_block (itemNodes_length _ j))
  | cons i is =>
    cases js with
    | nil => exact absurd h.symm (nil_ne_block (itemNodes_length _ i))
    | cons j js =>
      obtain ⟨h1, h2⟩ := List.append_inj h ((itemNodes_length _ i).trans (itemNodes_length _ j).symm)
      rw [itemNodes_inj i j h1, itemNodesL_inj is js h2]
end

mutual
theorem groupNodes_inj (g g' : Group) (h : groupNodes g = groupNodes g') : g = g' := by
  cases g <;> cases g' <;> try exact absurd (elem_inj h).1 (by decide)
  case box.box => cases (elem_inj h).2.1; rfl
  case group.group =>
    obtain ⟨-, ha, hk⟩ := elem_inj h
    cases ha; rw [groupNodesL_inj _ _ (List.cons.inj hk).2]
theorem groupNodesL_inj (gs gs' : List Group) (h : groupNodesL gs = groupNodesL gs') : gs = gs' := by
  cases gs with
  | nil =>
    cases gs' with
    | nil => rfl
    | cons j js => exact absurd h (nil_ne_block (groupNodes_length j))
  | cons i is =>
    cases gs' with
    | nil => exact absurd h.symm (nil_ne_block (groupNodes_length i))
    | cons j js =>
      obtain ⟨h1, h2⟩ := List.append_inj h ((groupNodes_length i).trans (groupNodes_length j).symm)
      rw [groupNodes_inj i j h1, groupNodesL_inj is js h2]
end

theorem layoutNodes_inj (g g' : Option (List Group)) (h : layoutNodes g = layoutNodes g') : g = g' := by
  cases g <;> cases g'
  · rfl
  · cases h
  · cases h
  · rw [groupNodesL_inj _ _ (List.cons.inj (elem_inj h).2.2).2]

/-- no item is written as a `<layout>` element -/
theorem layoutNodes_ne_item (g : Option (List Group)) (j : Item) (r : List Node) :
    layoutNodes g ≠ itemNodes false j ++ r := by
  cases g with
  | none => exact nil_ne_block (itemNodes_length _ j)
  | some gs => cases j <;> exact fun h => absurd (elem_inj h).1 (by decide)

/-- the children of a `<page>`: items, then the optional `<layout>` - the split is determined -/
theorem pageKids_inj (is js : List Item) (g g' : Option (List Group))
    (h : itemNodesL false is ++ layoutNodes g = itemNodesL false js ++ layoutNodes g') : is = js ∧ g = g' := by
  induction is generalizing js with
  | nil =>
    cases js with
    | nil => exact ⟨rfl, layoutNodes_inj g g' h⟩
    | cons j js => exact absurd ((List.append_assoc ..).symm.trans h.symm).symm (layoutNodes_ne_item g j _)
  | cons i is ih =>
    cases js with
    | nil => exact absurd ((List.append_assoc ..).symm.trans h).symm (layoutNodes_ne_item g' i _)
    | cons j js =>
      simp only [itemNodesL, List.append_assoc] at h
      obtain ⟨h1, h2⟩ := List.append_inj h ((itemNodes_length _ i).trans (itemNodes_length _ j).symm)
      obtain ⟨h3, h4⟩ := ih js h2
      exact ⟨by rw [itemNodes_inj i j h1, h3], h4⟩

theorem pageNodes_inj (p q : Page) (h : pageNodes false p = pageNodes false q) : p = q := by
  obtain ⟨i, b, r, ks, gs⟩ := p
  obtain ⟨i', b', r', ks', gs'⟩ := q
  obtain ⟨-, ha, hk⟩ := elem_inj h
  cases ha
  obtain ⟨rfl, rfl⟩ := pageKids_inj _ _ _ _ (List.cons.inj hk).2
  rfl

/-- **The skeleton determines the tree**: two lists of pages with the same element tree are equal. -/
theorem docSkeleton_inj (ps qs : List Page) (h : docSkeleton false ps = docSkeleton false qs) : ps = qs := by
  replace h : ps.flatMap (pageNodes false) = qs.flatMap (pageNodes false) :=
    (List.cons.inj (Node.elem.inj h).2.2).2
  induction ps generalizing qs with
  | nil =>
    cases qs with
    | nil => rfl
    | cons q qs => exact absurd h (nil_ne_block rfl)
  | cons p ps ih =>
    cases qs with
    | nil => exact absurd h.symm (nil_ne_block rfl)
    | cons q qs =>
      obtain ⟨h1, h2⟩ := List.append_inj h rfl
      rw [pageNodes_inj p q h1, ih qs h2]

end PdfVerif.Xml
