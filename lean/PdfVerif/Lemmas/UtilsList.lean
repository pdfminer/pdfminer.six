/-
Lemmas for C20 about the helpers of utils.py regenerated into `Gen/Utils.lean`: bounding boxes
(`apply_matrix_rect`, `get_bound`), `uniq`, `fsplit`.
-/
import PdfVerif.Gen.Utils
import PdfVerif.Lemmas.RatMinMax

namespace PdfVerif.UtilsList
open PdfVerif PdfVerif.Gen.Utils PdfVerif.RatMinMax

/-- `r` is the bounding box of the points `l`: it contains them, and each of its four bounds is attained. -/
structure IsHull (l : List Point) (r : Rect) : Prop where
  contains : ∀ p ∈ l, r.1 ≤ p.1 ∧ p.1 ≤ r.2.2.1 ∧ r.2.1 ≤ p.2 ∧ p.2 ≤ r.2.2.2
  tight : (∃ p ∈ l, p.1 = r.1) ∧ (∃ p ∈ l, p.2 = r.2.1) ∧ (∃ p ∈ l, p.1 = r.2.2.1) ∧ (∃ p ∈ l, p.2 = r.2.2.2)

/-- A bound that is attained lies between the bounds of any other box of the same points. -/
theorem IsHull.unique {l : List Point} {r s : Rect} (hr : IsHull l r) (hs : IsHull l s) : r = s := by
  obtain ⟨cr, ⟨p₁, hp₁, e₁⟩, ⟨p₂, hp₂, e₂⟩, ⟨p₃, hp₃, e₃⟩, ⟨p₄, hp₄, e₄⟩⟩ := hr
  obtain ⟨cs, ⟨q₁, hq₁, f₁⟩, ⟨q₂, hq₂, f₂⟩, ⟨q₃, hq₃, f₃⟩, ⟨q₄, hq₄, f₄⟩⟩ := hs
  refine Prod.ext ?_ (Prod.ext ?_ (Prod.ext ?_ ?_))
  · exact Rat.le_antisymm (f₁ ▸ (cr q₁ hq₁).1) (e₁ ▸ (cs p₁ hp₁).1)
  · exact Rat.le_antisymm (f₂ ▸ (cr q₂ hq₂).2.2.1) (e₂ ▸ (cs p₂ hp₂).2.2.1)
  · exact Rat.le_antisymm (e₃ ▸ (cs p₃ hp₃).2.1) (f₃ ▸ (cr q₃ hq₃).2.1)
  · exact Rat.le_antisymm (e₄ ▸ (cs p₄ hp₄).2.2.2) (f₄ ▸ (cr q₄ hq₄).2.2.2)

theorem exists_mem_map {α β : Type} {f : α → β} {l : List α} {P : β → Prop} :
    (∃ p ∈ l.map f, P p) ↔ ∃ c ∈ l, P (f c) := by
  simp only [List.mem_map]
  exact ⟨fun ⟨_, ⟨c, hc, e⟩, h⟩ => ⟨c, hc, e ▸ h⟩, fun ⟨c, hc, h⟩ => ⟨_, ⟨c, hc, rfl⟩, h⟩⟩

theorem choice4_mem {α : Type} {op : Rat → Rat → Rat} (hop : ∀ x y, op x y = x ∨ op x y = y) (f : α → Rat)
    {l : List α} {a b c d : α} (ha : a ∈ l) (hb : b ∈ l) (hc : c ∈ l) (hd : d ∈ l) :
    ∃ p ∈ l, f p = op (f a) (op (f b) (op (f c) (f d))) := by
  have ind {x y : Rat} (hx : ∃ p ∈ l, f p = x) (hy : ∃ p ∈ l, f p = y) : ∃ p ∈ l, f p = op x y := by
    rcases hop x y with h | h <;> rwa [h]
  exact ind ⟨a, ha, rfl⟩ (ind ⟨b, hb, rfl⟩ (ind ⟨c, hc, rfl⟩ ⟨d, hd, rfl⟩))

theorem isHull_apply_matrix_rect (m : Matrix) (r : Rect) :
    IsHull ([(r.1, r.2.1), (r.2.2.1, r.2.1), (r.2.2.1, r.2.2.2), (r.1, r.2.2.2)].map (apply_matrix_pt m))
      (apply_matrix_rect m r) := by
  obtain ⟨x0, y0, x1, y1⟩ := r
  simp only [apply_matrix_rect, List.map]
  -- from here on the images of the corners (left/right, bottom/top) are four arbitrary points
  generalize apply_matrix_pt m (x0, y0) = lb
  generalize apply_matrix_pt m (x1, y0) = rb
  generalize apply_matrix_pt m (x1, y1) = rt
  generalize apply_matrix_pt m (x0, y1) = lt
  constructor
  · -- each coordinate of each point is one of the arguments of the `min` and of the `max` it is compared with
    simp only [List.mem_cons, List.not_mem_nil, or_false, forall_eq_or_imp, forall_eq, Std.min_le,
      Std.le_max, Rat.le_refl, true_or, or_true, and_self]
  · -- the x-bounds nest the points in the order lb, lt, rb, rt, the y-bounds in the order lb, rb, rt, lt
    have hlb : lb ∈ [lb, rb, rt, lt] := .head _
    have hrb : rb ∈ [lb, rb, rt, lt] := .tail _ (.head _)
    have hrt : rt ∈ [lb, rb, rt, lt] := .tail _ (.tail _ (.head _))
    have hlt : lt ∈ [lb, rb, rt, lt] := .tail _ (.tail _ (.tail _ (.head _)))
    exact ⟨choice4_mem (fun _ _ => Std.min_eq_or) (·.1) hlb hlt hrb hrt,
      choice4_mem (fun _ _ => Std.min_eq_or) (·.2) hlb hrb hrt hlt,
      choice4_mem (fun _ _ => Std.max_eq_or) (·.1) hlb hlt hrb hrt,
      choice4_mem (fun _ _ => Std.max_eq_or) (·.2) hlb hrb hrt hlt⟩

/-- A fold of `min` is `List.min?` of the start value and the folded-in values. -/
theorem foldl_min_spec {α : Type} (f : α → Rat) (l : List α) (a : Rat) :
    (l.foldl (fun a p => min a (f p)) a = a ∨ ∃ p ∈ l, f p = l.foldl (fun a p => min a (f p)) a) ∧
      ∀ p ∈ l, l.foldl (fun a p => min a (f p)) a ≤ f p := by
  have h := List.min?_eq_some_iff.mp (List.min?_cons' (x := a) (xs := l.map f))
  rw [List.foldl_map] at h
  exact ⟨(List.mem_cons.mp h.1).imp_right List.mem_map.mp,
    fun p hp => h.2 _ (List.mem_cons_of_mem _ (List.mem_map_of_mem hp))⟩

theorem foldl_max_spec {α : Type} (f : α → Rat) (l : List α) (a : Rat) :
    (l.foldl (fun a p => max a (f p)) a = a ∨ ∃ p ∈ l, f p = l.foldl (fun a p => max a (f p)) a) ∧
      ∀ p ∈ l, f p ≤ l.foldl (fun a p => max a (f p)) a := by
  have h := List.max?_eq_some_iff.mp (List.max?_cons' (x := a) (xs := l.map f))
  rw [List.foldl_map] at h
  exact ⟨(List.mem_cons.mp h.1).imp_right List.mem_map.mp,
    fun p hp => h.2 _ (List.mem_cons_of_mem _ (List.mem_map_of_mem hp))⟩

theorem foldl_get_bound_step : ∀ (pts : List Point) (acc : Rect),
    pts.foldl get_bound_step acc =
      (pts.foldl (fun a p => min a p.1) acc.1, pts.foldl (fun a p => min a p.2) acc.2.1,
       pts.foldl (fun a p => max a p.1) acc.2.2.1, pts.foldl (fun a p => max a p.2) acc.2.2.2)
  | [], acc => rfl
  | (x, y) :: pts, (a, b, c, d) => by
    simp only [List.foldl_cons]
    rw [foldl_get_bound_step pts]
    rfl

/-- First occurrences, written as a specification. -/
def firstOcc : List Int → List Int
  | [] => []
  | x :: rest => x :: (firstOcc rest).filter (fun y => y ≠ x)

theorem uniqGo_eq (l done : List Int) : uniqGo done l = (firstOcc l).filter (fun y => y ∉ done) := by
  fun_induction uniqGo done l with
  | case1 => rfl
  | case2 done x rest hx ih =>
    rw [ih, firstOcc, List.filter_cons, List.filter_filter, if_neg (by simpa using hx)]
    exact List.filter_congr fun y _ => by by_cases hy : y = x <;> simp [hy, hx]
  | case3 done x rest hx ih =>
    rw [ih, firstOcc, List.filter_cons, List.filter_filter, if_pos (by simpa using hx)]
    congr 1
    exact List.filter_congr fun y _ => by simp [Bool.and_comm]

theorem mem_firstOcc : ∀ {l : List Int} {x : Int}, x ∈ firstOcc l ↔ x ∈ l
  | [], x => by simp [firstOcc]
  | y :: rest, x => by
    simp only [firstOcc, List.mem_cons, List.mem_filter, mem_firstOcc (l := rest)]
    by_cases h : x = y <;> simp [h]

theorem nodup_firstOcc : ∀ (l : List Int), (firstOcc l).Nodup
  | [] => List.nodup_nil
  | y :: rest => by
    simp only [firstOcc, List.nodup_cons, List.mem_filter]
    exact ⟨by simp, (nodup_firstOcc rest).filter _⟩

theorem sublist_firstOcc : ∀ (l : List Int), (firstOcc l).Sublist l
  | [] => List.Sublist.slnil
  | y :: rest => by
    simp only [firstOcc]
    exact List.Sublist.cons_cons y ((List.filter_sublist).trans (sublist_firstOcc rest))

theorem firstOcc_of_nodup : ∀ {l : List Int}, l.Nodup → firstOcc l = l
  | [], _ => rfl
  | x :: rest, h => by
    obtain ⟨hx, hrest⟩ := List.nodup_cons.mp h
    rw [firstOcc, firstOcc_of_nodup hrest, List.filter_eq_self.mpr]
    intro y hy
    exact decide_eq_true (fun e => hx (e ▸ hy))

theorem fsplitGo_eq (pred : Int → Bool) (l t f : List Int) :
    fsplitGo pred t f l = (t ++ l.filter pred, f ++ l.filter (fun x => !pred x)) := by
  fun_induction fsplitGo pred t f l <;> simp [*]

end PdfVerif.UtilsList
