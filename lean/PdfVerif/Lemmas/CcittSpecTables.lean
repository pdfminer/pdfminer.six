/-
C19: the frozen specification tables of `Spec/T6.lean` by themselves (no statement here mentions pdfminer's
tables): they have the shape the Recommendations
T.4 / T.6 demand — one code for every terminating length 0..63 and every make-up length 64·i ≤ 2560,
prefix-free, complete in the sense of Kraft (exactly the code space under the prefix `00000000`,
reserved for EOL / fill, is left over), extended make-up codes 1792..2560 common to both colours — and
the run-length encoder splits a run into k × 2560 + at most one make-up + one terminating code.
-/
import PdfVerif.Lemmas.CcittTables

namespace PdfVerif.Ccitt
open PdfVerif.Spec

/-- `Σ 2^(n - len c)`: the code space used by a set of code words, in units of `2^-n`. -/
def kraft (n : Nat) (codes : List (List Bool)) : Nat := (codes.map fun c => 2 ^ (n - c.length)).sum

/-- The T.6 mode codes the specification's encoder can emit (EOFB excluded: it is two EOL codes). -/
def specModeCodes : List (List Bool) :=
  [T6.codeP, T6.codeH, T6.codeV 0, T6.codeV 1, T6.codeV (-1), T6.codeV 2, T6.codeV (-2), T6.codeV 3, T6.codeV (-3)]

theorem spec_white_prefixFree : prefixFree (T6.white.map (·.2)) = true := by
  have h := white_stores.codes_prefixFree
  rwa [whiteTbl, map_map_snd, white_eq] at h

theorem spec_black_prefixFree : prefixFree (T6.black.map (·.2)) = true := by
  have h := black_stores.codes_prefixFree
  rwa [blackTbl, map_map_snd, black_eq] at h

/-- Kraft sums: 8160/8192 = 1 - 2⁻⁸ for either colour, i.e. every bit string not starting with
eight zeros starts with exactly one code word … -/
theorem spec_white_kraft : kraft 13 (T6.white.map (·.2)) = 2 ^ 13 - 2 ^ 5 := by decide +kernel
theorem spec_black_kraft : kraft 13 (T6.black.map (·.2)) = 2 ^ 13 - 2 ^ 5 := by decide +kernel

/-- … and no code word starts with eight zeros (so EOL = 000000000001 can never be mistaken). -/
theorem spec_no_eol_prefix :
    (T6.white ++ T6.black).all (fun e => !isPrefix (List.replicate 8 false) e.2) = true := by decide +kernel

/-- Code lengths stay inside T.4's limits: white 4..9 bits (12 for extended make-up), black 2..13. -/
theorem spec_code_lengths :
    T6.white.all (fun e => decide (4 ≤ e.2.length ∧ e.2.length ≤ 12)) = true ∧
    T6.black.all (fun e => decide (2 ≤ e.2.length ∧ e.2.length ≤ 13)) = true := by decide +kernel

/-- The extended make-up codes 1792, 1856, …, 2560 are the same for both colours (T.4 table 3b). -/
theorem spec_extended_shared :
    (List.range 13).all (fun i => T6.runCode true (1792 + 64 * i) == T6.runCode false (1792 + 64 * i)
      && (T6.runCode true (1792 + 64 * i)).length ≥ 11) = true := by decide +kernel

/-- The ordinary make-up codes 64..1728 differ between the colours. -/
theorem spec_ordinary_differ :
    (List.range 27).all (fun i => T6.runCode true (64 + 64 * i) != T6.runCode false (64 + 64 * i)) = true := by
  decide +kernel

/-- Mode codes P, H, V0, VR1-3, VL1-3: prefix-free, pairwise distinct, code space 126/128 — what is
left is `0000001` (extensions) and `0000000` (EOL / EOFB), and EOFB indeed starts with seven zeros. -/
theorem spec_mode_codes :
    prefixFree specModeCodes = true ∧ kraft 7 specModeCodes = 2 ^ 7 - 2 ∧
    specModeCodes.all (fun c => !isPrefix (List.replicate 6 false) c) = true ∧
    isPrefix (List.replicate 7 false) T6.codeEOFB = true ∧ T6.codeEOFB.length = 24 := by decide +kernel

theorem codeV_nonempty_iff (d : Int) : T6.codeV d ≠ [] ↔ (-3 ≤ d ∧ d ≤ 3) := by
  constructor
  · intro h
    by_cases h1 : -3 ≤ d ∧ d ≤ 3
    · exact h1
    · refine absurd ?_ h
      -- `d` is none of the seven offsets `codeV` tests for
      rw [T6.codeV]
      iterate 7 rw [if_neg (by omega)]
  · intro ⟨h1, h2⟩
    have : d = 0 ∨ d = 1 ∨ d = -1 ∨ d = 2 ∨ d = -2 ∨ d = 3 ∨ d = -3 := by omega
    rcases this with h | h | h | h | h | h | h <;> subst h <;> decide

/-- Shape of the run-length code (T.4 §4.1.1 with the PDF/T.6 convention for runs above 2623):
k codes for 2560, then at most one make-up code m (a multiple of 64, ≤ 2560), then exactly one
terminating code t < 64, with `n = 2560·k + m + t`. -/
theorem encodeRun_shape (c : Bool) (n : Nat) :
    ∃ k m t, n = 2560 * k + m + t ∧ t < 64 ∧ m % 64 = 0 ∧ m ≤ 2560 ∧ (1 ≤ k → 64 ≤ m) ∧
      T6.encodeRun c n = (List.replicate k (T6.runCode c 2560)).flatten ++
        (if m = 0 then [] else T6.runCode c m) ++ T6.runCode c t := by
  by_cases h : 64 ≤ n - 2560 * ((n - 64) / 2560)
  · refine ⟨(n - 64) / 2560, 64 * ((n - 2560 * ((n - 64) / 2560)) / 64), (n - 2560 * ((n - 64) / 2560)) % 64,
      by omega, by omega, by omega, by omega, by omega, ?_⟩
    have hm : ¬ (64 * ((n - 2560 * ((n - 64) / 2560)) / 64) = 0) := by omega
    simp only [T6.encodeRun, T6.encodeRunTail, h, if_true, hm, if_false, List.append_assoc]
  · refine ⟨(n - 64) / 2560, 0, n - 2560 * ((n - 64) / 2560), by omega, by omega, by omega, by omega, by omega, ?_⟩
    simp only [T6.encodeRun, T6.encodeRunTail, h, if_false, if_true, List.append_nil]

end PdfVerif.Ccitt
