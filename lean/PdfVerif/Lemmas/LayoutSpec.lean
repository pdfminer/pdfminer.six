/-
The regenerated predicates of `layout.py` are the documented ones of Spec/Layout.lean (same line, word space,
neighbour lines); what `find_neighbors` returns through the grid index is the documented relation; the sort key
of a left-to-right group orders a column top to bottom and columns left to right.
-/
import PdfVerif.Lemmas.LayoutScale
import PdfVerif.Lemmas.LayoutResult
import PdfVerif.Props.C20
namespace PdfVerif.Layout
open PdfVerif PdfVerif.Gen.Layout

/-- A box that is not inverted; `WfPage` (Lemmas/LayoutResult.lean) is this condition on the page box. -/
def WfBB (b : BB) : Prop := b.x0 ≤ b.x1 ∧ b.y0 ≤ b.y1

theorem sep_le_zero (a0 a1 b0 b1 : Rat) : Spec.sep a0 a1 b0 b1 ≤ 0 ↔ (b0 ≤ a1 ∧ a0 ≤ b1) := by
  rw [Spec.sep, max_le_iff, sub_nonpos, sub_nonpos, and_comm]

/-- Two intervals are closer than `d` iff neither lies `d` or more beyond the other (the shape of the strict
overlap test of `Plane.find` on a widened rectangle). -/
theorem decide_sep_lt (a0 a1 b0 b1 d : Rat) :
    decide (Spec.sep a0 a1 b0 b1 < d) = !(decide (b1 ≤ a0 - d) || decide (a1 + d ≤ b0)) := by
  rw [Bool.eq_iff_iff]
  simp only [Spec.sep, max_lt_iff, decide_eq_true_eq, Bool.not_eq_true', Bool.or_eq_false_iff, decide_eq_false_iff_not,
    not_le, sub_lt_comm (b := b1), sub_lt_iff_lt_add']

theorem absDiff_eq (x y : Rat) : Spec.absDiff x y = rabs (x - y) := by
  rw [rabs_eq_abs, Spec.absDiff, abs_eq_max_neg, neg_sub]

theorem dist1_eq_gap (a0 a1 b0 b1 : Rat) (ha : a0 ≤ a1) (hb : b0 ≤ b1) :
    (if (decide (b0 ≤ a1) && decide (a0 ≤ b1)) = true then (0 : Rat) else min (rabs (a0 - b1)) (rabs (a1 - b0)))
      = Spec.gap a0 a1 b0 b1 := by
  simp only [Spec.gap, rabs_eq_abs, Bool.and_eq_true, decide_eq_true_eq, ← sep_le_zero]
  split
  · rename_i h
    exact (max_eq_left h).symm
  · rename_i h
    rw [sep_le_zero, not_and_or, not_le, not_le] at h
    -- the intervals are apart: both differences have the sign of the gap, and the gap is the smaller one
    rcases h with h | h
    · rw [Spec.sep, abs_of_nonpos (by linarith), abs_of_nonpos (by linarith), min_eq_right (by linarith),
        max_eq_right (by linarith : a0 - b1 ≤ b0 - a1), max_eq_right (by linarith)]
      ring
    · rw [Spec.sep, abs_of_nonneg (by linarith), abs_of_nonneg (by linarith), min_eq_left (by linarith),
        max_eq_left (by linarith : b0 - a1 ≤ a0 - b1), max_eq_right (by linarith)]

theorem hdistance_eq_gap (a b : BB) (ha : WfBB a) (hb : WfBB b) :
    hdistance a b = Spec.gap a.x0 a.x1 b.x0 b.x1 := by
  simp only [hdistance, is_hoverlap]
  exact dist1_eq_gap a.x0 a.x1 b.x0 b.x1 ha.1 hb.1

theorem vdistance_eq_gap (a b : BB) (ha : WfBB a) (hb : WfBB b) :
    vdistance a b = Spec.gap a.y0 a.y1 b.y0 b.y1 := by
  simp only [vdistance, is_voverlap]
  exact dist1_eq_gap a.y0 a.y1 b.y0 b.y1 ha.2 hb.2

theorem halign_eq_joinH (p : LAParams) (a b : BB) (ha : WfBB a) (hb : WfBB b) :
    halign p a b = Spec.joinH p.line_overlap p.char_margin a b := by
  have h1 : is_voverlap a b = decide (Spec.sep a.y0 a.y1 b.y0 b.y1 ≤ 0) := by
    simp only [is_voverlap, sep_le_zero, Bool.decide_and]
  simp only [halign, Spec.joinH, hdistance_eq_gap a b ha hb, voverlap, h1, Spec.overlapLen, gt_iff_lt, mul_comm]
  by_cases h : Spec.sep a.y0 a.y1 b.y0 b.y1 ≤ 0 <;>
    simp only [h, decide_true, decide_false, Bool.true_and, Bool.false_and, if_true]

theorem valign_eq_joinV (p : LAParams) (a b : BB) (ha : WfBB a) (hb : WfBB b) :
    valign p a b = (p.detect_vertical && Spec.joinV p.line_overlap p.char_margin a b) := by
  have h1 : is_hoverlap a b = decide (Spec.sep a.x0 a.x1 b.x0 b.x1 ≤ 0) := by
    simp only [is_hoverlap, sep_le_zero, Bool.decide_and]
  simp only [valign, Spec.joinV, vdistance_eq_gap a b ha hb, hoverlap, h1, Spec.overlapLen, gt_iff_lt, mul_comm,
    Bool.and_assoc]
  by_cases h : Spec.sep a.x0 a.x1 b.x0 b.x1 ≤ 0 <;>
    simp only [h, decide_true, decide_false, Bool.true_and, Bool.false_and, if_true]

theorem need_space_h_eq (wm last : Rat) (b : BB) : need_space_h wm last b = Spec.spaceH wm last b := by
  simp only [need_space_h, Spec.spaceH, gt_iff_lt, lt_sub_comm]

theorem need_space_v_eq (wm last : Rat) (b : BB) : need_space_v wm last b = Spec.spaceV wm last b := by
  simp only [need_space_v, Spec.spaceV, gt_iff_lt, lt_sub_iff_add_lt']

/- After `simp only [Plane.overlaps]` on a tuple the `Decidable` instances keep arguments that are not unfolded, and no
lemma about `decide` fires any more; rewriting with this equation does not have that effect. -/
theorem overlaps_mk (id : Nat) (x0 y0 x1 y1 q0 q1 q2 q3 : Rat) :
    Plane.overlaps ⟨id, x0, y0, x1, y1⟩ (q0, q1, q2, q3)
      = !(decide (x1 ≤ q0) || decide (q2 ≤ x0) || decide (y1 ≤ q1) || decide (q3 ≤ y0)) := rfl

theorem overlaps_query_h (r : Rat) (s o : BB) (id : Nat) :
    Plane.overlaps ⟨id, o.x0, o.y0, o.x1, o.y1⟩ (neighbor_query_h s r)
      = (decide (Spec.sep s.x0 s.x1 o.x0 o.x1 < 0) && decide (Spec.sep s.y0 s.y1 o.y0 o.y1 < r * s.height)) := by
  simp only [neighbor_query_h, overlaps_mk, decide_sep_lt, sub_zero, add_zero, Bool.not_or, Bool.and_assoc]

theorem overlaps_query_v (r : Rat) (s o : BB) (id : Nat) :
    Plane.overlaps ⟨id, o.x0, o.y0, o.x1, o.y1⟩ (neighbor_query_v s r)
      = (decide (Spec.sep s.y0 s.y1 o.y0 o.y1 < 0) && decide (Spec.sep s.x0 s.x1 o.x0 o.x1 < r * s.width)) := by
  rw [Bool.and_comm]
  simp only [neighbor_query_v, overlaps_mk, decide_sep_lt, sub_zero, add_zero, Bool.not_or, Bool.and_assoc]

/- Both sides are the same conjunction of the same tests, grouped differently. -/
theorem neighbor_h_eq (r : Rat) (s o : BB) (id : Nat) :
    (neighbor_filter_h s o true r && Plane.overlaps ⟨id, o.x0, o.y0, o.x1, o.y1⟩ (neighbor_query_h s r))
      = Spec.neighborH r s o := by
  rw [overlaps_query_h, Bool.and_comm]
  simp only [neighbor_filter_h, Spec.neighborH, is_same_height_as, is_left_aligned_with, is_right_aligned_with,
    is_hcentrally_aligned_with, absDiff_eq, Bool.true_and, Bool.and_assoc]

theorem neighbor_v_eq (r : Rat) (s o : BB) (id : Nat) :
    (neighbor_filter_v s o true r && Plane.overlaps ⟨id, o.x0, o.y0, o.x1, o.y1⟩ (neighbor_query_v s r))
      = Spec.neighborV r s o := by
  rw [overlaps_query_v, Bool.and_comm]
  simp only [neighbor_filter_v, Spec.neighborV, is_same_width_as, is_lower_aligned_with, is_upper_aligned_with,
    is_vcentrally_aligned_with, absDiff_eq, Bool.true_and, Bool.and_assoc]

theorem neighbor_filter_h_class (s o : BB) (c : Bool) (r : Rat) :
    neighbor_filter_h s o c r = (c && neighbor_filter_h s o true r) := by
  simp only [neighbor_filter_h, Bool.true_and, Bool.and_assoc]

theorem neighbor_filter_v_class (s o : BB) (c : Bool) (r : Rat) :
    neighbor_filter_v s o c r = (c && neighbor_filter_v s o true r) := by
  simp only [neighbor_filter_v, Bool.true_and, Bool.and_assoc]

/-- The two tests of `find_neighbors` on a candidate `m` (inside the query rectangle, passes the filter) say: same
class and documented relation. -/
theorem isNeighbor_overlaps_iff (ratio : Rat) (l m : Line) (j : Nat) :
    (Plane.overlaps (m.pobj j) (neighborQuery ratio l) = true ∧ isNeighbor ratio l m.vertical m.bb = true) ↔
      (m.vertical = l.vertical ∧
        (if l.vertical then Spec.neighborV ratio l.bb m.bb else Spec.neighborH ratio l.bb m.bb) = true) := by
  unfold neighborQuery isNeighbor
  cases l.vertical
  · rw [← neighbor_h_eq ratio l.bb m.bb j, neighbor_filter_h_class _ _ (!m.vertical)]
    simp only [Bool.false_eq_true, if_false, Line.pobj, Bool.and_eq_true, Bool.not_eq_true']
    exact and_rotate
  · rw [← neighbor_v_eq ratio l.bb m.bb j, neighbor_filter_v_class _ _ m.vertical]
    simp only [if_true, Line.pobj, Bool.and_eq_true]
    exact and_rotate

theorem neighbors_iff (ratio : Rat) (hr : 0 ≤ ratio) (pageBB : BB)
    (hp : pageBB.x0 ≤ pageBB.x1 ∧ pageBB.y0 ≤ pageBB.y1) (lines : List Line)
    (hne : ∀ l ∈ lines, l.isEmpty = false) (l : Line) (hl : l ∈ lines) (j : Nat) :
    j ∈ neighbors ratio (mkPlane pageBB (lines.zipIdx.map fun (x : Line × Nat) => x.1.pobj x.2)) lines l ↔
      ∃ m, lines[j]? = some m ∧ m.vertical = l.vertical ∧
        (if l.vertical then Spec.neighborV ratio l.bb m.bb else Spec.neighborH ratio l.bb m.bb) = true := by
  simp only [mem_neighbors ratio hr pageBB hp lines hne l hl j, isNeighbor_overlaps_iff]

theorem key_lrtb_column (bf : Rat) (hbf : -1 < bf) (a b : BB) (hx : a.x0 = b.x0)
    (habove : b.y0 + b.y1 < a.y0 + a.y1) : key_lrtb bf a < key_lrtb bf b := by
  simp only [key_lrtb, hx]
  exact sub_lt_sub_left (mul_lt_mul_of_pos_left habove (by linarith)) _

theorem key_lrtb_columns (bf : Rat) (hbf : bf < 1) (a b : BB) (hy : a.y0 + a.y1 = b.y0 + b.y1)
    (hleft : a.x0 < b.x0) : key_lrtb bf a < key_lrtb bf b := by
  simp only [key_lrtb, hy]
  exact sub_lt_sub_right (mul_lt_mul_of_pos_left hleft (by linarith)) _

end PdfVerif.Layout
