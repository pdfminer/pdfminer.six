/-
Token positions of the lexer model: every token carries the position at which `_parse_main` saw
its first byte; positions never decrease and stay inside the input.
-/
import PdfVerif.Lemmas.Lexer

namespace PdfVerif.Lexer
open PdfVerif PdfVerif.Gen.LexTables

def PosWithin (lo hi : Nat) (ts : List PTok) : Prop :=
  ts.Pairwise (fun a b => a.1 ≤ b.1) ∧ ∀ t ∈ ts, lo ≤ t.1 ∧ t.1 ≤ hi

theorem posWithin_nil (lo hi : Nat) : PosWithin lo hi [] := by simp [PosWithin]

theorem posWithin_append {a b c : Nat} {t1 t2 : List PTok} (h1 : PosWithin a b t1) (h2 : PosWithin b c t2)
    (hab : a ≤ b) (hbc : b ≤ c) : PosWithin a c (t1 ++ t2) := by
  refine ⟨List.pairwise_append.mpr ⟨h1.1, h2.1, ?_⟩, ?_⟩
  · intro x hx y hy
    have := (h1.2 x hx).2; have := (h2.2 y hy).1; omega
  · intro t ht
    rcases List.mem_append.mp ht with h | h
    · have := h1.2 t h; omega
    · have := h2.2 t h; omega

theorem posWithin_weaken {a b a' b' : Nat} {ts : List PTok} (h : PosWithin a b ts) (ha : a' ≤ a) (hb : b ≤ b') :
    PosWithin a' b' ts :=
  ⟨h.1, fun t ht => by have := h.2 t ht; omega⟩

theorem hit_toks_within (st : St) (c : UInt8) (j : Nat) :
    PosWithin (atHit st c j).st.tpos (atHit st c j).st.tpos (atHit st c j).toks := by
  rcases hit_toks st c j with e | ⟨t, e⟩ <;> rw [e] <;> simp [PosWithin]

theorem accum_tpos (st : St) (pre : Bytes) : (accum st pre).tpos = st.tpos := by
  unfold accum; split <;> rfl

theorem stepN_within : ∀ (n : Nat) (st : St) (c : UInt8) (pos : Nat), st.tpos ≤ pos →
    st.tpos ≤ (stepN n st c pos).1.tpos ∧ (stepN n st c pos).1.tpos ≤ pos ∧
    PosWithin st.tpos (stepN n st c pos).1.tpos (stepN n st c pos).2
  | 0, st, c, pos, h => by simp [stepN, posWithin_nil, h]
  | n + 1, st, c, pos, h => by
    have ht := hit_tpos st c pos
    have hlo : st.tpos ≤ (atHit st c pos).st.tpos := by rw [ht]; split <;> omega
    have hhi : (atHit st c pos).st.tpos ≤ pos := by rw [ht]; split <;> omega
    have hb := posWithin_weaken (hit_toks_within st c pos) hlo (Nat.le_refl _)
    have ih := stepN_within n (atHit st c pos).st c pos hhi
    rw [stepN_succ]
    split
    · split
      · exact ⟨hlo, hhi, hb⟩
      · exact ⟨Nat.le_trans hlo ih.1, ih.2.1, posWithin_append hb ih.2.2 hlo ih.1⟩
    · simp [accum_tpos, h, posWithin_nil]

theorem foldBytes_within : ∀ (bytes : Bytes) (st : St) (pos : Nat), st.tpos ≤ pos →
    st.tpos ≤ (foldBytes st bytes pos).1.tpos ∧
    (foldBytes st bytes pos).1.tpos ≤ max st.tpos (pos + bytes.length - 1) ∧
    PosWithin st.tpos (foldBytes st bytes pos).1.tpos (foldBytes st bytes pos).2
  | [], st, pos, h => by simp [foldBytes, posWithin_nil, Nat.le_max_left]
  | c :: t, st, pos, h => by
    have h1 := stepN_within 3 st c pos h
    have h2 := foldBytes_within t (stepByte st c pos).1 (pos + 1) (by unfold stepByte; omega)
    simp only [foldBytes]
    unfold stepByte at h2 ⊢
    refine ⟨by omega, ?_, posWithin_append h1.2.2 h2.2.2 h1.1 h2.1⟩
    have := h2.2.1
    simp only [List.length_cons]
    omega

/-- A byte that `_parse_main` does not stop at (white space other than NUL; the flushed newline) never
    starts a token: `_curtokenpos` stays, and the tokens it completes carry it. -/
theorem stepN_spc (c : UInt8) (hc : isNONSPC c = false) : ∀ (n : Nat) (st : St) (pos : Nat),
    (stepN n st c pos).1.tpos = st.tpos ∧ PosWithin st.tpos st.tpos (stepN n st c pos).2
  | 0, st, pos => ⟨rfl, posWithin_nil _ _⟩
  | n + 1, st, pos => by
    rw [stepN_succ]
    split
    · rename_i hs
      have ht : (atHit st c pos).st.tpos = st.tpos := by
        rw [hit_tpos, if_neg]; intro hm; simp [stopsAt, searchClass, hm, hc] at hs
      have hb := hit_toks_within st c pos
      have ih := stepN_spc c hc n (atHit st c pos).st pos
      rw [ht] at hb ih
      split
      · exact ⟨ht, hb⟩
      · exact ⟨ih.1, posWithin_append hb ih.2 (Nat.le_refl _) (Nat.le_refl _)⟩
    · exact ⟨accum_tpos st _, posWithin_nil _ _⟩

end PdfVerif.Lexer
