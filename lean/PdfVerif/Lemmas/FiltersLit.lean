/-
The model functions that use definitions regenerated from the Python (`Gen.Filters`), unfolded to
the literal constants the proofs are written against.  These equations are where an edit of the Python
source breaks the build.
-/
import PdfVerif.Spec.FilterEnc

namespace PdfVerif.Filters
open PdfVerif PdfVerif.FilterEnc PdfVerif.Gen.Filters

theorem toNat_ofNat_lt (k : Nat) (hk : k < 256) : (UInt8.ofNat k).toNat = k := by
  simp [UInt8.toNat_ofNat']; omega

theorem u8_toNat_eq_iff (l : UInt8) (k : Nat) (hk : k < 256) : (l == UInt8.ofNat k) = decide (l.toNat = k) := by
  rw [Bool.eq_iff_iff, beq_iff_eq, decide_eq_true_eq, ← UInt8.toNat_inj, toNat_ofNat_lt k hk]

theorem rldecodeAux_cons_lit (fuel : Nat) (l : UInt8) (rest : Bytes) :
    rldecodeAux (fuel + 1) (l :: rest) =
      (if l == 128 then .ok []
       else if l.toNat < 128 then
         (if rest.length < l.toNat + 1 then .error .runtimeError
          else match rldecodeAux fuel (rest.drop (l.toNat + 1)) with
            | .ok r => .ok (rest.take (l.toNat + 1) ++ r)
            | .error e => .error e)
       else match rest with
         | [] => .error .stopIteration
         | b :: rest' =>
           match rldecodeAux fuel rest' with
           | .ok r => .ok (List.replicate (257 - l.toNat) b ++ r)
           | .error e => .error e) := by
  have h' : (l == 128) = decide (l.toNat = 128) := u8_toNat_eq_iff l 128 (by omega)
  simp only [rldecodeAux, h', RL_EOD, rlIsLiteral, rlLiteralCount, rlRepeatCount, Nat.zero_le, decide_true, Bool.true_and,
    decide_eq_true_eq]
  rfl

theorem lzwInit_lit : lzwInit = { nbits := 9, init := false, ext := [], prev := none } := rfl

theorem tableLen_lit (st : LzwSt) : tableLen st = if st.init then 258 + st.ext.length else 0 := rfl

theorem tableGet_lit (st : LzwSt) (code : Nat) :
    tableGet st code =
      (if !st.init then none
       else if code < 256 then some [UInt8.ofNat code]
       else if code < 258 then none
       else st.ext[code - 258]?) := rfl

theorem feedGrow_lit (st : LzwSt) (entry x : Bytes) :
    feedGrow st entry x =
      .ok { st with ext := st.ext ++ [entry], nbits := nbitsAfter st.nbits (258 + (st.ext ++ [entry]).length),
                    prev := some x } x := rfl

theorem feed_lit (st : LzwSt) (code : Nat) :
    feed st code =
      (if code == 256 then .ok { nbits := 9, init := true, ext := [], prev := some [] } []
       else if code == 257 then .ok st []
       else
         match st.prev with
         | none | some [] =>
           match tableGet st code with
           | some x => .ok { st with prev := some x } x
           | none => .indexError
         | some p =>
           if code < tableLen st then
             match tableGet st code with
             | some x => feedGrow st (p ++ x.take 1) x
             | none => .indexError
           else if code == tableLen st then feedGrow st (p ++ p.take 1) (p ++ p.take 1)
           else .corrupt) := by
  unfold feed
  rfl

theorem lzwdecode_lit (data : Bytes) : lzwdecode data = lzwRunB (8 * data.length + 1) lzwInit data 0 8 := rfl

theorem apply_png_predictor_lit (colors columns bpc : Nat) (data : Bytes) :
    apply_png_predictor colors columns bpc data =
      (if bpc != 8 && bpc != 1 then .error .pdfValue
       else pngRows (pngNbytes colors columns bpc) (pngBpp colors bpc) data.length
              (List.replicate (pngNbytes colors columns bpc) 0) data) := by
  unfold apply_png_predictor
  by_cases h8 : bpc = 8 <;> by_cases h1 : bpc = 1 <;> simp [PNG_BPC, h8, h1]

theorem apply_tiff_predictor_lit (colors columns bpc : Nat) (data : Bytes) :
    apply_tiff_predictor colors columns bpc data =
      (if bpc != 8 then .error .pdfValue
       else if columns * colors == 0 then .error .valueError
       else tiffRows (columns * colors) colors data.length data) := by
  unfold apply_tiff_predictor
  by_cases h : bpc = 8
  · subst h; simp [TIFF_BPC, tiffNbytes, tiffBpp]
  · simp [TIFF_BPC, h]

theorem applyPredictor_lit (pr : Option Parms) (data : Bytes) :
    applyPredictor pr data =
      (match pr with
       | none => .ok data
       | some p =>
         match p.predictor with
         | none => .ok data
         | some pred =>
           if pred == 1 then .ok data
           else if pred == 2 then apply_tiff_predictor (p.colors.getD 1) (p.columns.getD 1) (p.bpc.getD 8) data
           else if pred ≥ 10 then apply_png_predictor (p.colors.getD 1) (p.columns.getD 1) (p.bpc.getD 8) data
           else .error .pdfNotImplemented) := by
  unfold applyPredictor
  cases pr with
  | none => rfl
  | some p =>
    cases hp : p.predictor with
    | none => simp only [hp]
    | some pred =>
      simp only [hp, predKind, PRED_TIFF_DEFAULTS, PRED_PNG_DEFAULTS]
      by_cases h1 : pred = 1
      · simp [h1]
      · by_cases h2 : pred = 2
        · simp [h2]
        · by_cases h3 : pred ≥ 10
          · simp [h1, h2, h3]
          · simp [h1, h2, h3]

theorem asciihexdecode_lit (data : Bytes) :
    asciihexdecode data =
      (let d := data.filter (fun b => !isWs b)
       let t := d.takeWhile (fun b => b != 62)
       if t.length < d.length then unhexlify (if t.length % 2 == 1 then t ++ [48] else t)
       else unhexlify d) := by
  have hf : (fun b : UInt8 => [b] != AHX_EOD) = (fun b => b != 62) := by
    funext b; by_cases hb : b = 62 <;> simp [AHX_EOD, bne, hb]
  simp only [asciihexdecode, hf, ahxNeedsPad, AHX_PAD]
  by_cases h : (List.takeWhile (fun b => b != 62) (List.filter (fun b => !isWs b) data)).length % 2 = 1 <;> simp [h]

theorem a85decode_lit (b : Bytes) :
    a85decode b =
      (match a85loop [] (b ++ [117, 117, 117, 117]) with
       | .error e => .error e
       | .ok (res, curr) =>
         .ok (if 4 - curr.length != 0 then res.take (res.length - (4 - curr.length)) else res)) := rfl

end PdfVerif.Filters
