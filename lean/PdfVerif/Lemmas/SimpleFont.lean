/-
C06: what the tables of a constructed font hold (encoding, Differences, ToUnicode, widths), in the specification's terms.
-/
import PdfVerif.Spec.SimpleFont

namespace PdfVerif.SimpleFont
open PdfVerif PdfVerif.SimpleFont.Spec PdfVerif.Gen.FontCode

theorem tlookup_nil (k : Int) : tlookup [] k = none := rfl

theorem tlookup_cons (a : Int × Text) (t : Table) (k : Int) :
    tlookup (a :: t) k = if a.1 == k then some a.2 else tlookup t k := by
  unfold tlookup
  simp only [List.find?_cons]
  cases h : (a.1 == k) <;> simp

theorem tlookup_tpop (t : Table) (c k : Int) :
    tlookup (tpop t c) k = if c == k then none else tlookup t k := by
  induction t with
  | nil => cases c == k <;> rfl
  | cons a t ih =>
    rw [tpop, List.filter_cons, ← tpop, tlookup_cons]
    by_cases hac : a.1 = c
    · rw [if_neg (by simp [hac]), ih, ← hac]
      cases a.1 == k <;> rfl
    · rw [if_pos (by simp [hac]), tlookup_cons, ih]
      by_cases hk : a.1 = k
      · rw [← hk]; simp [Ne.symm hac]
      · simp [hk]

/-! ### Differences arrays and built-in encodings: the last assignment wins -/

theorem lastAssigned_nil (code : Int) : lastAssigned [] code = none := rfl

theorem lastAssigned_cons (a : Int × Option Name) (as : List (Int × Option Name)) (code : Int) :
    lastAssigned (a :: as) code =
      match lastAssigned as code with
      | some x => some x
      | none => if a.1 == code then some a.2 else none := by
  unfold lastAssigned
  simp only [List.reverse_cons, List.find?_append, List.find?_cons, List.find?_nil]
  cases as.reverse.find? (fun a => a.1 == code) <;> cases (a.1 == code) <;> rfl

theorem tlookup_putsEncoding (gl : GlyphList) (puts : List (Int × Option Name)) (t : Table) (code : Int) :
      tlookup (putsEncoding gl t puts) code =
        match lastAssigned puts code with
        | some nm => name2unicode gl nm
        | none => tlookup t code := by
  fun_induction putsEncoding gl t puts with
  | case1 t => rfl
  | case2 t cid nm rest u hn ih =>
    rw [ih, lastAssigned_cons, tlookup_cons]
    cases lastAssigned rest code with
    | some x => rfl
    | none => cases cid == code <;> simp [hn]
  | case3 t cid nm rest hn ih =>
    rw [ih, lastAssigned_cons, tlookup_tpop]
    cases lastAssigned rest code with
    | some x => rfl
    | none => cases cid == code <;> simp [hn]

theorem tlookup_builtinEncoding (gl : GlyphList) (ff : FontFile) (code : Int) :
    tlookup (builtinEncoding gl ff) code =
      match builtinName ff code with
      | some nm => name2unicode gl nm
      | none => none := by
  rw [builtinEncoding, tlookup_putsEncoding, builtinName]
  cases lastAssigned ff.puts code <;> rfl

theorem applyDiff_eq_putsEncoding (gl : GlyphList) (toks : List DiffTok) (t : Table) (cid : Int) :
    applyDiff gl t cid toks = putsEncoding gl t (assignments cid toks) := by
  fun_induction applyDiff gl t cid toks with
  | case1 => rfl
  | case2 _ _ _ _ ih => exact ih
  | case3 _ _ _ ih => exact ih
  | case4 t cid nm rest u hn ih => rw [ih, assignments, putsEncoding, hn]
  | case5 t cid nm rest hn ih => rw [ih, assignments, putsEncoding, hn]

theorem tlookup_applyDiff (gl : GlyphList) (toks : List DiffTok) (t : Table) (cid code : Int) :
    tlookup (applyDiff gl t cid toks) code =
      match lastAssigned (assignments cid toks) code with
      | some nm => name2unicode gl nm
      | none => tlookup t code := by
  rw [applyDiff_eq_putsEncoding, tlookup_putsEncoding]

theorem tlookup_getEncoding (gl : GlyphList) (db : EncDB) (name : String) (diff : List DiffTok) (code : Int) :
    tlookup (getEncoding gl db name diff) code =
      match lastAssigned (assignments 0 diff) code with
      | some nm => name2unicode gl nm
      | none => tlookup (db.get name) code := by
  have h : getEncoding gl db name diff = applyDiff gl (db.get name) 0 diff := by
    unfold getEncoding
    cases diff <;> rfl
  rw [h, tlookup_applyDiff]

theorem assignments_names (names : List (Option Name)) (cur : Int) (rest : List DiffTok) :
    assignments cur (names.map DiffTok.name ++ rest) =
      numberFrom cur names ++ assignments (cur + names.length) rest := by
  fun_induction numberFrom cur names with
  | case1 c => simp
  | case2 c n ns ih =>
    have : c + 1 + (ns.length : Int) = c + ((ns.length + 1 : Nat) : Int) := by omega
    simp only [List.map_cons, List.cons_append, assignments, ih, List.length_cons, this]

theorem assignments_runs (runs : List (Int × List (Option Name))) : ∀ (cur : Int),
    assignments cur (diffOfRuns runs) = runs.flatMap (fun r => numberFrom r.1 r.2) := by
  induction runs with
  | nil => intro cur; rfl
  | cons r rs ih =>
    intro cur
    have e : diffOfRuns (r :: rs) = DiffTok.num r.1 :: (r.2.map DiffTok.name ++ diffOfRuns rs) := by
      simp [diffOfRuns]
    rw [e]
    simp only [assignments, assignments_names, List.flatMap_cons]
    rw [ih]

theorem numberFrom_getElem (names : List (Option Name)) (first : Int) (i : Nat) :
    (numberFrom first names)[i]? = (names[i]?).map (fun nm => (first + i, nm)) := by
  fun_induction numberFrom first names generalizing i with
  | case1 => rfl
  | case2 c n ns ih =>
    cases i with
    | zero => simp
    | succ j =>
      rw [List.getElem?_cons_succ, List.getElem?_cons_succ, ih]
      have : c + 1 + (j : Int) = c + ((j + 1 : Nat) : Int) := by omega
      rw [this]

/-- Every glyph name of the ENCODING rows has a value (table fact; validated on the regenerated data). -/
def RowsResolve (gl : GlyphList) (rows : List EncRow) : Prop :=
  ∀ r ∈ rows, (name2unicode gl (some r.1)).isSome = true

def rowHits (col : Nat) (code : Int) (r : EncRow) : Bool :=
  match rowCode col r with
  | some c => c != 0 && Int.ofNat c == code
  | none => false

theorem baseName_eq (rows : List EncRow) (col : Nat) (code : Int) :
    baseName rows col code = (match rows.reverse.find? (rowHits col code) with
      | some r => some r.1
      | none => none) := rfl

theorem baseName_nil (col : Nat) (code : Int) : baseName [] col code = none := rfl

theorem baseName_cons (r : EncRow) (rows : List EncRow) (col : Nat) (code : Int) :
    baseName (r :: rows) col code =
      match baseName rows col code with
      | some n => some n
      | none => if rowHits col code r then some r.1 else none := by
  simp only [baseName_eq, List.reverse_cons, List.find?_append, List.find?_cons, List.find?_nil]
  cases rows.reverse.find? (rowHits col code) <;> cases rowHits col code r <;> rfl

theorem baseName_mem {rows : List EncRow} {col : Nat} {code : Int} {n : Name}
    (h : baseName rows col code = some n) : ∃ r ∈ rows, r.1 = n := by
  unfold baseName at h
  split at h
  · rename_i r hf
    have hm := List.mem_of_find?_eq_some hf
    exact ⟨r, List.mem_reverse.mp hm, by simpa using h⟩
  · simp at h

/-- The class body of `EncodingDB` computes: value of the name of the last row listing the code. -/
theorem tlookup_buildTable (gl : GlyphList) (col : Nat) (rows : List EncRow) (hres : RowsResolve gl rows)
    (t : Table) (code : Int) :
      tlookup (buildTable gl col rows t) code =
        match baseName rows col code with
        | some n => name2unicode gl (some n)
        | none => tlookup t code := by
  fun_induction buildTable gl col rows t with
  | case1 t => rfl
  | case2 r rs t c u hname hrow hnz ih =>
    simp only [ih fun x hx => hres x (List.mem_cons_of_mem _ hx), baseName_cons, rowHits, hrow, hnz, Bool.true_and,
      tlookup_cons]
    cases baseName rs col code with
    | some n => rfl
    | none => cases Int.ofNat c == code <;> simp [hname]
  | case3 r rs t c u hname hrow hz ih =>
    simp only [ih fun x hx => hres x (List.mem_cons_of_mem _ hx), baseName_cons, rowHits, hrow, hz, Bool.false_and]
    cases baseName rs col code <;> rfl
  | case4 r rs t hno ih =>
    obtain ⟨u, hu⟩ := Option.isSome_iff_exists.mp (hres r List.mem_cons_self)
    have hrow : rowCode col r = none := by
      cases h : rowCode col r with
      | none => rfl
      | some c => exact (hno c u h hu).elim
    simp only [ih fun x hx => hres x (List.mem_cons_of_mem _ hx), baseName_cons, rowHits, hrow]
    cases baseName rs col code <;> rfl

/-- `encodings.get(name, std2unicode)` picks the table of the column the specification names. -/
theorem get_ofRows (gl : GlyphList) (rows : List EncRow) (cols : List (String × Nat)) (dflt : Nat) (name : String) :
    (EncDB.ofRows gl rows cols dflt).get name = buildTable gl (encColumn cols dflt name) rows [] := by
  unfold EncDB.get EncDB.ofRows encColumn
  simp only
  induction cols with
  | nil => simp
  | cons e es ih =>
    simp only [List.map_cons, List.find?_cons]
    cases h : (e.1 == name)
    · exact ih
    · rfl

theorem wlookup_append (a b : List (Int × Rat)) (k : Int) :
    wlookup (a ++ b) k = match wlookup a k with
      | some w => some w
      | none => wlookup b k := by
  unfold wlookup
  simp only [List.find?_append]
  cases h : a.find? (fun e => e.1 == k) <;> simp

/-- The dict built from `Widths` and `FirstChar` holds `Widths[code - FirstChar]`. -/
theorem wlookup_enumWidths (ws : List Rat) :
    ∀ (first k : Int), wlookup (enumWidths first ws) k =
      if first ≤ k then ws[(k - first).toNat]? else none := by
  induction ws with
  | nil => intro first k; simp [enumWidths, wlookup]
  | cons w ws ih =>
    intro first k
    have hone : wlookup [(first, w)] k = if first = k then some w else none := by
      by_cases h : first = k <;> simp [wlookup, h]
    rw [enumWidths, wlookup_append, ih, hone]
    by_cases h1 : first + 1 ≤ k
    · -- beyond the head: the index shifts by one
      rw [if_pos h1, if_neg (show ¬ first = k by omega), if_pos (show first ≤ k by omega),
        show (k - first).toNat = (k - (first + 1)).toNat + 1 by omega, List.getElem?_cons_succ]
      cases ws[(k - (first + 1)).toNat]? <;> rfl
    · rw [if_neg h1]
      by_cases h0 : first = k
      · subst h0; simp
      · rw [if_neg h0, if_neg (show ¬ first ≤ k by omega)]

/-! ### ToUnicode: the last definition, and the space / no-break-space rule -/

theorem tuText_nil (code : Int) : tuText [] code = none := rfl

theorem tuText_cons (d : Int × List UInt8) (defs : List (Int × List UInt8)) (code : Int) :
    tuText (d :: defs) code =
      match tuText defs code with
      | some t => some t
      | none => if d.1 == code then some (utf16beIgnore d.2) else none := by
  unfold tuText
  simp only [List.reverse_cons, List.find?_append, List.find?_cons, List.find?_nil]
  cases defs.reverse.find? (fun a => a.1 == code) <;> cases (d.1 == code) <;> rfl

/-- One definition of a code on top of the value in effect. -/
def nbStep (cur : Option Text) (v : Text) : Option Text :=
  if v == [0xA0] && cur == some [0x20] then cur else some v

theorem effective_cons (v : Text) (older : List Text) : effective (v :: older) = nbStep (effective older) v := by
  simp only [effective, nbStep]
  by_cases h : (v == [0xA0] && effective older == some [0x20]) = true
  · simp only [h, if_true]
    simp only [Bool.and_eq_true, beq_iff_eq] at h
    exact h.2.symm
  · simp [h]

theorem foldl_nbStep (vs : List Text) : ∀ (acc : List Text),
    vs.foldl nbStep (effective acc) = effective (vs.reverse ++ acc) := by
  induction vs with
  | nil => intro acc; rfl
  | cons v vs ih =>
    intro acc
    simp only [List.foldl_cons, ← effective_cons, ih (v :: acc), List.reverse_cons, List.append_assoc,
      List.singleton_append]

theorem tlookup_addCid (m : Table) (cid code : Int) (bs : List UInt8) :
    tlookup (addCid2Unichr m cid bs) code =
      if cid == code then nbStep (tlookup m code) (utf16beIgnore bs) else tlookup m code := by
  unfold addCid2Unichr nbStep
  simp only [COLLISION_NEW, COLLISION_OLD]
  by_cases hk : cid = code
  · subst hk
    by_cases h : (utf16beIgnore bs == [160] && tlookup m cid == some [32]) = true <;> simp [h, tlookup_cons]
  · by_cases h : (utf16beIgnore bs == [160] && tlookup m cid == some [32]) = true <;> simp [h, tlookup_cons, hk]

theorem tlookup_foldl_addCid_exact (defs : List (Int × List UInt8)) (code : Int) : ∀ (m : Table),
    tlookup (defs.foldl (fun m d => addCid2Unichr m d.1 d.2) m) code =
      ((defs.filter (fun d => d.1 == code)).map (fun d => utf16beIgnore d.2)).foldl nbStep (tlookup m code) := by
  induction defs with
  | nil => intro m; rfl
  | cons d rest ih =>
    intro m
    simp only [List.foldl_cons, ih, tlookup_addCid, List.filter_cons]
    cases hk : (d.1 == code) <;> simp

theorem tlookup_buildUmap_exact (es : List TuEntry) (code : Int) :
    tlookup (buildUmap es) code = tuTextExact (tuDefs es) code := by
  unfold buildUmap tuTextExact codeDefs
  rw [tlookup_foldl_addCid_exact]
  have := foldl_nbStep ((List.filter (fun d => d.1 == code) (tuDefs es)).map (fun d => utf16beIgnore d.2)) []
  simpa [tlookup_nil, effective] using this

theorem mem_codeDefs {defs : List (Int × List UInt8)} {code : Int} {t : Text} :
    t ∈ codeDefs defs code ↔ ∃ d ∈ defs, d.1 = code ∧ utf16beIgnore d.2 = t := by
  simp only [codeDefs, List.mem_reverse, List.mem_map, List.mem_filter, beq_iff_eq, and_assoc]

theorem effective_mem : ∀ {l : List Text} {t : Text}, effective l = some t → t ∈ l
  | [], _, h => by cases h
  | v :: older, t, h => by
    rw [effective_cons, nbStep] at h
    split at h
    · exact List.mem_cons_of_mem _ (effective_mem h)
    · cases h; exact List.mem_cons_self

theorem tuText_eq_head (defs : List (Int × List UInt8)) (code : Int) :
    tuText defs code = (codeDefs defs code).head? := by
  rw [codeDefs, ← List.map_reverse, ← List.filter_reverse, List.head?_map, List.head?_filter, tuText]
  cases defs.reverse.find? _ <;> rfl

theorem tuTextExact_noclash {defs : List (Int × List UInt8)} (code : Int) (h : nbspClash defs = false) :
    tuTextExact defs code = tuText defs code := by
  rw [tuText_eq_head, tuTextExact]
  cases hL : codeDefs defs code with
  | nil => rfl
  | cons v older =>
    rw [effective_cons, nbStep, if_neg, List.head?_cons]
    intro hc
    simp only [Bool.and_eq_true, beq_iff_eq] at hc
    obtain ⟨d, hd, hdc, hdv⟩ := mem_codeDefs.mp (hL ▸ List.mem_cons_self : v ∈ codeDefs defs code)
    obtain ⟨e, he, hec, hev⟩ := mem_codeDefs.mp (hL ▸ List.mem_cons_of_mem _ (effective_mem hc.2) : [0x20] ∈ codeDefs defs code)
    have : nbspClash defs = true :=
      List.any_eq_true.mpr ⟨d, hd, by
        simp only [hdv, hc.1, beq_self_eq_true, Bool.true_and]
        exact List.any_eq_true.mpr ⟨e, he, by simp [hec, hdc, hev]⟩⟩
    rw [h] at this; cases this

end PdfVerif.SimpleFont
