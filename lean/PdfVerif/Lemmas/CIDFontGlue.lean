/-
C07: `get_widths2` never raises (`getWidths2Aux_total`); `str.strip()` removes white-space padding on both
sides and nothing else (`pyStrip_pad`).
-/
import PdfVerif.Lemmas.CIDFont

namespace PdfVerif.CIDFontLemmas
open PdfVerif PdfVerif.CIDFont PdfVerif.CIDFontSpec

theorem widths2Step_ok (st : W2Map × List (Rat × Bool)) (e : WElem) : ∃ st', widths2Step st e = .ok st' := by
  fun_cases widths2Step st e <;> exact ⟨_, rfl⟩

theorem getWidths2Aux_total : ∀ (seq : List WElem) (st : W2Map × List (Rat × Bool)),
    ∃ m, getWidths2Aux seq st = .ok m
  | [], st => ⟨st.1, rfl⟩
  | e :: es, st => by
    obtain ⟨st', h⟩ := widths2Step_ok st e
    obtain ⟨m, hm⟩ := getWidths2Aux_total es st'
    exact ⟨m, by simp only [getWidths2Aux, h, hm]⟩

/-- Leading bytes that all satisfy `p` are dropped up to the first byte that does not. -/
theorem dropWhile_pad (p : UInt8 → Bool) (l : Bytes) (hl : ∀ x, l.head? = some x → p x = false) :
    ∀ (a : Bytes), (∀ c ∈ a, p c = true) → (a ++ l).dropWhile p = l
  | [], _ => by
    cases l with
    | nil => rfl
    | cons x t => simp [hl x rfl]
  | c :: a, h => by
    simp only [List.cons_append, List.dropWhile_cons, h c (List.mem_cons_self ..), if_true]
    exact dropWhile_pad p l hl a (fun x hx => h x (List.mem_cons_of_mem _ hx))

/-- Padding with white space on both sides is removed, nothing else. -/
theorem pyStrip_pad (a mid b : Bytes) (ha : ∀ c ∈ a, isPySpace c = true) (hb : ∀ c ∈ b, isPySpace c = true)
    (hh : ∀ x, mid.head? = some x → isPySpace x = false)
    (hl : ∀ x, mid.getLast? = some x → isPySpace x = false) :
    pyStrip (a ++ mid ++ b) = mid := by
  unfold pyStrip
  cases mid with
  | nil =>
    rw [List.append_nil, ← List.append_nil (a ++ b),
      dropWhile_pad _ [] nofun _ (by simpa [or_imp, forall_and] using ⟨ha, hb⟩)]
    rfl
  | cons x t =>
    -- from the left up to `x`, then (reversed) from the right up to the last byte of `x :: t`
    rw [List.append_assoc, dropWhile_pad _ _ (by simpa using hh x) a ha, List.reverse_append,
      dropWhile_pad _ _ (fun y hy => hl y (List.head?_reverse ▸ hy)) b.reverse (by simpa using hb), List.reverse_reverse]

end PdfVerif.CIDFontLemmas
