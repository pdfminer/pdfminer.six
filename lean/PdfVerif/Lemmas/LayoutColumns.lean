/-
What `GroupOK` gives for a whole hierarchy: all groups are of the left-to-right class when no leaf is vertical
(`groupOK_lrtb`), and the box of a node is the tight hull of its leaves' boxes (`groupOK_hull`).  Reading order with a
numeric `boxes_flow`: a hierarchy with two leaves is one group whose members are in key order; in a column whose groups
join vertically separated runs the depth-first order of the leaves is top to bottom.
-/
import PdfVerif.Lemmas.LayoutAnalyze
import PdfVerif.Lemmas.LayoutSpec

namespace PdfVerif.Layout
open PdfVerif PdfVerif.Gen.Layout

theorem leaves_ne_nil : ∀ n : Node, n.leaves ≠ []
  | .leaf _ => List.cons_ne_nil _ _
  | .grp _ _ l _ => fun h => leaves_ne_nil l (List.append_eq_nil_iff.mp h).1

theorem leaves_singleton {n : Node} {a : Box} (h : n.leaves = [a]) : n = .leaf a := by
  cases n with
  | leaf b => exact congrArg Node.leaf (List.singleton_inj.mp h)
  | grp t bb l r =>
    rcases List.append_eq_singleton_iff.mp h with ⟨h0, _⟩ | ⟨_, h0⟩
    exacts [absurd h0 (leaves_ne_nil l), absurd h0 (leaves_ne_nil r)]

/-- A well-formed hierarchy node with exactly two leaves is a group of these two boxes, in key order. -/
theorem root_of_two {bf : Rat} {g : Node} {a b : Box} (h : g.leaves = [a, b]) (hok : GroupOK bf g) :
    groupKey (a.vertical || b.vertical) bf a.bb ≤ groupKey (a.vertical || b.vertical) bf b.bb := by
  cases hok with
  | leaf x => cases h
  | grp t bb l r hl hr hu ht hk =>
    -- neither side is without leaves, so each has exactly one
    rcases List.append_eq_cons_iff.mp h with ⟨h0, _⟩ | ⟨l', hl', hc⟩
    · exact absurd h0 (leaves_ne_nil l)
    rcases List.append_eq_singleton_iff.mp hc.symm with ⟨rfl, hr'⟩ | ⟨_, h0⟩
    · obtain rfl := leaves_singleton hl'
      obtain rfl := leaves_singleton hr'
      exact ht ▸ hk
    · exact absurd h0 (leaves_ne_nil r)

/-- Every group node of the hierarchy, at any depth, is of the left-to-right class (`LTTextGroupLRTB`). -/
def Node.groupsLRTB : Node → Prop
  | .leaf _ => True
  | .grp t _ l r => t = false ∧ l.groupsLRTB ∧ r.groupsLRTB

theorem groupOK_lrtb {bf : Rat} {g : Node} (hok : GroupOK bf g) :
    (∀ b ∈ g.leaves, b.vertical = false) → g.isVert = false ∧ g.groupsLRTB := by
  induction hok with
  | leaf b => intro h; exact ⟨h b (by simp [Node.leaves]), trivial⟩
  | grp t bb l r _ _ _ ht _ ihl ihr =>
    intro h
    obtain ⟨hl, hr⟩ := List.forall_mem_append.mp h
    have : t = false := by rw [ht, (ihl hl).1, (ihr hr).1]; rfl
    exact ⟨this, this, (ihl hl).2, (ihr hr).2⟩

/-- Hull of hulls. -/
theorem isUnion_two {bb a b : BB} {A B : List BB} (h : IsUnion bb [a, b]) (ha : IsUnion a A) (hb : IsUnion b B) :
    IsUnion bb (A ++ B) := by
  have hca := h.contains a (by simp)
  have hcb := h.contains b (by simp)
  -- a side of `bb` is that side of `a` or of `b`, which a member of `A` resp. `B` attains
  have side : ∀ f : BB → Rat, (∃ m ∈ [a, b], f bb = f m) → (∃ c ∈ A, f a = f c) → (∃ c ∈ B, f b = f c) →
      ∃ c ∈ A ++ B, f bb = f c := by
    rintro f ⟨m, hm, e⟩ ⟨c, hc, e1⟩ ⟨d, hd, e2⟩
    simp only [List.mem_cons, List.not_mem_nil, or_false] at hm
    rcases hm with rfl | rfl
    · exact ⟨c, List.mem_append_left _ hc, e.trans e1⟩
    · exact ⟨d, List.mem_append_right _ hd, e.trans e2⟩
  refine ⟨?_, side (·.x0) h.left ha.left hb.left, side (·.y0) h.bottom ha.bottom hb.bottom,
    side (·.x1) h.right ha.right hb.right, side (·.y1) h.top ha.top hb.top⟩
  intro c hc
  rcases List.mem_append.mp hc with hc | hc
  · have := ha.contains c hc
    exact ⟨le_trans hca.1 this.1, le_trans hca.2.1 this.2.1, le_trans this.2.2.1 hca.2.2.1, le_trans this.2.2.2 hca.2.2.2⟩
  · have := hb.contains c hc
    exact ⟨le_trans hcb.1 this.1, le_trans hcb.2.1 this.2.1, le_trans this.2.2.1 hcb.2.2.1, le_trans this.2.2.2 hcb.2.2.2⟩

/-- The box of every node of a well-formed hierarchy is the tight hull of the boxes of its leaves. -/
theorem groupOK_hull {bf : Rat} {g : Node} (hok : GroupOK bf g) : IsUnion g.bb (g.leaves.map (·.bb)) := by
  induction hok with
  | leaf b => exact isUnion_singleton _
  | grp t bb l r _ _ hu _ _ ihl ihr =>
    simp only [Node.bb, Node.leaves, List.map_append]
    exact isUnion_two hu ihl ihr

/-- All leaves of `l` lie above all leaves of `r` (they may touch). -/
def Node.above (l r : Node) : Prop := ∀ a ∈ l.leaves, ∀ b ∈ r.leaves, b.bb.y1 ≤ a.bb.y0

/-- Every group of the hierarchy joins two vertically separated runs of boxes.  That `group_textboxes` builds such a
hierarchy for a column (it should only merge vertically adjacent runs) is not proved: the theorems assume it. -/
def Node.Separated : Node → Prop
  | .leaf _ => True
  | .grp _ _ l r => (l.above r ∨ r.above l) ∧ l.Separated ∧ r.Separated

theorem hull_column {bf c : Rat} {g : Node} (hok : GroupOK bf g)
    (hcol : ∀ a ∈ g.leaves, a.vertical = false ∧ a.bb.x0 = c ∧ a.bb.y0 < a.bb.y1) :
    g.bb.x0 = c ∧ g.bb.y0 < g.bb.y1 ∧ g.isVert = false := by
  have hu := groupOK_hull hok
  obtain ⟨_, hx', ex⟩ := hu.left
  obtain ⟨_, ha', et⟩ := hu.top
  obtain ⟨x, hx, rfl⟩ := List.mem_map.mp hx'
  obtain ⟨a, ha, rfl⟩ := List.mem_map.mp ha'
  exact ⟨ex.trans (hcol x hx).2.1,
    et ▸ lt_of_le_of_lt (hu.contains a.bb (List.mem_map_of_mem ha)).2.1 (hcol a ha).2.2,
    (groupOK_lrtb hok fun b hb => (hcol b hb).1).1⟩

/-- In a well-formed hierarchy over horizontal boxes with a common left edge and positive height whose groups
join separated runs, the leaves in depth-first order run from top to bottom (`boxes_flow > -1`). -/
theorem column_top_to_bottom {bf : Rat} (hbf : -1 < bf) (c : Rat) {g : Node} (hok : GroupOK bf g) :
    (∀ a ∈ g.leaves, a.vertical = false ∧ a.bb.x0 = c ∧ a.bb.y0 < a.bb.y1) → g.Separated →
    g.leaves.Pairwise (fun a b => b.bb.y1 ≤ a.bb.y0) := by
  induction hok with
  | leaf b => intro _ _; simp [Node.leaves]
  | grp t bb l r hl hr _ ht hk ihl ihr =>
    intro hcol hsep
    obtain ⟨hcl, hcr⟩ := List.forall_mem_append.mp hcol
    obtain ⟨hab, hsl, hsr⟩ := hsep
    refine List.pairwise_append.mpr ⟨ihl hcl hsl, ihr hcr hsr, ?_⟩
    rcases hab with hab | hab
    · exact hab
    · -- `r` above `l`: then the hull of `r` lies above that of `l`, with the same left edge, so its key is smaller
      exfalso
      obtain ⟨hxl, hyl, hvl⟩ := hull_column hl hcl
      obtain ⟨hxr, hyr, hvr⟩ := hull_column hr hcr
      obtain ⟨_, htl', etl⟩ := (groupOK_hull hl).top
      obtain ⟨_, hbr', ebr⟩ := (groupOK_hull hr).bottom
      obtain ⟨tl, htl, rfl⟩ := List.mem_map.mp htl'
      obtain ⟨br, hbr, rfl⟩ := List.mem_map.mp hbr'
      have h1 : l.bb.y1 ≤ r.bb.y0 := by rw [etl, ebr]; exact hab br hbr tl htl
      have htf : t = false := by rw [ht, hvl, hvr]; rfl
      subst htf
      simp only [groupKey, Bool.false_eq_true, if_false] at hk
      exact absurd hk (not_le.mpr (key_lrtb_column bf hbf r.bb l.bb (hxr.trans hxl.symm) (by linarith)))

/- `Node.aboveB`, `Node.separatedB` (executable forms, used by the driver op `colsep`) are in Model/Layout.lean. -/

theorem aboveB_iff (l r : Node) : l.aboveB r = true ↔ l.above r := by
  simp only [Node.aboveB, Node.above, List.all_eq_true, decide_eq_true_eq]

theorem separatedB_iff : ∀ n : Node, n.separatedB = true ↔ n.Separated
  | .leaf _ => by simp [Node.separatedB, Node.Separated]
  | .grp _ _ l r => by
    simp only [Node.separatedB, Node.Separated, Bool.and_eq_true, Bool.or_eq_true, aboveB_iff,
      separatedB_iff l, separatedB_iff r, and_assoc]

end PdfVerif.Layout
