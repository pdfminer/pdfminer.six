/-
C12 — the object cache with mutable containers (`Model/ProcObjCache.lean`): `Inv` (every cached reference
points at a heap cell that holds the fresh parse of its object) survives `getobj` and every caller action
that does not change a container in place, so `getobj` hands out fresh-parse values; with caching off the
cache is never written, whatever the callers do.
-/
import PdfVerif.Model.ProcObjCache
import PdfVerif.Lemmas.Process

namespace PdfVerif.ObjCache
open PdfVerif.Process (alookup alookup_mem forall_entry_nil forall_entry_cons)

variable {parse : Nat → Option (List Nat)} {s : St}

/-- every cached reference points at a cell that holds what a fresh parse of its object gives -/
def Inv (parse : Nat → Option (List Nat)) (s : St) : Prop :=
  ∀ k a, (k, a) ∈ s.cache → ∃ v, parse k = some v ∧ s.heap[a]? = some v

theorem inv_init (parse : Nat → Option (List Nat)) : Inv parse St.init :=
  forall_entry_nil

/-- new heap cells do not disturb the cells the cache points at -/
theorem inv_append (e : List (List Nat)) (h : Inv parse s) : Inv parse { s with heap := s.heap ++ e } := by
  intro k a hm
  obtain ⟨v, h1, h2⟩ := h k a hm
  obtain ⟨hlt, _⟩ := List.getElem?_eq_some_iff.mp h2
  exact ⟨v, h1, (List.getElem?_append_left hlt).trans h2⟩

/-- on a state whose cache is sound, `getobj` hands out a reference to a fresh-parse value and leaves the
cache sound -/
theorem getobj_spec (caching : Bool) (n : Nat) (h : Inv parse s) :
    (getobj parse caching s n).1.bind (fun a => (getobj parse caching s n).2.heap[a]?) = parse n ∧
    Inv parse (getobj parse caching s n).2 := by
  fun_cases getobj parse caching s n with
  | case1 a hc =>
    obtain ⟨v, h1, h2⟩ := h n a (alookup_mem hc)
    exact ⟨h2.trans h1.symm, h⟩
  | case2 _ hp => exact ⟨hp.symm, h⟩
  | case3 _ v hp =>
    refine ⟨List.getElem?_concat_length.trans hp.symm, ?_⟩
    cases caching
    · exact inv_append [v] h
    · exact forall_entry_cons (inv_append [v] h) ⟨v, hp, List.getElem?_concat_length⟩

theorem step_inv (caching : Bool) (op : Op) (hop : op.inPlace = false) (h : Inv parse s) :
    Inv parse (step parse caching s op).1 := by
  fun_cases step parse caching s op with
  | case1 n => exact (getobj_spec caching n h).2
  | case2 | case3 | case4 => cases hop
  | case5 n => exact (getobj_spec caching n h).2
  | case6 n => exact inv_append _ (getobj_spec caching n h).2

theorem run_inv (caching : Bool) (hist : List Op) (hp : ∀ op ∈ hist, op.inPlace = false) (h : Inv parse s) :
    Inv parse (run parse caching s hist) := by
  induction hist generalizing s with
  | nil => exact h
  | cons op ops ih =>
    exact ih (fun o ho => hp o (List.mem_cons_of_mem _ ho)) (step_inv caching op (hp op List.mem_cons_self) h)

/-! ### without caching the cache is never written -/

theorem getobj_nocache (parse : Nat → Option (List Nat)) (s : St) (n : Nat) :
    (getobj parse false s n).2.cache = s.cache := by
  fun_cases getobj parse false s n <;> rfl

theorem step_nocache (parse : Nat → Option (List Nat)) (s : St) (op : Op) :
    (step parse false s op).1.cache = s.cache := by
  fun_cases step parse false s op <;> exact getobj_nocache parse s _

theorem run_nocache (parse : Nat → Option (List Nat)) (hist : List Op) (s : St) :
    (run parse false s hist).cache = s.cache := by
  induction hist generalizing s with
  | nil => rfl
  | cons op ops ih => exact (ih _).trans (step_nocache parse s op)

theorem inv_of_cache_nil (h : s.cache = []) : Inv parse s := by
  unfold Inv
  rw [h]
  exact forall_entry_nil

end PdfVerif.ObjCache
