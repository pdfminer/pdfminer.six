/-
The loop of `group_textboxes`, for any heap comparison `le`.  One iteration is one of four cases (`Step`); the
bookkeeping invariant `GInv` and the potential `phi` (heap weight plus `k(k-1)` for `k` live nodes) give
termination within `gtbFuel`; `CInv` adds that no heap entry names a missing node (no `KeyError`), that every node
is a well-formed group and that the leaves of the live nodes are the input boxes (`groupTextboxes_spec`); `PairInv`
(any two live nodes still have a heap entry) gives a single root (`groupTextboxes_single_root`).
-/
import Mathlib.Data.List.Perm.Subperm
import Mathlib.Data.List.Nodup
import Mathlib.Tactic.Ring
import Mathlib.Tactic.Linarith
import PdfVerif.Model.Layout
import PdfVerif.Lemmas.Layout
import PdfVerif.Lemmas.Plane

namespace PdfVerif.Layout
open PdfVerif PdfVerif.Gen.Layout

variable {le : Cmp}

theorem popMin_none {h : List HEntry} : popMin le h = none ↔ h = [] := by
  fun_cases popMin le h <;> simp [*]

theorem popMin_perm (h : List HEntry) (e : HEntry) (r : List HEntry) (hp : popMin le h = some (e, r)) :
    h.Perm (e :: r) := by
  fun_induction popMin le h generalizing e r with
  | case1 => cases hp
  | case2 x rest hq => cases hp; rw [popMin_none.mp hq]
  | case3 x rest m rest' hq hle ih => cases hp; exact .refl _
  | case4 x rest m rest' hq hle ih => cases hp; exact ((ih m rest' hq).cons x).trans (.swap _ _ _)

theorem popMin_mem {h : List HEntry} {m : HEntry} {r : List HEntry} (hp : popMin le h = some (m, r)) : m ∈ h :=
  (popMin_perm h m r hp).mem_iff.mpr List.mem_cons_self

theorem popMin_rest {h : List HEntry} {m : HEntry} {r : List HEntry} (hp : popMin le h = some (m, r)) :
    ∀ x ∈ r, x ∈ h :=
  fun _ hx => (popMin_perm h m r hp).symm.subset (List.mem_cons_of_mem _ hx)

/-- weight of a heap entry: an entry can be popped twice (once re-pushed with `skip_isany`) -/
def wt (e : HEntry) : Nat := if e.skip then 1 else 2

def W : List HEntry → Nat
  | [] => 0
  | e :: r => wt e + W r

theorem wt_pos (e : HEntry) : 1 ≤ wt e := by unfold wt; split <;> omega

theorem W_append (a b : List HEntry) : W (a ++ b) = W a + W b := by
  fun_induction W a <;> simp [W, *, Nat.add_assoc]

theorem W_perm {a b : List HEntry} (h : a.Perm b) : W a = W b := by
  induction h with
  | nil => rfl
  | cons x _ ih => simp [W, ih]
  | swap x y l => simp [W]; omega
  | trans _ _ ih1 ih2 => exact ih1.trans ih2

theorem W_of_skip_false (h : List HEntry) (he : ∀ e ∈ h, e.skip = false) : W h = 2 * h.length := by
  fun_induction W h with
  | case1 => rfl
  | case2 e r ih =>
    rw [ih fun x hx => he x (List.mem_cons_of_mem _ hx), wt, he e List.mem_cons_self, if_neg Bool.false_ne_true, List.length_cons]
    omega

theorem popMin_W {h : List HEntry} {m : HEntry} {r : List HEntry} (hp : popMin le h = some (m, r)) :
    W h = wt m + W r := W_perm (popMin_perm h m r hp)

open PdfVerif.Plane (add_seq add_objs remove_seq remove_objs remove_ok mem_iter iter_add)

theorem iter_ids_nodup {p : Plane.Plane} (hs : (p.seq.map (·.id)).Nodup) : ((Plane.iter p).map (·.id)).Nodup :=
  List.Nodup.sublist (List.Sublist.map _ List.filter_sublist) hs

theorem iter_length_le (p : Plane.Plane) (hs : (p.seq.map (·.id)).Nodup) :
    (Plane.iter p).length ≤ p.objs.length := by
  have h2 : (Plane.iter p).map (·.id) ⊆ p.objs := by
    intro k hk
    obtain ⟨x, hx, rfl⟩ := List.mem_map.mp hk
    exact (mem_iter.mp hx).2
  simpa using (List.subperm_of_subset (iter_ids_nodup hs) h2).length_le

theorem iter_remove (p : Plane.Plane) (o : Plane.PObj) (hn : p.objs.Nodup) :
    Plane.iter (Plane.remove p o).1 = (Plane.iter p).filter (fun x => x.id != o.id) := by
  simp only [Plane.iter, remove_seq, remove_objs, List.filter_filter]
  exact List.filter_congr fun x _ => by simp [hn.mem_erase_iff, bne, beq_eq_decide]

def planeWithout (s : GState) (e : HEntry) (n1 n2 : Node) : Plane.Plane :=
  (Plane.remove (Plane.remove s.plane (nodePObj e.id1 n1)).1 (nodePObj e.id2 n2)).1

/-- `LTTextGroupLRTB(obj1, obj2)` / `LTTextGroupTBRL(obj1, obj2)`. -/
def mergedNode (n1 n2 : Node) : Node := .grp (n1.isVert || n2.isVert) (n1.bb.union n2.bb) n1 n2

def tieAfter (s : GState) (e : HEntry) (heap : List HEntry) : Bool :=
  s.tie || heap.any (fun e' => e'.skip == e.skip && e'.d == e.d && live s e')

def mergeState (s : GState) (e : HEntry) (heap : List HEntry) (n1 n2 : Node) : GState :=
  { heap := heap ++ (Plane.iter (planeWithout s e n1 n2)).map fun o =>
      (⟨false, dist (mergedNode n1 n2).bb (pobjBB o), s.nodes.length, o.id⟩ : HEntry),
    plane := Plane.add (planeWithout s e n1 n2) (nodePObj s.nodes.length (mergedNode n1 n2)),
    done := e.id2 :: e.id1 :: s.done,
    nodes := s.nodes ++ [mergedNode n1 n2],
    tie := tieAfter s e heap,
    err := s.err || !(Plane.remove s.plane (nodePObj e.id1 n1)).2
      || !(Plane.remove (Plane.remove s.plane (nodePObj e.id1 n1)).1 (nodePObj e.id2 n2)).2 }

/-- What one iteration does, by the case it takes: the popped entry names a node that is already merged
(`dead`), a node that does not exist (`dangling`; further down `CInv.not_dangling` excludes it), a pair with another object in
between that is tried for the first time (`requeue`), or a pair that is merged (`merge`). -/
inductive Step (le : Cmp) (s : GState) : GState → Prop
  | dead {e : HEntry} {heap : List HEntry} (hp : popMin le s.heap = some (e, heap)) (hl : live s e = false) :
      Step le s { s with heap := heap }
  | dangling {e : HEntry} {heap : List HEntry} (hp : popMin le s.heap = some (e, heap)) (hl : live s e = true)
      (hn : ∀ n1 n2, s.nodes[e.id1]? = some n1 → s.nodes[e.id2]? = some n2 → False) :
      Step le s { s with heap := heap, err := true }
  | requeue {e : HEntry} {heap : List HEntry} {n1 n2 : Node} (hp : popMin le s.heap = some (e, heap))
      (hl : live s e = true) (h1 : s.nodes[e.id1]? = some n1) (h2 : s.nodes[e.id2]? = some n2)
      (hb : (!e.skip && isany s.plane e.id1 e.id2 n1.bb n2.bb) = true) :
      Step le s { s with heap := heap ++ [{ e with skip := true }], tie := tieAfter s e heap }
  | merge {e : HEntry} {heap : List HEntry} {n1 n2 : Node} (hp : popMin le s.heap = some (e, heap))
      (hl : live s e = true) (h1 : s.nodes[e.id1]? = some n1) (h2 : s.nodes[e.id2]? = some n2)
      (hb : (!e.skip && isany s.plane e.id1 e.id2 n1.bb n2.bb) = false) :
      Step le s (mergeState s e heap n1 n2)

theorem gtbStep_eq_none {s : GState} : gtbStep le s = none ↔ s.heap = [] := by
  rw [← popMin_none (le := le)]
  fun_cases gtbStep le s <;> simp [*]

theorem Step.of_gtbStep {s s' : GState} (h : gtbStep le s = some s') : Step le s s' := by
  revert h
  fun_cases gtbStep le s with
  | case1 => rintro ⟨⟩
  | case2 e heap hp hl => rintro ⟨⟩; exact .dead hp (by simpa using hl)
  | case3 e heap hp hl n1 n2 h2 h1 _ hb => rintro ⟨⟩; exact .requeue hp (by simpa using hl) h1 h2 hb
  | case4 e heap hp hl n1 n2 h2 h1 _ hb => rintro ⟨⟩; exact .merge hp (by simpa using hl) h1 h2 (by simpa using hb)
  | case5 e heap hp hl hn => rintro ⟨⟩; exact .dangling hp (by simpa using hl) hn

theorem Step.gtbStep_eq {s s' : GState} (h : Step le s s') : gtbStep le s = some s' := by
  unfold gtbStep
  cases h with
  | dead hp hl => simp only [hp, hl, Bool.not_false, if_true]
  | dangling hp hl hn =>
    simp only [hp, hl, Bool.not_true, Bool.false_eq_true, if_false]
  | requeue hp hl h1 h2 hb =>
    simp only [hp, hl, h1, h2, hb, Bool.not_true, Bool.false_eq_true, if_false, if_true]; rfl
  | merge hp hl h1 h2 hb =>
    simp only [hp, hl, h1, h2, hb, Bool.not_true, Bool.false_eq_true, if_false]; rfl

theorem planeWithout_seq (s : GState) (e : HEntry) (n1 n2 : Node) : (planeWithout s e n1 n2).seq = s.plane.seq := by
  rw [planeWithout, remove_seq, remove_seq]

theorem planeWithout_objs (s : GState) (e : HEntry) (n1 n2 : Node) :
    (planeWithout s e n1 n2).objs = (s.plane.objs.erase e.id1).erase e.id2 := by
  rw [planeWithout, remove_objs, remove_objs]; rfl

theorem planeWithout_iter {s : GState} (hn : s.plane.objs.Nodup) (e : HEntry) (n1 n2 : Node) :
    Plane.iter (planeWithout s e n1 n2)
      = ((Plane.iter s.plane).filter (fun x => x.id != e.id1)).filter (fun x => x.id != e.id2) := by
  rw [planeWithout, iter_remove _ _ (by rw [remove_objs]; exact hn.erase _), iter_remove _ _ hn]; rfl

theorem mem_planeWithout_objs {s : GState} (hn : s.plane.objs.Nodup) {e : HEntry} {n1 n2 : Node} {k : Nat}
    (hk : k ∈ (planeWithout s e n1 n2).objs) : k ∈ s.plane.objs ∧ k ≠ e.id1 ∧ k ≠ e.id2 := by
  rw [planeWithout_objs] at hk
  have h1 := ((hn.erase e.id1).mem_erase_iff).mp hk
  have h2 := (hn.mem_erase_iff).mp h1.2
  exact ⟨h2.2, h2.1, h1.1⟩

structure GInv (s : GState) : Prop where
  doneNodup : s.done.Nodup
  doneLt : ∀ k ∈ s.done, k < s.nodes.length
  objsNodup : s.plane.objs.Nodup
  objsLt : ∀ k ∈ s.plane.objs, k < s.nodes.length
  objsLive : ∀ k ∈ s.plane.objs, k ∉ s.done
  seqNodup : (s.plane.seq.map (·.id)).Nodup
  seqLt : ∀ x ∈ s.plane.seq, x.id < s.nodes.length
  heapNe : ∀ e ∈ s.heap, e.id1 ≠ e.id2

def liveCount (s : GState) : Nat := s.nodes.length - s.done.length

/-- Every iteration pops an entry (weight ≥ 1); a re-queued entry weighs 1 less; a merge takes one live node
away and pushes at most one new entry (weight 2) per remaining live node. -/
def phi (s : GState) : Nat := W s.heap + liveCount s * (liveCount s - 1)

/-- With `k + 2` live nodes before a merge: `2m + (k+1)k < 1 + (k+2)(k+1)` for `m ≤ k` pushed entries. -/
theorem merge_potential {w m n d t : Nat} (hm : m + (d + 2) ≤ n) (ht : 1 ≤ t) :
    w + 2 * m + (n + 1 - (d + 1 + 1)) * (n + 1 - (d + 1 + 1) - 1) < t + w + (n - d) * (n - d - 1) := by
  obtain ⟨k, rfl⟩ : ∃ k, n = d + 2 + k := ⟨n - (d + 2), by omega⟩
  have e1 : d + 2 + k + 1 - (d + 1 + 1) = k + 1 := by omega
  have e2 : d + 2 + k - d = k + 2 := by omega
  have e3 : (k + 2) * (k + 1) = (k + 1) * k + 2 * (k + 1) := by rw [Nat.add_mul, Nat.mul_comm k]
  rw [e1, e2, Nat.add_sub_cancel, show k + 2 - 1 = k + 1 from rfl, e3]
  omega

theorem phi_lt_of_W_lt {s s' : GState} (hn : s'.nodes = s.nodes) (hd : s'.done = s.done)
    (hW : W s'.heap < W s.heap) : phi s' < phi s := by
  unfold phi liveCount
  rw [hn, hd]
  exact Nat.add_lt_add_right hW _

theorem popMin_W_lt {h : List HEntry} {m : HEntry} {r : List HEntry} (hp : popMin le h = some (m, r)) :
    W r < W h := by
  rw [popMin_W hp]; exact Nat.lt_add_of_pos_left (wt_pos m)

theorem GInv.of_heap {s : GState} (hi : GInv s) (heap : List HEntry) (tie err : Bool)
    (hh : ∀ e ∈ heap, e.id1 ≠ e.id2) : GInv { s with heap := heap, tie := tie, err := err } :=
  ⟨hi.doneNodup, hi.doneLt, hi.objsNodup, hi.objsLt, hi.objsLive, hi.seqNodup, hi.seqLt, hh⟩

theorem live_ids {s : GState} {e : HEntry} (hl : live s e = true) : e.id1 ∉ s.done ∧ e.id2 ∉ s.done := by
  simpa [live] using hl

/-- Live and merged nodes are distinct nodes. -/
theorem GInv.count {s : GState} (hi : GInv s) : s.plane.objs.length + s.done.length ≤ s.nodes.length := by
  have hb : (s.plane.objs ++ s.done).Nodup :=
    List.nodup_append.mpr ⟨hi.objsNodup, hi.doneNodup, fun a ha b hb h => hi.objsLive a ha (h ▸ hb)⟩
  have hsub : s.plane.objs ++ s.done ⊆ List.range s.nodes.length := fun k hk =>
    List.mem_range.mpr ((List.mem_append.mp hk).elim (hi.objsLt k) (hi.doneLt k))
  simpa using (List.subperm_of_subset hb hsub).length_le

theorem mergeState_objs {s : GState} (hi : GInv s) (e : HEntry) (heap : List HEntry) (n1 n2 : Node) :
    (mergeState s e heap n1 n2).plane.objs = (planeWithout s e n1 n2).objs ++ [s.nodes.length] := by
  show (Plane.add _ _).objs = _
  rw [add_objs]
  exact if_neg fun hk => Nat.lt_irrefl _ (hi.objsLt _ (mem_planeWithout_objs hi.objsNodup hk).1)

theorem GInv.merge {s : GState} (hi : GInv s) {e : HEntry} {heap : List HEntry} {n1 n2 : Node}
    (hp : popMin le s.heap = some (e, heap)) (hl : live s e = true)
    (h1 : s.nodes[e.id1]? = some n1) (h2 : s.nodes[e.id2]? = some n2) : GInv (mergeState s e heap n1 n2) := by
  have hl1 : e.id1 < s.nodes.length := (List.getElem?_eq_some_iff.mp h1).1
  have hl2 : e.id2 < s.nodes.length := (List.getElem?_eq_some_iff.mp h2).1
  obtain ⟨hd1, hd2⟩ := live_ids hl
  have hne : e.id1 ≠ e.id2 := hi.heapNe e (popMin_mem hp)
  have hmem := fun k hk => mem_planeWithout_objs hi.objsNodup (e := e) (n1 := n1) (n2 := n2) (k := k) hk
  have hlen : (mergeState s e heap n1 n2).nodes.length = s.nodes.length + 1 := by simp [mergeState]
  refine ⟨?_, ?_, ?_, ?_, ?_, ?_, ?_, ?_⟩
  · show (e.id2 :: e.id1 :: s.done).Nodup
    simp only [List.nodup_cons, List.mem_cons, not_or]
    exact ⟨⟨hne.symm, hd2⟩, hd1, hi.doneNodup⟩
  · show ∀ k ∈ e.id2 :: e.id1 :: s.done, _
    rw [hlen]
    simp only [List.forall_mem_cons]
    exact ⟨by omega, by omega, fun k hk => Nat.lt_succ_of_lt (hi.doneLt k hk)⟩
  · rw [mergeState_objs hi, List.nodup_append]
    refine ⟨planeWithout_objs s e n1 n2 ▸ (hi.objsNodup.erase _).erase _, by simp, ?_⟩
    intro a ha b hb
    exact List.mem_singleton.mp hb ▸ Nat.ne_of_lt (hi.objsLt a (hmem a ha).1)
  · rw [mergeState_objs hi, hlen]
    simp only [List.forall_mem_append, List.forall_mem_singleton]
    exact ⟨fun k hk => Nat.lt_succ_of_lt (hi.objsLt k (hmem k hk).1), Nat.lt_succ_self _⟩
  · -- an object still in the plane is neither merged now nor done before
    rw [mergeState_objs hi]
    show ∀ k ∈ _ ++ [_], k ∉ e.id2 :: e.id1 :: s.done
    simp only [List.forall_mem_append, List.forall_mem_singleton]
    simp only [List.mem_cons, not_or]
    exact ⟨fun k hk => ⟨(hmem k hk).2.2, (hmem k hk).2.1, hi.objsLive k (hmem k hk).1⟩,
      by omega, by omega, fun hc => Nat.lt_irrefl _ (hi.doneLt _ hc)⟩
  · show ((Plane.add _ _).seq.map (·.id)).Nodup
    rw [add_seq, planeWithout_seq, List.map_append, List.nodup_append]
    refine ⟨hi.seqNodup, by simp, ?_⟩
    intro a ha b hb
    obtain ⟨x, hx, rfl⟩ := List.mem_map.mp ha
    exact List.mem_singleton.mp hb ▸ Nat.ne_of_lt (hi.seqLt x hx)
  · show ∀ x ∈ (Plane.add _ _).seq, _
    rw [add_seq, planeWithout_seq, hlen]
    simp only [List.forall_mem_append, List.forall_mem_singleton]
    exact ⟨fun x hx => Nat.lt_succ_of_lt (hi.seqLt x hx), Nat.lt_succ_self _⟩
  · show ∀ x ∈ heap ++ List.map _ _, _
    simp only [List.forall_mem_append, List.forall_mem_map]
    refine ⟨fun x hx => hi.heapNe x (popMin_rest hp x hx), fun o ho => ?_⟩
    exact (Nat.ne_of_lt (hi.seqLt o (planeWithout_seq s e n1 n2 ▸ (mem_iter.mp ho).1))).symm

theorem Step.inv {s s' : GState} (hi : GInv s) (h : Step le s s') : GInv s' ∧ phi s' < phi s := by
  have hrest : ∀ {e : HEntry} {heap : List HEntry}, popMin le s.heap = some (e, heap) →
      ∀ x ∈ heap, x.id1 ≠ x.id2 := fun hp x hx => hi.heapNe x (popMin_rest hp x hx)
  cases h with
  | dead hp hl => exact ⟨hi.of_heap _ _ _ (hrest hp), phi_lt_of_W_lt rfl rfl (popMin_W_lt hp)⟩
  | dangling hp hl hn => exact ⟨hi.of_heap _ _ _ (hrest hp), phi_lt_of_W_lt rfl rfl (popMin_W_lt hp)⟩
  | @requeue e heap n1 n2 hp hl h1 h2 hb =>
    refine ⟨hi.of_heap _ _ _ ?_, phi_lt_of_W_lt rfl rfl ?_⟩
    · simp only [List.forall_mem_append, List.forall_mem_singleton]
      exact ⟨hrest hp, hi.heapNe e (popMin_mem hp)⟩
    ·
      have hs : e.skip = false := by simpa using (Bool.and_eq_true_iff.mp hb).1
      have hw : wt e = 2 := by rw [wt, hs]; rfl
      rw [popMin_W hp, W_append, hw, show W [{ e with skip := true }] = 1 from rfl]
      omega
  | @merge e heap n1 n2 hp hl h1 h2 hb =>
    have hi' := hi.merge hp hl h1 h2
    refine ⟨hi', ?_⟩
    have hm : (Plane.iter (planeWithout s e n1 n2)).length + (s.done.length + 2) ≤ s.nodes.length := by
      have hc := hi'.count
      rw [mergeState_objs hi] at hc
      simp only [mergeState, List.length_append, List.length_cons, List.length_nil] at hc
      have := iter_length_le (planeWithout s e n1 n2) (by rw [planeWithout_seq]; exact hi.seqNodup)
      omega
    have hW : W ((Plane.iter (planeWithout s e n1 n2)).map fun o =>
        (⟨false, dist (mergedNode n1 n2).bb (pobjBB o), s.nodes.length, o.id⟩ : HEntry))
        = 2 * (Plane.iter (planeWithout s e n1 n2)).length := by
      rw [W_of_skip_false _ (by intro x hx; obtain ⟨o, _, rfl⟩ := List.mem_map.mp hx; rfl), List.length_map]
    have hphi : phi (mergeState s e heap n1 n2)
        = W heap + 2 * (Plane.iter (planeWithout s e n1 n2)).length
          + (s.nodes.length + 1 - (s.done.length + 1 + 1)) * (s.nodes.length + 1 - (s.done.length + 1 + 1) - 1) := by
      simp only [phi, liveCount, mergeState, W_append, hW, List.length_append, List.length_cons, List.length_nil,
        Nat.zero_add]
    rw [hphi, phi, liveCount, popMin_W hp]
    exact merge_potential hm (wt_pos e)

theorem gtbLoop_terminates (fuel : Nat) (s : GState) (hi : GInv s) (h : phi s < fuel) :
    (gtbLoop le fuel s).2 = true := by
  fun_induction gtbLoop le fuel s with
  | case1 => omega
  | case2 => rfl
  | case3 fuel s s' hs ih =>
    have := (Step.of_gtbStep hs).inv hi
    exact ih this.1 (by omega)

theorem foldl_add_seq (objs : List Plane.PObj) : ∀ p : Plane.Plane, (objs.foldl Plane.add p).seq = p.seq ++ objs := by
  induction objs with
  | nil => intro p; simp
  | cons o r ih => intro p; simp [ih, add_seq]

theorem foldl_add_objs (objs : List Plane.PObj) : ∀ p : Plane.Plane, (p.objs ++ objs.map (·.id)).Nodup →
    (objs.foldl Plane.add p).objs = p.objs ++ objs.map (·.id) := by
  induction objs with
  | nil => intro p _; simp
  | cons o r ih =>
    intro p h
    have ho : o.id ∉ p.objs := fun hm => (List.nodup_append.mp h).2.2 _ hm _ List.mem_cons_self rfl
    have hadd : (Plane.add p o).objs = p.objs ++ [o.id] := by rw [add_objs, if_neg ho]
    rw [List.foldl_cons, ih _ (by rw [hadd]; simpa using h), hadd]
    simp

theorem length_flatMap_le {α β : Type} (l : List α) (f : α → List β) (n : Nat) (h : ∀ x ∈ l, (f x).length ≤ n) :
    (l.flatMap f).length ≤ l.length * n := by
  induction l with
  | nil => simp
  | cons x r ih =>
    simp only [List.flatMap_cons, List.length_append, List.length_cons]
    have h1 := h x (by simp)
    have h2 := ih (fun y hy => h y (by simp [hy]))
    rw [Nat.add_mul]; omega

theorem initPairs_length (bbs : List BB) : (initPairs bbs).length ≤ bbs.length * bbs.length := by
  unfold initPairs
  have := length_flatMap_le bbs.zipIdx
    (fun (x : BB × Nat) => ((bbs.zipIdx).filter (fun (y : BB × Nat) => x.2 < y.2)).map
      fun (y : BB × Nat) => (⟨false, dist x.1 y.1, x.2, y.2⟩ : HEntry)) bbs.length
    (by
      intro x _
      simp only [List.length_map]
      exact (List.length_filter_le _ _).trans (by simp))
  simpa using this

theorem mem_initPairs {bbs : List BB} {e : HEntry} :
    e ∈ initPairs bbs ↔ ∃ i j, ∃ (_ : i < j) (hj : j < bbs.length), e = ⟨false, dist bbs[i] bbs[j], i, j⟩ := by
  simp only [initPairs, List.mem_flatMap, List.mem_map, List.mem_filter, decide_eq_true_eq]
  constructor
  · rintro ⟨⟨b1, i⟩, hx, ⟨b2, j⟩, ⟨hy, hij⟩, rfl⟩
    obtain ⟨hi, rfl⟩ : ∃ h : i < bbs.length, bbs[i] = b1 :=
      List.getElem?_eq_some_iff.mp (List.mem_zipIdx_iff_getElem?.mp hx)
    obtain ⟨hj, rfl⟩ : ∃ h : j < bbs.length, bbs[j] = b2 :=
      List.getElem?_eq_some_iff.mp (List.mem_zipIdx_iff_getElem?.mp hy)
    exact ⟨i, j, hij, hj, rfl⟩
  · rintro ⟨i, j, hij, hj, rfl⟩
    exact ⟨(bbs[i], i), List.mem_zipIdx_iff_getElem?.mpr (List.getElem?_eq_getElem _),
      (bbs[j], j), ⟨List.mem_zipIdx_iff_getElem?.mpr (List.getElem?_eq_getElem _), hij⟩, rfl⟩

theorem mkPlane_seq (pageBB : BB) (objs : List Plane.PObj) : (mkPlane pageBB objs).seq = objs := by
  unfold mkPlane; rw [foldl_add_seq]; simp [Plane.init]

theorem mkPlane_objs (pageBB : BB) (objs : List Plane.PObj) (hnd : (objs.map (·.id)).Nodup) :
    (mkPlane pageBB objs).objs = objs.map (·.id) := by
  unfold mkPlane
  rw [foldl_add_objs _ _ (by simpa [Plane.init] using hnd)]
  simp [Plane.init]

theorem mkPlane_iter (pageBB : BB) (objs : List Plane.PObj) (hnd : (objs.map (·.id)).Nodup) :
    Plane.iter (mkPlane pageBB objs) = objs := by
  unfold Plane.iter
  rw [mkPlane_seq, mkPlane_objs _ _ hnd]
  exact List.filter_eq_self.mpr (fun x hx => decide_eq_true (List.mem_map_of_mem hx))

/-- Plane objects made from a list, each named by its position, have the ids `0, 1, …`. -/
theorem zipIdx_map_ids {α : Type} (f : α → Nat → Plane.PObj) (hf : ∀ a k, (f a k).id = k) (l : List α) :
    (l.zipIdx.map fun (x : α × Nat) => f x.1 x.2).map (·.id) = List.range' 0 l.length := by
  rw [List.map_map, ← List.zipIdx_map_snd 0 l]
  exact List.map_congr_left fun x _ => hf x.1 x.2

theorem zipIdx_ids (boxes : List Box) :
    (boxes.zipIdx.map fun (x : Box × Nat) => nodePObj x.2 (.leaf x.1)).map (·.id) = List.range' 0 boxes.length :=
  zipIdx_map_ids (fun b k => nodePObj k (.leaf b)) (fun _ _ => rfl) boxes

theorem zipIdx_ids_nodup (boxes : List Box) :
    ((boxes.zipIdx.map fun (x : Box × Nat) => nodePObj x.2 (.leaf x.1)).map (·.id)).Nodup := by
  rw [zipIdx_ids]; exact List.nodup_range'

theorem gtbInit_inv (pageBB : BB) (boxes : List Box) : GInv (gtbInit pageBB boxes) := by
  have hobjs : (gtbInit pageBB boxes).plane.objs = List.range' 0 boxes.length :=
    (mkPlane_objs pageBB _ (zipIdx_ids_nodup boxes)).trans (zipIdx_ids boxes)
  have hseq : (gtbInit pageBB boxes).plane.seq.map (·.id) = List.range' 0 boxes.length :=
    (congrArg _ (mkPlane_seq pageBB _)).trans (zipIdx_ids boxes)
  have hlt : ∀ k ∈ List.range' 0 boxes.length, k < (gtbInit pageBB boxes).nodes.length := by
    intro k hk
    simpa [gtbInit] using (List.mem_range'_1.mp hk).2
  refine ⟨List.nodup_nil, by simp [gtbInit], ?_, ?_, by simp [gtbInit], ?_, ?_, ?_⟩
  · rw [hobjs]; exact List.nodup_range'
  · rw [hobjs]; exact hlt
  · rw [hseq]; exact List.nodup_range'
  · intro x hx
    exact hlt x.id (hseq ▸ List.mem_map_of_mem hx)
  · intro e he
    obtain ⟨i, j, hij, _, rfl⟩ := mem_initPairs.mp he
    exact Nat.ne_of_lt hij

theorem gtbInit_phi (pageBB : BB) (boxes : List Box) : phi (gtbInit pageBB boxes) < gtbFuel boxes.length := by
  have h1 := initPairs_length (boxes.map (·.bb))
  have h2 := W_of_skip_false (initPairs (boxes.map (·.bb))) (fun e he => by obtain ⟨_, _, _, _, rfl⟩ := mem_initPairs.mp he; rfl)
  simp only [List.length_map] at h1
  simp only [phi, liveCount, gtbInit, gtbFuel, h2, List.length_map, List.length_nil, Nat.sub_zero]
  have : boxes.length * (boxes.length - 1) ≤ boxes.length * boxes.length := Nat.mul_le_mul_left _ (Nat.sub_le _ _)
  have e3 : 3 * boxes.length * boxes.length = 3 * (boxes.length * boxes.length) := Nat.mul_assoc ..
  omega

theorem groupTextboxes_fuel (pageBB : BB) (boxes : List Box) : (groupTextboxes le pageBB boxes).2.fuel = false := by
  simp only [groupTextboxes]
  rw [gtbLoop_terminates _ _ (gtbInit_inv pageBB boxes) (gtbInit_phi pageBB boxes)]
  rfl

theorem perm_extract {l : List Plane.PObj} (hn : (l.map (·.id)).Nodup) {x : Plane.PObj} (hx : x ∈ l) :
    l.Perm (x :: l.filter (fun y => y.id != x.id)) := by
  -- within `l` an object is determined by its id, so the filter erases `x`
  have hid : ∀ y ∈ l, (y.id != x.id) = (y != x) := fun y hy => by
    by_cases h : y = x
    · subst h; simp
    · have : y.id ≠ x.id := fun e => h (List.inj_on_of_nodup_map hn hy hx e)
      rw [bne_iff_ne.mpr this, bne_iff_ne.mpr h]
  rw [List.filter_congr hid, ← (List.Nodup.of_map _ hn).erase_eq_filter]
  exact List.perm_cons_erase hx

inductive NodeWF : Node → Prop
  | leaf (b : Box) : NodeWF (.leaf b)
  | grp (t : Bool) (bb : BB) (l r : Node) : NodeWF l → NodeWF r → bb = l.bb.union r.bb →
      t = (l.isVert || r.isVert) → NodeWF (.grp t bb l r)

def liveNodes (s : GState) : List Node := (Plane.iter s.plane).filterMap (fun o => s.nodes[o.id]?)

structure CInv (boxes : List Box) (s : GState) : Prop where
  inv : GInv s
  heapLt : ∀ e ∈ s.heap, e.id1 < s.nodes.length ∧ e.id2 < s.nodes.length
  liveIn : ∀ k, k < s.nodes.length → k ∉ s.done → ∃ x ∈ Plane.iter s.plane, x.id = k
  noErr : s.err = false
  wf : ∀ n ∈ s.nodes, NodeWF n
  leaves : ((liveNodes s).flatMap Node.leaves).Perm boxes

theorem filterMap_lookup_append {l : List Plane.PObj} {nodes : List Node} (g : Node)
    (h : ∀ x ∈ l, x.id < nodes.length) :
    l.filterMap (fun o => (nodes ++ [g])[o.id]?) = l.filterMap (fun o => nodes[o.id]?) := by
  apply List.filterMap_congr
  intro x hx
  exact List.getElem?_append_left (h x hx)

theorem CInv.not_dangling {boxes : List Box} {s : GState} (hc : CInv boxes s) {e : HEntry} {heap : List HEntry}
    (hp : popMin le s.heap = some (e, heap))
    (hn : ∀ n1 n2, s.nodes[e.id1]? = some n1 → s.nodes[e.id2]? = some n2 → False) : False :=
  have := hc.heapLt e (popMin_mem hp)
  hn _ _ (List.getElem?_eq_getElem this.1) (List.getElem?_eq_getElem this.2)

theorem mergeState_iter {s : GState} (hi : GInv s) (e : HEntry) (heap : List HEntry) (n1 n2 : Node) :
    Plane.iter (mergeState s e heap n1 n2).plane
      = ((Plane.iter s.plane).filter (fun x => x.id != e.id1)).filter (fun x => x.id != e.id2)
        ++ [nodePObj s.nodes.length (mergedNode n1 n2)] := by
  rw [← planeWithout_iter hi.objsNodup e n1 n2]
  refine iter_add _ _ (fun hk => ?_) (fun x hx => ?_)
  · exact Nat.lt_irrefl _ (hi.objsLt _ (mem_planeWithout_objs hi.objsNodup hk).1)
  · rw [planeWithout_seq] at hx
    exact Nat.ne_of_lt (hi.seqLt x hx)

theorem Step.cinv {boxes : List Box} {s s' : GState} (hc : CInv boxes s) (h : Step le s s') : CInv boxes s' := by
  have hinv' := (h.inv hc.inv).1
  have hi := hc.inv
  have hrest : ∀ {e : HEntry} {heap : List HEntry}, popMin le s.heap = some (e, heap) →
      ∀ x ∈ heap, x.id1 < s.nodes.length ∧ x.id2 < s.nodes.length := fun hp x hx => hc.heapLt x (popMin_rest hp x hx)
  cases h with
  | dead hp hl => exact ⟨hinv', hrest hp, hc.liveIn, hc.noErr, hc.wf, hc.leaves⟩
  | dangling hp hl hn => exact (hc.not_dangling hp hn).elim
  | @requeue e heap n1 n2 hp hl h1 h2 hb =>
    refine ⟨hinv', ?_, hc.liveIn, hc.noErr, hc.wf, hc.leaves⟩
    simp only [List.forall_mem_append, List.forall_mem_singleton]
    exact ⟨hrest hp, hc.heapLt e (popMin_mem hp)⟩
  | @merge e heap n1 n2 hp hl hn1 hn2 hb =>
    have hl1 : e.id1 < s.nodes.length := (List.getElem?_eq_some_iff.mp hn1).1
    have hl2 : e.id2 < s.nodes.length := (List.getElem?_eq_some_iff.mp hn2).1
    obtain ⟨hd1, hd2⟩ := live_ids hl
    have hne : e.id1 ≠ e.id2 := hi.heapNe e (popMin_mem hp)
    obtain ⟨o1, ho1, hid1⟩ := hc.liveIn e.id1 hl1 hd1
    obtain ⟨o2, ho2, hid2⟩ := hc.liveIn e.id2 hl2 hd2
    have hiter := mergeState_iter hi e heap n1 n2
    have hlen : (mergeState s e heap n1 n2).nodes.length = s.nodes.length + 1 := by simp [mergeState]
    refine ⟨hinv', ?_, ?_, ?_, ?_, ?_⟩
    · show ∀ x ∈ heap ++ List.map _ _, _
      rw [hlen]
      simp only [List.forall_mem_append, List.forall_mem_map]
      refine ⟨fun x hx => (hrest hp x hx).imp Nat.lt_succ_of_lt Nat.lt_succ_of_lt, fun o ho => ?_⟩
      exact ⟨Nat.lt_succ_self _, Nat.lt_succ_of_lt (hi.seqLt o (planeWithout_seq s e n1 n2 ▸ (mem_iter.mp ho).1))⟩
    · intro k hk hkd
      rw [hlen] at hk
      simp only [mergeState, List.mem_cons, not_or] at hkd
      rw [hiter]
      by_cases hkn : k = s.nodes.length
      · exact ⟨_, List.mem_append_right _ (List.mem_singleton_self _), hkn.symm⟩
      · obtain ⟨x, hx, rfl⟩ := hc.liveIn k (by omega) hkd.2.2
        refine ⟨x, List.mem_append_left _ ?_, rfl⟩
        simp only [List.mem_filter, bne_iff_ne, ne_eq]
        exact ⟨⟨hx, hkd.2.1⟩, hkd.1⟩
    · -- no KeyError: both nodes are in the plane
      have ho1id : e.id1 ∈ s.plane.objs := hid1 ▸ (mem_iter.mp ho1).2
      have ho2id : e.id2 ∈ s.plane.objs.erase e.id1 :=
        (hi.objsNodup.mem_erase_iff).mpr ⟨hne.symm, hid2 ▸ (mem_iter.mp ho2).2⟩
      have e1 : (Plane.remove s.plane (nodePObj e.id1 n1)).2 = true := remove_ok _ _ ho1id
      have e2 : (Plane.remove (Plane.remove s.plane (nodePObj e.id1 n1)).1 (nodePObj e.id2 n2)).2 = true :=
        remove_ok _ _ (by rw [remove_objs]; exact ho2id)
      show (s.err || !_ || !_) = false
      rw [hc.noErr, e1, e2]; rfl
    · show ∀ n ∈ s.nodes ++ [mergedNode n1 n2], NodeWF n
      simp only [List.forall_mem_append, List.forall_mem_singleton]
      exact ⟨hc.wf, .grp _ _ _ _ (hc.wf n1 (List.mem_of_getElem? hn1)) (hc.wf n2 (List.mem_of_getElem? hn2)) rfl rfl⟩
    · -- the leaves of the live nodes are still the input boxes: `n1`, `n2` are replaced by their group
      obtain ⟨rest, hrest⟩ : ∃ rest, rest =
          ((Plane.iter s.plane).filter (fun x => x.id != e.id1)).filter (fun x => x.id != e.id2) := ⟨_, rfl⟩
      rw [← hrest] at hiter
      have hsub : ∀ x ∈ rest, x ∈ Plane.iter s.plane := by
        subst hrest; exact fun x hx => (List.mem_filter.mp (List.mem_filter.mp hx).1).1
      have hstep : liveNodes (mergeState s e heap n1 n2)
          = rest.filterMap (fun o => s.nodes[o.id]?) ++ [mergedNode n1 n2] := by
        rw [liveNodes, hiter, List.filterMap_append]
        congr 1
        · exact filterMap_lookup_append _ fun x hx => hi.seqLt x (mem_iter.mp (hsub x hx)).1
        · exact List.filterMap_cons_some List.getElem?_concat_length
      have hnd := iter_ids_nodup hi.seqNodup
      have ho2' : o2 ∈ (Plane.iter s.plane).filter (fun y => y.id != o1.id) := by
        simp only [List.mem_filter, bne_iff_ne, ne_eq]
        exact ⟨ho2, by rw [hid1, hid2]; exact hne.symm⟩
      have pall : (Plane.iter s.plane).Perm (o1 :: o2 :: rest) := by
        rw [hrest, ← hid1, ← hid2]
        exact (perm_extract hnd ho1).trans
          ((perm_extract (List.Nodup.sublist (List.Sublist.map _ List.filter_sublist) hnd) ho2').cons _)
      have hl : (liveNodes s).Perm (n1 :: n2 :: rest.filterMap (fun o => s.nodes[o.id]?)) := by
        have := List.Perm.filterMap (fun o => s.nodes[o.id]?) pall
        rwa [List.filterMap_cons_some (f := fun o => s.nodes[o.id]?) (a := o1) (b := n1) (hid1 ▸ hn1),
          List.filterMap_cons_some (f := fun o => s.nodes[o.id]?) (a := o2) (b := n2) (hid2 ▸ hn2)] at this
      rw [hstep]
      refine List.Perm.trans ?_ ((List.Perm.flatMap_right Node.leaves hl).symm.trans hc.leaves)
      rw [List.flatMap_append, List.flatMap_cons, List.flatMap_cons, List.flatMap_cons, List.flatMap_nil,
        List.append_nil, ← List.append_assoc]
      exact List.perm_append_comm

theorem gtbLoop_cinv {boxes : List Box} (fuel : Nat) (s : GState) (h : CInv boxes s) :
    CInv boxes (gtbLoop le fuel s).1 := by
  fun_induction gtbLoop le fuel s with
  | case1 => exact h
  | case2 => exact h
  | case3 fuel s s' hs ih => exact ih ((Step.of_gtbStep hs).cinv h)

theorem zipIdx_lookup {α β : Type} (l : List α) (g : α → β) (f : α → Nat → Plane.PObj)
    (hf : ∀ x i, (f x i).id = i) :
    (l.zipIdx.map fun (x : α × Nat) => f x.1 x.2).filterMap (fun o => (l.map g)[o.id]?) = l.map g := by
  rw [List.filterMap_map, List.filterMap_congr (g := some ∘ g ∘ Prod.fst), List.filterMap_eq_map, ← List.map_map,
    List.zipIdx_map_fst]
  intro p hp
  simp [hf, List.mem_zipIdx_iff_getElem?.mp hp]

theorem gtbInit_cinv (pageBB : BB) (boxes : List Box) : CInv boxes (gtbInit pageBB boxes) := by
  have hiter : Plane.iter (gtbInit pageBB boxes).plane = boxes.zipIdx.map fun (x : Box × Nat) => nodePObj x.2 (.leaf x.1) :=
    mkPlane_iter pageBB _ (zipIdx_ids_nodup boxes)
  refine ⟨gtbInit_inv pageBB boxes, ?_, ?_, rfl, ?_, ?_⟩
  · intro e he
    obtain ⟨i, j, hij, hj, rfl⟩ := mem_initPairs.mp he
    have hj' : j < (gtbInit pageBB boxes).nodes.length := by simpa [gtbInit] using hj
    exact ⟨hij.trans hj', hj'⟩
  · intro k hk _
    have hk' : k < boxes.length := by simpa [gtbInit] using hk
    rw [hiter]
    exact ⟨_, List.mem_map.mpr ⟨(boxes[k], k), List.mem_zipIdx_iff_getElem?.mpr (List.getElem?_eq_getElem hk'), rfl⟩, rfl⟩
  · intro n hn
    obtain ⟨b, _, rfl⟩ := List.mem_map.mp hn
    exact NodeWF.leaf b
  · have : liveNodes (gtbInit pageBB boxes) = boxes.map Node.leaf :=
      (congrArg _ hiter).trans (zipIdx_lookup boxes Node.leaf (fun b i => nodePObj i (.leaf b)) (fun _ _ => rfl))
    rw [this, List.flatMap_map]
    simp [Node.leaves]

/-- `group_textboxes`: the loop ends within the fuel, no `KeyError`, every input box is a leaf of
exactly one returned node, every group's box is the union of its two members' boxes and its
class is TBRL iff a member is vertical. -/
theorem groupTextboxes_spec (pageBB : BB) (boxes : List Box) :
    ((groupTextboxes le pageBB boxes).1.flatMap Node.leaves).Perm boxes
    ∧ (∀ n ∈ (groupTextboxes le pageBB boxes).1, NodeWF n)
    ∧ (groupTextboxes le pageBB boxes).2.err = false
    ∧ (groupTextboxes le pageBB boxes).2.fuel = false := by
  have hc := gtbLoop_cinv (le := le) (gtbFuel boxes.length) _ (gtbInit_cinv pageBB boxes)
  refine ⟨hc.leaves, ?_, hc.noErr, groupTextboxes_fuel pageBB boxes⟩
  intro n hn
  simp only [groupTextboxes, List.mem_filterMap] at hn
  obtain ⟨o, _, ho⟩ := hn
  exact hc.wf n (List.mem_of_getElem? ho)

def PairInv (s : GState) : Prop :=
  ∀ i j, i < s.nodes.length → j < s.nodes.length → i ∉ s.done → j ∉ s.done → i ≠ j →
    ∃ e ∈ s.heap, (e.id1 = i ∧ e.id2 = j) ∨ (e.id1 = j ∧ e.id2 = i)

theorem Step.pair {boxes : List Box} {s s' : GState} (hc : CInv boxes s) (hpair : PairInv s)
    (h : Step le s s') : PairInv s' := by
  have hi := hc.inv
  have hsplit : ∀ {e : HEntry} {heap : List HEntry}, popMin le s.heap = some (e, heap) →
      ∀ x ∈ s.heap, x = e ∨ x ∈ heap := by
    intro e heap hp x hx
    simpa using (popMin_perm _ _ _ hp).subset hx
  cases h with
  | @dead e heap hp hl =>
    intro i j hi' hj' hdi hdj hij
    obtain ⟨x, hx, hxij⟩ := hpair i j hi' hj' hdi hdj hij
    rcases hsplit hp x hx with rfl | hx'
    ·
      rcases hxij with ⟨rfl, rfl⟩ | ⟨rfl, rfl⟩ <;> simp [live, hdi, hdj] at hl
    · exact ⟨x, hx', hxij⟩
  | dangling hp hl hn => exact (hc.not_dangling hp hn).elim
  | @requeue e heap n1 n2 hp hl h1 h2 hb =>
    intro i j hi' hj' hdi hdj hij
    obtain ⟨x, hx, hxij⟩ := hpair i j hi' hj' hdi hdj hij
    rcases hsplit hp x hx with rfl | hx'
    · exact ⟨{ x with skip := true }, by simp, hxij⟩
    · exact ⟨x, List.mem_append_left _ hx', hxij⟩
  | @merge e heap n1 n2 hp hl hn1 hn2 hb =>
    -- an old live pair keeps its entry; a pair with the new group gets a fresh one
    have hnew : ∀ j, j < s.nodes.length → j ∉ s.done → j ≠ e.id1 → j ≠ e.id2 →
        ∃ x ∈ (mergeState s e heap n1 n2).heap, x.id1 = s.nodes.length ∧ x.id2 = j := by
      intro j hj hdj h1 h2
      obtain ⟨o, ho, hoid⟩ := hc.liveIn j hj hdj
      refine ⟨_, List.mem_append_right _ (List.mem_map_of_mem (a := o) ?_), rfl, hoid⟩
      rw [planeWithout_iter hi.objsNodup]
      simp only [List.mem_filter, bne_iff_ne, ne_eq]
      exact ⟨⟨ho, by rw [hoid]; exact h1⟩, by rw [hoid]; exact h2⟩
    intro i j hi' hj' hdi hdj hij
    simp only [mergeState, List.length_append, List.length_singleton] at hi' hj'
    simp only [mergeState, List.mem_cons, not_or] at hdi hdj
    by_cases hiN : i = s.nodes.length
    · obtain ⟨x, hx, hx1, hx2⟩ := hnew j (by omega) hdj.2.2 hdj.2.1 hdj.1
      exact ⟨x, hx, Or.inl ⟨by rw [hx1, hiN], hx2⟩⟩
    · by_cases hjN : j = s.nodes.length
      · obtain ⟨x, hx, hx1, hx2⟩ := hnew i (by omega) hdi.2.2 hdi.2.1 hdi.1
        exact ⟨x, hx, Or.inr ⟨by rw [hx1, hjN], hx2⟩⟩
      · obtain ⟨x, hx, hxij⟩ := hpair i j (by omega) (by omega) hdi.2.2 hdj.2.2 hij
        rcases hsplit hp x hx with rfl | hx'
        · exfalso
          rcases hxij with ⟨h1, _⟩ | ⟨h1, _⟩
          · exact hdi.2.1 h1.symm
          · exact hdj.2.1 h1.symm
        · exact ⟨x, List.mem_append_left _ hx', hxij⟩

theorem gtbLoop_pair {boxes : List Box} (fuel : Nat) (s : GState) (hc : CInv boxes s) (hp : PairInv s) :
    PairInv (gtbLoop le fuel s).1 ∧ ((gtbLoop le fuel s).2 = true → (gtbLoop le fuel s).1.heap = []) := by
  fun_induction gtbLoop le fuel s with
  | case1 => exact ⟨hp, List.isEmpty_iff.mp⟩
  | case2 s fuel hs => exact ⟨hp, fun _ => gtbStep_eq_none.mp hs⟩
  | case3 fuel s s' hs ih => exact ih ((Step.of_gtbStep hs).cinv hc) ((Step.of_gtbStep hs).pair hc hp)

theorem gtbInit_pair (pageBB : BB) (boxes : List Box) : PairInv (gtbInit pageBB boxes) := by
  intro i j hi hj _ _ hij
  simp only [gtbInit, List.length_map] at hi hj
  rcases Nat.lt_or_gt_of_ne hij with h | h
  · exact ⟨_, mem_initPairs.mpr ⟨i, j, h, by simpa using hj, rfl⟩, Or.inl ⟨rfl, rfl⟩⟩
  · exact ⟨_, mem_initPairs.mpr ⟨j, i, h, by simpa using hi, rfl⟩, Or.inr ⟨rfl, rfl⟩⟩

/-- When the heap is empty any two live nodes would still have an entry in it: at most one node is left. -/
theorem groupTextboxes_single_root (pageBB : BB) (boxes : List Box) :
    (groupTextboxes le pageBB boxes).1.length ≤ 1 := by
  have hc := gtbLoop_cinv (le := le) (gtbFuel boxes.length) _ (gtbInit_cinv pageBB boxes)
  have hp := gtbLoop_pair (le := le) (gtbFuel boxes.length) _ (gtbInit_cinv pageBB boxes) (gtbInit_pair pageBB boxes)
  have hheap := hp.2 (gtbLoop_terminates (le := le) _ _ (gtbInit_inv pageBB boxes) (gtbInit_phi pageBB boxes))
  refine (List.length_filterMap_le _ _).trans ?_
  have hnd := iter_ids_nodup hc.inv.seqNodup
  match hxy : Plane.iter (gtbLoop le (gtbFuel boxes.length) (gtbInit pageBB boxes)).1.plane with
  | [] | [_] => simp
  | x :: y :: rest =>
    have hx := (mem_iter.mp (hxy ▸ List.mem_cons_self : x ∈ Plane.iter _)).2
    have hy := (mem_iter.mp (hxy ▸ List.mem_cons_of_mem _ List.mem_cons_self : y ∈ Plane.iter _)).2
    rw [hxy] at hnd
    simp only [List.map_cons, List.nodup_cons, List.mem_cons, not_or] at hnd
    obtain ⟨e, he, _⟩ := hp.1 x.id y.id (hc.inv.objsLt _ hx) (hc.inv.objsLt _ hy) (hc.inv.objsLive _ hx)
      (hc.inv.objsLive _ hy) hnd.1.1
    rw [hheap] at he
    cases he

end PdfVerif.Layout
