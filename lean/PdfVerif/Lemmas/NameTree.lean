/-
C17 — `lookup_name` on conforming name trees.  `klt` is the lexicographic order of the standard library; on a
tree satisfying `wf` the lookup finds exactly the pairs of the in-order flattening (`lookup_good`), and that
flattening is strictly ascending (`flatten_sorted`).
-/
import PdfVerif.Spec.NameTree

namespace PdfVerif.Lemmas.NameTree
open PdfVerif PdfVerif.NameTree PdfVerif.Spec.NameTree

theorem klt_iff (a b : Key) : klt a b = true ↔ a < b := by
  fun_induction klt a b
  case case4 h => simp [List.cons_lt_cons_iff, h]
  case case5 h1 h2 => simp [List.cons_lt_cons_iff, Nat.lt_asymm h2, Nat.ne_of_gt h2]
  case case6 h1 h2 ih =>
    obtain rfl := Nat.le_antisymm (Nat.not_lt.mp h2) (Nat.not_lt.mp h1)
    simp [ih]
  all_goals simp

theorem kle_iff (a b : Key) : kle a b = true ↔ a ≤ b := by
  rw [kle, Bool.not_eq_true', ← Bool.not_eq_true, klt_iff, List.not_lt]

theorem klt_irrefl (a : Key) : klt a a = false :=
  Bool.eq_false_iff.mpr fun h => List.lt_irrefl a ((klt_iff a a).mp h)

theorem klt_trans (a b c : Key) (h1 : klt a b = true) (h2 : klt b c = true) : klt a c = true :=
  (klt_iff a c).mpr (List.lt_trans ((klt_iff a b).mp h1) ((klt_iff b c).mp h2))

theorem klt_of_lt_of_le (a b c : Key) (h1 : klt a b = true) (h2 : kle b c = true) : klt a c = true := by
  rcases List.le_iff_lt_or_eq.mp ((kle_iff b c).mp h2) with h | rfl
  · exact klt_trans a b c h1 ((klt_iff b c).mpr h)
  · exact h1

theorem klt_of_le_of_lt (a b c : Key) (h1 : kle a b = true) (h2 : klt b c = true) : klt a c = true :=
  (klt_iff a c).mpr (List.lt_of_le_of_lt ((kle_iff a b).mp h1) ((klt_iff b c).mp h2))

theorem pairwise_of_ascendingFrom (a : Key) (l : List Key) (h : ascendingFrom a l = true) :
    List.Pairwise (fun x y => klt x y = true) (a :: l) := by
  fun_induction ascendingFrom a l
  case case1 a => exact List.pairwise_singleton _ a
  case case2 a b tl ih =>
    obtain ⟨hab, h⟩ := Bool.and_eq_true_iff.mp h
    refine List.pairwise_cons.mpr ⟨fun x hx => ?_, ih h⟩
    rcases List.mem_cons.mp hx with rfl | hx
    · exact hab
    · exact klt_trans a b x hab (List.rel_of_pairwise_cons (ih h) hx)

theorem pairwise_of_ascending : ∀ l : List Key, ascending l = true → List.Pairwise (fun x y => klt x y = true) l
  | [], _ => List.Pairwise.nil
  | a :: tl, h => pairwise_of_ascendingFrom a tl h

theorem mem_keys {l : List (Key × Int)} {key : Key} {v : Int} (h : (key, v) ∈ l) : key ∈ l.map (·.1) :=
  List.mem_map.mpr ⟨(key, v), h, rfl⟩

theorem dictGet_cons (p : Key × Int) (tl : List (Key × Int)) (key : Key) :
    dictGet (p :: tl) key =
      match dictGet tl key with
      | some v => some v
      | none => if p.1 == key then some p.2 else none := by
  unfold dictGet
  rw [List.filter_cons]
  cases p.1 == key <;> cases ho : (List.filter (fun q => q.1 == key) tl).getLast? <;>
    simp [List.getLast?_cons, ho]

theorem dictGet_none (ns : List (Key × Int)) (key : Key) (h : ∀ v, (key, v) ∉ ns) : dictGet ns key = none := by
  have : ns.filter (fun p => p.1 == key) = [] :=
    List.filter_eq_nil_iff.mpr fun p hp hk => h p.2 (by rw [← beq_iff_eq.mp hk]; exact hp)
  rw [dictGet, this]
  rfl

theorem dictGet_of_mem : ∀ (ns : List (Key × Int)) (key : Key) (v : Int),
    List.Pairwise (fun x y => klt x y = true) (ns.map (·.1)) → (key, v) ∈ ns → dictGet ns key = some v
  | p :: tl, key, v, hasc, hmem => by
    obtain ⟨hp, htl⟩ := List.pairwise_cons.mp hasc
    rw [dictGet_cons]
    rcases List.mem_cons.mp hmem with rfl | hmem
    · -- no later pair has the key: it would be greater than itself
      rw [dictGet_none tl key fun v' hv' => Bool.false_ne_true (klt_irrefl key ▸ hp key (mem_keys hv'))]
      simp
    · rw [dictGet_of_mem tl key v htl hmem]

theorem and3 {a b c : Bool} (h : (a && b && c) = true) : a = true ∧ b = true ∧ c = true := by
  cases a <;> cases b <;> cases c <;> simp_all

theorem lookup_outside (key : Key) (n : Node) (h : outside key (limitsOf n) = true) : lookup key n = .none_ := by
  cases n with
  | node limits names kids =>
    simp only [limitsOf] at h
    simp [lookup, h]

theorem not_outside_of_within (key : Key) (lim : Key × Key) (ks : List Key)
    (hw : within lim ks = true) (hk : key ∈ ks) : outside key (some lim) = false := by
  unfold within at hw
  have := List.all_eq_true.mp hw key hk
  simp only [kle, Bool.and_eq_true, Bool.not_eq_true'] at this
  obtain ⟨lo, hi⟩ := lim
  simp [outside, this.1, this.2]

theorem wf_shape {root : Bool} {limits : Option (Key × Key)} {names : Option (List (Key × Int))} {kids : List Node}
    (h : wf root (.node limits names kids) = true) :
    (∃ ns, names = some ns ∧ kids = [] ∧ ascending (ns.map (·.1)) = true ∧ ns.all (fun p => p.2 != 0) = true)
      ∨ (names = none ∧ wfKids kids = true) := by
  unfold wf at h
  obtain ⟨_, _, hshape⟩ := and3 h
  cases names <;> cases kids <;> simp only [Bool.false_eq_true] at hshape
  · exact .inr ⟨rfl, hshape⟩
  · obtain ⟨hasc, htruthy, _⟩ := and3 hshape
    exact .inl ⟨_, rfl, rfl, hasc, htruthy⟩

theorem wf_limits (n : Node) (h : wf false n = true) :
    ∃ lim, limitsOf n = some lim ∧ within lim ((flatten n).map (·.1)) = true := by
  cases n with
  | node limits names kids =>
    unfold wf at h
    obtain ⟨h1, h2, _⟩ := and3 h
    cases limits with
    | none => simp at h1
    | some lim => exact ⟨lim, rfl, by simpa [flatten] using h2⟩

/-- A key below a later sibling is greater than the upper limit of an earlier one. -/
theorem later_gt (key : Key) (v : Int) (c : Node) (lo hi : Key) (hl : limitsOf c = some (lo, hi)) :
    ∀ (cs : List Node), separated c cs = true → wfKids cs = true → (key, v) ∈ flattenKids cs →
      klt hi key = true
  | [], _, _, hm => by simp [flattenKids] at hm
  | c' :: cs', hsep, hwf, hm => by
    simp only [wfKids, Bool.and_eq_true] at hwf
    obtain ⟨⟨hwc', _⟩, hwcs'⟩ := hwf
    unfold separated at hsep
    simp only [hl, List.all_cons, Bool.and_eq_true] at hsep
    simp only [flattenKids, List.mem_append] at hm
    rcases hm with hm | hm
    · obtain ⟨lim', hl', hw'⟩ := wf_limits c' hwc'
      obtain ⟨lo', hi'⟩ := lim'
      have h1 : klt hi lo' = true := by simpa [hl'] using hsep.1
      have hin := List.all_eq_true.mp hw' key (mem_keys hm)
      simp only [Bool.and_eq_true] at hin
      exact klt_of_lt_of_le hi lo' key h1 hin.1
    · have hsep' : separated c cs' = true := by
        unfold separated
        simp only [hl]
        exact hsep.2
      exact later_gt key v c lo hi hl cs' hsep' hwcs' hm

mutual
theorem lookup_good (key : Key) (root : Bool) (n : Node) (h : wf root n = true) :
    (∀ v, (key, v) ∈ flatten n → lookup key n = .found v ∧ v ≠ 0) ∧
    ((∀ v, (key, v) ∉ flatten n) → lookup key n = .keyError ∨ lookup key n = .none_) :=
  match n with
  | .node limits names kids => by
    have hin : ∀ v, (key, v) ∈ flatten (.node limits names kids) → outside key limits = false := by
      intro v hv
      cases limits with
      | none => rfl
      | some lim =>
        unfold wf at h
        exact not_outside_of_within key lim _ (by simpa [flatten] using (and3 h).2.1) (mem_keys hv)
    cases hout : outside key limits with
    | true =>
      exact ⟨fun v hv => absurd (hin v hv) (by rw [hout]; decide), fun _ => .inr (lookup_outside key _ hout)⟩
    | false =>
      rcases wf_shape h with ⟨ns, rfl, rfl, hasc, htruthy⟩ | ⟨rfl, hkids⟩
      · have hflat : flatten (.node limits (some ns) []) = ns := by simp [flatten, flattenKids]
        rw [hflat]
        refine ⟨fun v hv => ?_, fun hv => .inl ?_⟩
        · have hne : v ≠ 0 := by simpa using List.all_eq_true.mp htruthy (key, v) hv
          simp [lookup, hout, dictGet_of_mem ns key v (pairwise_of_ascending _ hasc) hv, hne]
        · simp [lookup, hout, dictGet_none ns key hv]
      · have ih := lookupKids_good key kids hkids
        have hflat : flatten (.node limits none kids) = flattenKids kids := by simp [flatten]
        have hlook : lookup key (.node limits none kids) = lookupKids key kids := by simp [lookup, hout]
        rw [hflat, hlook]
        exact ⟨ih.1, fun hv => .inl (ih.2 hv)⟩
theorem lookupKids_good (key : Key) (cs : List Node) (h : wfKids cs = true) :
    (∀ v, (key, v) ∈ flattenKids cs → lookupKids key cs = .found v ∧ v ≠ 0) ∧
    ((∀ v, (key, v) ∉ flattenKids cs) → lookupKids key cs = .keyError) :=
  match cs with
  | [] => by
    constructor
    · intro v hv; simp [flattenKids] at hv
    · intro _; simp [lookupKids]
  | c :: cs' => by
    simp only [wfKids, Bool.and_eq_true] at h
    obtain ⟨⟨hwc, hsep⟩, hwcs⟩ := h
    have ihc := lookup_good key false c hwc
    have ihcs := lookupKids_good key cs' hwcs
    constructor
    · intro v hv
      simp only [flattenKids, List.mem_append] at hv
      rcases hv with hv | hv
      · obtain ⟨hf, hne⟩ := ihc.1 v hv
        simp [lookupKids, hf, hne]
      · obtain ⟨⟨lo, hi⟩, hl, _⟩ := wf_limits c hwc
        have hout : outside key (limitsOf c) = true := by
          simp [hl, outside, later_gt key v c lo hi hl cs' hsep hwcs hv]
        simp only [lookupKids, lookup_outside key c hout]
        exact ihcs.1 v hv
    · intro hv
      have h1 : ∀ v, (key, v) ∉ flatten c := fun v hm => hv v (by simp [flattenKids, hm])
      have h2 : ∀ v, (key, v) ∉ flattenKids cs' := fun v hm => hv v (by simp [flattenKids, hm])
      rcases ihc.2 h1 with hk | hn
      · simp [lookupKids, hk]
      · simp only [lookupKids, hn]
        exact ihcs.2 h2
end

mutual
theorem flatten_sorted (root : Bool) (n : Node) (h : wf root n = true) :
    List.Pairwise (fun x y => klt x y = true) ((flatten n).map (·.1)) :=
  match n with
  | .node limits names kids => by
    rcases wf_shape h with ⟨ns, rfl, rfl, hasc, _⟩ | ⟨rfl, hkids⟩
    · simpa [flatten, flattenKids] using pairwise_of_ascending _ hasc
    · simpa [flatten] using flattenKids_sorted kids hkids
theorem flattenKids_sorted (cs : List Node) (h : wfKids cs = true) :
    List.Pairwise (fun x y => klt x y = true) ((flattenKids cs).map (·.1)) :=
  match cs with
  | [] => by simp [flattenKids]
  | c :: cs' => by
    simp only [wfKids, Bool.and_eq_true] at h
    obtain ⟨⟨hwc, hsep⟩, hwcs⟩ := h
    simp only [flattenKids, List.map_append]
    refine List.pairwise_append.mpr ⟨flatten_sorted false c hwc, flattenKids_sorted cs' hwcs, ?_⟩
    intro a ha b hb
    obtain ⟨lim, hl, hw⟩ := wf_limits c hwc
    obtain ⟨lo, hi⟩ := lim
    have hin := List.all_eq_true.mp hw a ha
    simp only [Bool.and_eq_true] at hin
    obtain ⟨p, hp, rfl⟩ := List.mem_map.mp hb
    have hgt := later_gt p.1 p.2 c lo hi hl cs' hsep hwcs hp
    exact klt_of_le_of_lt a hi p.1 hin.2 hgt
end

theorem mem_of_assoc {l : List (Key × Int)} {k : Key} {v : Int} (h : assoc l k = some v) : (k, v) ∈ l := by
  obtain ⟨p, hp, rfl⟩ := Option.map_eq_some_iff.mp h
  have hk := List.find?_some hp
  rw [← beq_iff_eq.mp hk]
  exact List.mem_of_find?_eq_some hp

theorem not_mem_of_assoc_none {l : List (Key × Int)} {k : Key} (h : assoc l k = none) : ∀ v, (k, v) ∉ l := by
  intro v hm
  unfold assoc at h
  simp only [Option.map_eq_none_iff, List.find?_eq_none] at h
  have := h (k, v) hm
  simp at this

theorem getDest_bytes (tree : Option Node) (dests : Option (List (Key × Int))) (k : Key) :
    getDest tree dests (.bytes k) =
      match lookupName tree (.bytes k) with
      | .found v => .value v
      | _ => .notFound := by
  unfold getDest
  cases lookupName tree (.bytes k) <;> cases dests <;> rfl

theorem getDest_name (tree : Option Node) (dests : Option (List (Key × Int))) (n : Key) :
    getDest tree dests (.name n) =
      match dests.bind (fun d => assoc d n) with
      | some v => .value v
      | none => .notFound := by
  have hl : lookupName tree (.name n) = .keyError := by cases tree <;> rfl
  unfold getDest
  rw [hl]
  cases dests with
  | none => rfl
  | some d => rfl

end PdfVerif.Lemmas.NameTree
