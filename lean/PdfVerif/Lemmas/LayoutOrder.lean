/-
`tupleLe` is the lexicographic order on the keys of `getkey`, hence a total preorder; so with `boxes_flow = None` the
boxes come out sorted by it.
-/
import Mathlib.Data.Prod.Lex
import Mathlib.Algebra.Order.Field.Rat
import PdfVerif.Model.Layout

namespace PdfVerif.Layout
open PdfVerif PdfVerif.Gen.Layout

theorem tupleLe_iff (a b : Int × Rat × Rat) :
    tupleLe a b = true ↔ a.1 < b.1 ∨ (a.1 = b.1 ∧ (a.2.1 < b.2.1 ∨ (a.2.1 = b.2.1 ∧ a.2.2 ≤ b.2.2))) := by
  by_cases h1 : a.1 = b.1 <;> by_cases h2 : a.2.1 = b.2.1 <;> simp [tupleLe, h1, h2]

theorem tupleLe_iff_lex (a b : Int × Rat × Rat) :
    tupleLe a b = true ↔ toLex (a.1, toLex (a.2.1, a.2.2)) ≤ toLex (b.1, toLex (b.2.1, b.2.2)) := by
  simp only [tupleLe_iff, Prod.Lex.toLex_le_toLex]

theorem tupleLe_total (a b : Int × Rat × Rat) : (tupleLe a b || tupleLe b a) = true := by
  simp only [Bool.or_eq_true, tupleLe_iff_lex]
  exact le_total _ _

theorem tupleLe_trans (a b c : Int × Rat × Rat) (h1 : tupleLe a b = true) (h2 : tupleLe b c = true) :
    tupleLe a c = true := by
  rw [tupleLe_iff_lex] at *
  exact le_trans h1 h2

theorem enumFrom_getkey : ∀ (bs : List Box) (k : Nat), (enumFrom k bs).map getkey = bs.map getkey
  | [], _ => rfl
  | _ :: r, k => congrArg (_ :: ·) (enumFrom_getkey r (k + 1))

/-- With `boxes_flow = None` the text boxes come out sorted by `getkey`: vertical boxes first (right to left,
then top to bottom), then horizontal boxes by descending bottom edge, ties by ascending left edge. -/
theorem finalBoxes_none_sorted {le : Cmp} (p : LAParams) (hbf : p.boxes_flow = none) (B : BB) (boxes : List Box) :
    (finalBoxes le p B boxes).1.Pairwise (fun a b => tupleLe (getkey a) (getkey b) = true) := by
  simp only [finalBoxes, hbf]
  have hs := List.pairwise_mergeSort (le := fun (a b : Box) => tupleLe (getkey a) (getkey b))
    (fun a b c => tupleLe_trans _ _ _) (fun a b => tupleLe_total _ _) (boxes.map Box.analyze)
  rw [← List.pairwise_map (f := getkey) (R := fun x y => tupleLe x y = true)] at hs ⊢
  rwa [enumFrom_getkey]

end PdfVerif.Layout
