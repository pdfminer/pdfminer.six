/-
LZW: `readbits` on the reader state is reading from the MSB-first bit sequence, packing bits and
unpacking them gives the bits back, and the invariant that couples encoder and decoder (the decoder's
table is the encoder's minus the pending entry, which is what makes KwKwK work).  The results are
`lzwdecode_bits` (the byte-level reader is the loop on bits) and `lzwdecode_lzwEnc` (the round trip for
every placement of Clear codes).
-/
import PdfVerif.Lemmas.FiltersCodec

namespace PdfVerif.Filters
open PdfVerif PdfVerif.FilterEnc


@[simp] theorem bitsOfNat_length (w n : Nat) : (bitsOfNat w n).length = w := by
  induction w with
  | zero => rfl
  | succ w ih => simp [bitsOfNat, ih]

theorem bitsOf_append (a b : Bytes) : bitsOf (a ++ b) = bitsOf a ++ bitsOf b := by
  induction a with
  | nil => rfl
  | cons x a ih => simp [bitsOf, ih]

theorem bitsOf_length (a : Bytes) : (bitsOf a).length = 8 * a.length := by
  induction a with
  | nil => rfl
  | cons x a ih => simp [bitsOf, bitsOfByte, ih]; omega

theorem bitsOfByte_toNat (x : UInt8) : bitsOfByte x = bitsOfNat 8 x.toNat := by
  simp [bitsOfByte, bitsOfNat]

theorem bitsOfNat_add (a b n : Nat) : bitsOfNat (a + b) n = bitsOfNat a (n / 2 ^ b) ++ bitsOfNat b n := by
  induction a with
  | zero => simp [bitsOfNat]
  | succ a ih =>
    rw [Nat.add_right_comm, bitsOfNat, ih, bitsOfNat, Nat.div_div_eq_div_mul, ← Nat.pow_add, Nat.add_comm b a]
    rfl

theorem bitsOfNat_snoc (w a : Nat) (b : Bool) :
    bitsOfNat (w + 1) (2 * a + (if b then 1 else 0)) = bitsOfNat w a ++ [b] := by
  have h2 : (2 * a + (if b then 1 else 0)) / 2 = a := by cases b <;> simp <;> omega
  have h1 : ((2 * a + (if b then 1 else 0)) % 2 == 1) = b := by cases b <;> simp <;> omega
  rw [bitsOfNat_add w 1, Nat.pow_one, h2, bitsOfNat, bitsOfNat, Nat.pow_zero, Nat.div_one, h1]

theorem bitsOfNat_shift (n k a : Nat) : bitsOfNat (n + k) (a * 2 ^ k) = bitsOfNat n a ++ List.replicate k false := by
  induction k with
  | zero => simp
  | succ k ih =>
    have := bitsOfNat_snoc (n + k) (a * 2 ^ k) false
    rw [ih] at this
    rw [← Nat.add_assoc, Nat.pow_succ, ← Nat.mul_assoc, Nat.mul_comm _ 2, List.replicate_succ', ← List.append_assoc, ← this]
    rfl

theorem natOfBits_append (a b : List Bool) : natOfBits (a ++ b) = natOfBits a * 2 ^ b.length + natOfBits b := by
  unfold natOfBits
  rw [List.foldl_append]
  generalize List.foldl (fun a b => 2 * a + if b = true then 1 else 0) 0 a = s
  induction b generalizing s with
  | nil => simp
  | cons x b ih =>
    simp only [List.foldl_cons, List.length_cons]
    rw [ih, ih (2 * 0 + if x = true then 1 else 0)]
    rw [Nat.pow_succ]
    generalize List.foldl (fun a b => 2 * a + if b = true then 1 else 0) 0 b = t
    generalize 2 ^ b.length = p
    cases x
    · simp; rw [Nat.mul_comm 2 s, Nat.mul_assoc, Nat.mul_comm 2 p]
    · simp; rw [Nat.add_mul, Nat.mul_comm 2 s, Nat.mul_assoc, Nat.mul_comm 2 p]; omega

theorem natOfBits_bitsOfNat_mod (k m : Nat) : natOfBits (bitsOfNat k m) = m % 2 ^ k := by
  induction k with
  | zero => simp [bitsOfNat, natOfBits, Nat.mod_one]
  | succ k ih =>
    have hb : natOfBits [m / 2 ^ k % 2 == 1] = m / 2 ^ k % 2 := by
      have : m / 2 ^ k % 2 = 0 ∨ m / 2 ^ k % 2 = 1 := by omega
      rcases this with h | h <;> rw [h] <;> rfl
    rw [bitsOfNat, ← List.singleton_append, natOfBits_append, hb, ih, bitsOfNat_length, Nat.mod_pow_succ, Nat.mul_comm,
      Nat.add_comm]

theorem natOfBits_bitsOfNat (w n : Nat) (h : n < 2 ^ w) : natOfBits (bitsOfNat w n) = n := by
  rw [natOfBits_bitsOfNat_mod, Nat.mod_eq_of_lt h]

/-- The unread bits of a reader state. -/
def viewBits (rest : Bytes) (buff bpos : Nat) : List Bool := bitsOfNat (8 - bpos) buff ++ bitsOf rest

theorem viewBits_length (rest : Bytes) (buff bpos : Nat) :
    (viewBits rest buff bpos).length = 8 - bpos + 8 * rest.length := by
  simp [viewBits, bitsOf_length]

theorem readbits_view (rest : Bytes) (buff bpos bits v : Nat) (hb : bpos ≤ 8) :
    ((viewBits rest buff bpos).length < bits → readbits rest buff bpos bits v = none) ∧
    (bits ≤ (viewBits rest buff bpos).length → ∃ buff' bpos' rest',
      readbits rest buff bpos bits v
        = some (v * 2 ^ bits + natOfBits ((viewBits rest buff bpos).take bits), buff', bpos', rest') ∧
      bpos' ≤ 8 ∧ viewBits rest' buff' bpos' = (viewBits rest buff bpos).drop bits) := by
  have hlen := viewBits_length rest buff bpos
  fun_induction readbits rest buff bpos bits v with
  | case1 rest buff bpos bits v hle =>
    have hsplit : viewBits rest buff bpos
        = bitsOfNat bits (buff / 2 ^ (8 - bpos - bits)) ++ viewBits rest buff (bpos + bits) := by
      rw [viewBits, viewBits, ← Nat.sub_sub, ← List.append_assoc, ← bitsOfNat_add, Nat.add_sub_cancel' hle]
    refine ⟨fun h => by omega, fun _ => ⟨buff, bpos + bits, rest, ?_, by omega, ?_⟩⟩
    · rw [hsplit, List.take_left' (bitsOfNat_length ..), natOfBits_bitsOfNat_mod]
    · rw [hsplit, List.drop_left' (bitsOfNat_length ..)]
  | case2 buff bpos bits v hle => exact ⟨fun _ => rfl, fun h => by simp at hlen; omega⟩
  | case3 buff bpos bits v hle x rest' ih =>
    -- the `8 - bpos` bits left in `buff` go to the accumulator, the others come from `x :: rest'`
    have hview : viewBits (x :: rest') buff bpos = bitsOfNat (8 - bpos) buff ++ viewBits rest' x.toNat 0 := by
      simp only [viewBits, bitsOf, bitsOfByte_toNat, Nat.sub_zero]
    have hlen' := viewBits_length rest' x.toNat 0
    obtain ⟨ihn, ihs⟩ := ih (by omega) hlen'
    simp only [List.length_cons] at hlen
    refine ⟨fun h => ?_, fun h => ?_⟩
    · exact ihn (by omega)
    · obtain ⟨buff', bpos', rest'', hr, hb', hv'⟩ := ihs (by omega)
      refine ⟨buff', bpos', rest'', ?_, hb', ?_⟩
      · have htake : (bitsOfNat (8 - bpos) buff ++ viewBits rest' x.toNat 0).take bits
            = bitsOfNat (8 - bpos) buff ++ (viewBits rest' x.toNat 0).take (bits - (8 - bpos)) := by
          rw [List.take_append, bitsOfNat_length, List.take_of_length_le (by simp; omega)]
        have hl : ((viewBits rest' x.toNat 0).take (bits - (8 - bpos))).length = bits - (8 - bpos) := by
          simp only [List.length_take]; omega
        have hp : 2 ^ bits = 2 ^ (8 - bpos) * 2 ^ (bits - (8 - bpos)) := by
          rw [← Nat.pow_add]; congr 1; omega
        have hnum : ∀ nb : Nat, (v * 2 ^ (8 - bpos) + buff % 2 ^ (8 - bpos)) * 2 ^ (bits - (8 - bpos)) + nb
            = v * 2 ^ bits + (buff % 2 ^ (8 - bpos) * 2 ^ (bits - (8 - bpos)) + nb) := by
          intro nb
          rw [hp, Nat.add_mul, Nat.mul_assoc]
          omega
        rw [hr, hview, htake, natOfBits_append, natOfBits_bitsOfNat_mod, hl, hnum]
      · have hd1 : (bitsOfNat (8 - bpos) buff).drop bits = [] :=
          List.drop_of_length_le (by rw [bitsOfNat_length]; omega)
        rw [hv', hview, List.drop_append, hd1, List.nil_append, bitsOfNat_length]

theorem lzwRunB_eq : ∀ (fuel : Nat) (st : LzwSt) (rest : Bytes) (buff bpos : Nat), bpos ≤ 8 →
    lzwRunB fuel st rest buff bpos = lzwRun fuel st (viewBits rest buff bpos) := by
  intro fuel
  induction fuel with
  | zero => intro st rest buff bpos _; rfl
  | succ fuel ih =>
    intro st rest buff bpos hb
    obtain ⟨hn, hs⟩ := readbits_view rest buff bpos st.nbits 0 hb
    have htake : ((viewBits rest buff bpos).take st.nbits).length < st.nbits
        ↔ (viewBits rest buff bpos).length < st.nbits := by
      simp only [List.length_take]; omega
    rw [lzwRunB, lzwRun]
    simp only [htake]
    by_cases hlt : (viewBits rest buff bpos).length < st.nbits
    · simp only [hn hlt, hlt, if_true]
    · obtain ⟨buff', bpos', rest', hr, hb', hv'⟩ := hs (by omega)
      simp only [hr, hlt, if_false, Nat.zero_mul, Nat.zero_add]
      cases feed st (natOfBits ((viewBits rest buff bpos).take st.nbits)) with
      | corrupt => rfl
      | indexError => rfl
      | ok st' x =>
        simp only
        rw [ih st' rest' buff' bpos' hb', hv']

theorem lzwdecode_bits (data : Bytes) : lzwdecode data = lzwRun (8 * data.length + 1) lzwInit (bitsOf data) := by
  rw [lzwdecode_lit, lzwRunB_eq _ _ _ _ _ (Nat.le_refl 8)]
  rfl

theorem bitsOf_packGo (bs : List Bool) (acc n : Nat) (hn : n < 8) (hacc : acc < 2 ^ n) :
    ∃ k, k < 8 ∧ bitsOf (packGo acc n bs) = bitsOfNat n acc ++ bs ++ List.replicate k false := by
  fun_induction packGo acc n bs with
  | case1 acc n h0 =>
    obtain rfl : n = 0 := by simpa using h0
    exact ⟨0, by omega, rfl⟩
  | case2 acc n h0 =>
    -- the last byte is filled up with `8 - n` zero bits
    refine ⟨8 - n, by simp at h0; omega, ?_⟩
    have h8 : n + (8 - n) = 8 := by omega
    have hlt : acc * 2 ^ (8 - n) < 256 := by
      have := Nat.mul_lt_mul_of_pos_right hacc (Nat.two_pow_pos (8 - n))
      rwa [← Nat.pow_add, h8] at this
    rw [bitsOf, bitsOf, bitsOfByte_toNat, toNat_ofNat_lt _ hlt, List.append_nil, List.append_nil, ← bitsOfNat_shift, h8]
  | case3 acc n b bs h8 ih =>
    obtain ⟨k, hk, hrec⟩ := ih (by omega) (by simp)
    obtain rfl : n = 7 := by simp at h8; omega
    have hlt : 2 * acc + (if b then 1 else 0) < 256 := by cases b <;> simp <;> omega
    refine ⟨k, hk, ?_⟩
    rw [bitsOf, hrec, bitsOfByte_toNat, toNat_ofNat_lt _ hlt, bitsOfNat_snoc]
    simp [bitsOfNat]
  | case4 acc n b bs h8 ih =>
    have hacc' : 2 * acc + (if b then 1 else 0) < 2 ^ (n + 1) := by
      rw [Nat.pow_succ]; cases b <;> simp <;> omega
    obtain ⟨k, hk, hrec⟩ := ih (by simp at h8; omega) hacc'
    refine ⟨k, hk, ?_⟩
    rw [hrec, bitsOfNat_snoc]
    simp

theorem bitsOf_packBits (bs : List Bool) :
    ∃ k, k < 8 ∧ bitsOf (packBits bs) = bs ++ List.replicate k false := by
  obtain ⟨k, hk, h⟩ := bitsOf_packGo bs 0 0 (by omega) (by simp)
  exact ⟨k, hk, by simpa [packBits, bitsOfNat] using h⟩


theorem lzwRun_step (fuel : Nat) (st : LzwSt) (c : Nat) (rest : List Bool) (hc : c < 2 ^ st.nbits) :
    lzwRun (fuel + 1) st (bitsOfNat st.nbits c ++ rest) =
      match feed st c with
      | .corrupt => .ok []
      | .indexError => .error .indexError
      | .ok st' x =>
        match lzwRun fuel st' rest with
        | .ok r => .ok (x ++ r)
        | .error e => .error e := by
  rw [lzwRun]
  have ht : (bitsOfNat st.nbits c ++ rest).take st.nbits = bitsOfNat st.nbits c := by
    rw [List.take_left' (by simp)]
  have hd : (bitsOfNat st.nbits c ++ rest).drop st.nbits = rest := by
    rw [List.drop_left' (by simp)]
  simp only [ht, hd, bitsOfNat_length, Nat.lt_irrefl, if_false, natOfBits_bitsOfNat _ _ hc]
  rfl

/-- Fewer bits than a code (the zero padding of the last byte): the loop stops. -/
theorem lzwRun_short (fuel : Nat) (st : LzwSt) (bits : List Bool) (h : bits.length < st.nbits) :
    lzwRun fuel st bits = .ok [] := by
  cases fuel with
  | zero => rfl
  | succ fuel =>
    rw [lzwRun]
    have : (bits.take st.nbits).length < st.nbits := by simp; omega
    simp only [this, if_true]


/-- The decoder's width schedule (on the table length) is the encoder's (on the number of codes). -/
theorem nbitsAfter_width (j : Nat) : nbitsAfter (lzwWidth j) (258 + j) = lzwWidth (j + 1) := by
  unfold nbitsAfter
  by_cases h1 : 258 + j = 511
  · have : j = 253 := by omega
    subst this; rfl
  by_cases h2 : 258 + j = 1023
  · have : j = 765 := by omega
    subst this; rfl
  by_cases h3 : 258 + j = 2047
  · have : j = 1789 := by omega
    subst this; rfl
  -- away from the three thresholds the width does not change
  have a1 : 257 + (j + 1) < 511 ↔ 257 + j < 511 := by omega
  have a2 : 257 + (j + 1) < 1023 ↔ 257 + j < 1023 := by omega
  have a3 : 257 + (j + 1) < 2047 ↔ 257 + j < 2047 := by omega
  rw [if_neg (by simpa using h1), if_neg (by simpa using h2), if_neg (by simpa using h3)]
  simp only [lzwWidth, a1, a2, a3]

theorem lzwWidth_ge (j : Nat) : 9 ≤ lzwWidth j := by
  unfold lzwWidth; repeat' split
  all_goals omega

/-- Every code the encoder can emit after `j` data codes fits the current width. -/
theorem code_fits (j c : Nat) (hj : j < lzwMaxSeg) (hc : c ≤ 257 + j) : c < 2 ^ lzwWidth j := by
  unfold lzwMaxSeg at hj
  unfold lzwWidth
  repeat' split
  all_goals omega

def stReset : LzwSt := { nbits := 9, init := true, ext := [], prev := some [] }

/-- The state after the decoder has consumed the code of `w`. -/
def stAfter (ext : List Bytes) (w : Bytes) (j : Nat) : LzwSt :=
  { nbits := lzwWidth (j + 1), init := true, ext := ext, prev := some w }

/-- Coupled invariant of the encoder state (table `ext`, current match `w`, `j` data codes since the last
Clear) and the decoder state.  After a Clear both tables are empty.  Later the decoder has just consumed
the code of `p` and lacks exactly the encoder's newest entry `p ++ [b]`, where `b` is the first byte of the
current match; the current match is a single byte or an entry of the encoder's table. -/
inductive LzwInv : List Bytes → Bytes → Nat → LzwSt → Prop
  | reset (w : Bytes) (hw : w.length ≤ 1) : LzwInv [] w 0 stReset
  | run (sext : List Bytes) (p : Bytes) (b : UInt8) (wt : Bytes) (hp : p ≠ []) (hj : sext.length + 1 < lzwMaxSeg)
      (hmem : wt = [] ∨ b :: wt ∈ sext ++ [p ++ [b]]) :
      LzwInv (sext ++ [p ++ [b]]) (b :: wt) (sext.length + 1) (stAfter sext p sext.length)

variable {ext : List Bytes} {w : Bytes} {j : Nat} {st : LzwSt}

theorem LzwInv.ext_length (h : LzwInv ext w j st) : ext.length = j := by
  cases h <;> simp

theorem LzwInv.nbits (h : LzwInv ext w j st) : st.nbits = lzwWidth j := by
  cases h <;> rfl

theorem LzwInv.jlt (h : LzwInv ext w j st) : j < lzwMaxSeg := by
  cases h with
  | reset => decide
  | run _ _ _ _ _ hj => exact hj

theorem codeOf_single (ext : List Bytes) (b : UInt8) : codeOf ext [b] = b.toNat := rfl

theorem codeOf_long (ext : List Bytes) (b t : UInt8) (ts : Bytes) :
    codeOf ext (b :: t :: ts) = 258 + ext.idxOf (b :: t :: ts) := rfl

/-- Emission: the code of the current match `w` is read back as `w`, also when it is the entry
the decoder does not have yet (KwKwK). -/
theorem feed_code (h : LzwInv ext w j st) (hw : w ≠ []) :
    codeOf ext w ≤ 257 + j ∧ codeOf ext w ≠ 256 ∧ codeOf ext w ≠ 257 ∧
      feed st (codeOf ext w) = .ok (stAfter ext w j) w := by
  cases h with
  | reset w hl =>
    match w, hw, hl with
    | [b], _, _ =>
      have hlt := b.toNat_lt
      have e1 : (b.toNat == 256) = false := by simp; omega
      have e2 : (b.toNat == 257) = false := by simp; omega
      rw [codeOf_single]
      refine ⟨by omega, by omega, by omega, ?_⟩
      simp only [stReset, feed_lit, e1, e2, Bool.false_eq_true, if_false, tableGet_lit, Bool.not_true, hlt, if_true,
        UInt8.ofNat_toNat, stAfter]
      rfl
  | run sext p b wt hp hj hmem =>
    match p, hp with
    | ph :: pt, _ =>
      have hgrow : nbitsAfter (lzwWidth (sext.length + 1)) (258 + (sext ++ [ph :: pt ++ [b]]).length)
          = lzwWidth (sext.length + 1 + 1) := by
        rw [List.length_append]; exact nbitsAfter_width _
      obtain ⟨ext, he⟩ : ∃ ext, ext = sext ++ [ph :: pt ++ [b]] := ⟨_, rfl⟩
      rw [← he] at hmem ⊢
      cases wt with
      | nil =>
        have hlt := b.toNat_lt
        have e1 : (b.toNat == 256) = false := by simp; omega
        have e2 : (b.toNat == 257) = false := by simp; omega
        have hlt2 : b.toNat < 258 + sext.length := by omega
        rw [codeOf_single]
        refine ⟨by omega, by omega, by omega, ?_⟩
        simp only [stAfter, feed_lit, e1, e2, Bool.false_eq_true, if_false, tableLen_lit, if_true, hlt2, tableGet_lit,
          Bool.not_true, hlt, UInt8.ofNat_toNat, feedGrow_lit, List.take, hgrow, he]
      | cons t ts =>
        have hm : (b :: t :: ts) ∈ ext := hmem.resolve_left (by simp)
        have hidx : ext.idxOf (b :: t :: ts) < ext.length := List.idxOf_lt_length_of_mem hm
        have hget : ext[ext.idxOf (b :: t :: ts)]? = some (b :: t :: ts) := by
          rw [List.getElem?_eq_getElem hidx, List.getElem_idxOf]
        have hel : ext.length = sext.length + 1 := by rw [he]; simp
        generalize hi : ext.idxOf (b :: t :: ts) = idx at hidx hget
        have e1 : (258 + idx == 256) = false := by simp; omega
        have e2 : (258 + idx == 257) = false := by simp; omega
        rw [codeOf_long, hi]
        refine ⟨by omega, by omega, by omega, ?_⟩
        by_cases hlast : idx < sext.length
        · -- an entry the decoder has
          have hlt2 : 258 + idx < 258 + sext.length := by omega
          have h256 : ¬ (258 + idx < 256) := by omega
          have h258 : ¬ (258 + idx < 258) := by omega
          have hsub : 258 + idx - 258 = idx := by omega
          have hg : sext[idx]? = some (b :: t :: ts) := by
            rw [he, List.getElem?_append_left hlast] at hget; exact hget
          simp only [stAfter, feed_lit, e1, e2, Bool.false_eq_true, if_false, tableLen_lit, if_true, hlt2, tableGet_lit,
            Bool.not_true, h256, h258, hsub, hg, feedGrow_lit, List.take, hgrow, he]
        · -- the pending entry `p ++ [b]`: it starts with `b`, so the decoder's `p ++ p.take 1` is it
          have hidx' : idx = sext.length := by omega
          subst hidx'
          have hlt2 : ¬ (258 + sext.length < 258 + sext.length) := by omega
          have hg : (ph :: pt ++ [b]) = b :: t :: ts := by
            rw [he] at hget
            simpa using hget
          have hph : ph = b := by
            simp only [List.cons_append, List.cons.injEq] at hg; exact hg.1
          subst hph
          simp only [stAfter, feed_lit, e1, e2, Bool.false_eq_true, if_false, tableLen_lit, if_true, hlt2,
            beq_self_eq_true, feedGrow_lit, List.take, hgrow, he]
          rw [← hg]

theorem inv_after_add (h : LzwInv ext w j st) (hw : w ≠ []) (b : UInt8) (hj : j + 1 < lzwMaxSeg) :
    LzwInv (ext ++ [w ++ [b]]) [b] (j + 1) (stAfter ext w j) := by
  obtain rfl := h.ext_length
  exact .run ext w b [] hw hj (.inl rfl)

theorem inv_extend (h : LzwInv ext w j st) (b : UInt8) (hc : ext.contains (w ++ [b]) = true) :
    LzwInv ext (w ++ [b]) j st := by
  have hm : w ++ [b] ∈ ext := by simpa using hc
  cases h with
  | reset => cases hm
  | run sext p b0 wt hp hj _ => exact .run sext p b0 (wt ++ [b]) hp hj (.inr hm)

theorem inv_start (h : LzwInv ext [] j st) (b : UInt8) : LzwInv ext [b] j st := by
  cases h with
  | reset => exact .reset [b] (Nat.le_refl 1)

theorem lzwBits_data (j c : Nat) (cs : List Nat) (h256 : c ≠ 256) (h257 : c ≠ 257) :
    lzwBits j (c :: cs) = bitsOfNat (lzwWidth j) c ++ lzwBits (j + 1) cs := by
  have e1 : (c == 256) = false := by simpa using h256
  have e2 : (c == 257) = false := by simpa using h257
  simp only [lzwBits, e1, e2, Bool.false_eq_true, if_false]

theorem lzwBits_clear (j : Nat) (cs : List Nat) :
    lzwBits j (256 :: cs) = bitsOfNat (lzwWidth j) 256 ++ lzwBits 0 cs := by
  simp [lzwBits]

theorem lzwBits_eod (j : Nat) : lzwBits j [257] = bitsOfNat (lzwWidth j) 257 := by
  simp [lzwBits]

theorem run_emit (h : LzwInv ext w j st) (hw : w ≠ [])
    (fuel : Nat) (rest : List Bool) :
    lzwRun (fuel + 1) st (bitsOfNat (lzwWidth j) (codeOf ext w) ++ rest) =
      match lzwRun fuel (stAfter ext w j) rest with
      | .ok r => .ok (w ++ r)
      | .error e => .error e := by
  obtain ⟨hle, _, _, hf⟩ := feed_code h hw
  have hfit := code_fits j _ h.jlt hle
  rw [← h.nbits] at hfit ⊢
  rw [lzwRun_step fuel st _ rest hfit, hf]

theorem ctrl_fits (j : Nat) : 257 < 2 ^ lzwWidth j :=
  calc 257 < 2 ^ 9 := by decide
    _ ≤ 2 ^ lzwWidth j := Nat.pow_le_pow_right (by omega) (lzwWidth_ge j)

theorem feed_clear (st : LzwSt) : feed st 256 = .ok stReset [] := rfl

theorem run_clear (ext : List Bytes) (w : Bytes) (j : Nat) (fuel : Nat) (rest : List Bool) :
    lzwRun (fuel + 1) (stAfter ext w j) (bitsOfNat (lzwWidth (j + 1)) 256 ++ rest) = lzwRun fuel stReset rest := by
  have hfit : 256 < 2 ^ (stAfter ext w j).nbits := Nat.lt_trans (by decide) (ctrl_fits (j + 1))
  have hn : lzwWidth (j + 1) = (stAfter ext w j).nbits := rfl
  rw [hn, lzwRun_step fuel _ _ rest hfit, feed_clear]
  simp only [List.nil_append]
  cases lzwRun fuel stReset rest <;> rfl

theorem run_eod (st : LzwSt) (j : Nat) (hn : st.nbits = lzwWidth j) (fuel k : Nat) (hk : k < 8) :
    lzwRun (fuel + 1) st (bitsOfNat (lzwWidth j) 257 ++ List.replicate k false) = .ok [] := by
  have hfit : 257 < 2 ^ st.nbits := hn ▸ ctrl_fits j
  rw [← hn, lzwRun_step fuel _ _ _ hfit, show feed st 257 = .ok st [] from rfl]
  have hge := lzwWidth_ge j
  simp only [lzwRun_short fuel st (List.replicate k false) (by simp; omega)]
  rfl

theorem lzwRun_go (clr : Nat → Bool) (input : Bytes) (ext : List Bytes) (w : Bytes) (j total : Nat) (st : LzwSt)
    (fuel k : Nat) (h : LzwInv ext w j st) (hk : k < 8) (hf : (lzwGo clr ext w j total input).length < fuel) :
    lzwRun fuel st (lzwBits j (lzwGo clr ext w j total input) ++ List.replicate k false) = .ok (w ++ input) := by
  fun_induction lzwGo clr ext w j total input generalizing st fuel with
  | case1 ext w j total hw =>
    obtain rfl : w = [] := List.isEmpty_iff.mp hw
    obtain ⟨f, rfl⟩ : ∃ f, fuel = f + 1 := ⟨fuel - 1, by simp at hf; omega⟩
    rw [lzwBits_eod, run_eod st j h.nbits f k hk]
    rfl
  | case2 ext w j total hw =>
    have hw : w ≠ [] := by simpa using hw
    obtain ⟨_, h256, h257, _⟩ := feed_code h hw
    obtain ⟨f, rfl⟩ : ∃ f, fuel = f + 1 + 1 := ⟨fuel - 2, by simp at hf; omega⟩
    rw [lzwBits_data _ _ _ h256 h257, lzwBits_eod, List.append_assoc, run_emit h hw,
      run_eod (stAfter ext w j) (j + 1) rfl f k hk]
  | case3 ext w j total b rest hw ih =>
    obtain rfl : w = [] := List.isEmpty_iff.mp hw
    exact ih st fuel (inv_start h b) hf
  | case4 ext w j total b rest _ hc ih =>
    simpa using ih st fuel (inv_extend h b hc) hf
  | case5 ext w j total b rest hw _ _ ih =>
    -- the code of `w`, then a Clear
    have hw : w ≠ [] := by simpa using hw
    obtain ⟨_, h256, h257, _⟩ := feed_code h hw
    obtain ⟨f, rfl⟩ : ∃ f, fuel = f + 1 + 1 := ⟨fuel - 2, by simp at hf; omega⟩
    rw [lzwBits_data _ _ _ h256 h257, lzwBits_clear, List.append_assoc, List.append_assoc, run_emit h hw, run_clear,
      ih stReset f (.reset [b] (Nat.le_refl 1)) (by simp at hf ⊢; omega)]
    simp
  | case6 ext w j total b rest hw _ hclr ih =>
    have hw : w ≠ [] := by simpa using hw
    have hj : j + 1 < lzwMaxSeg := by
      simp only [Bool.or_eq_true, decide_eq_true_eq, not_or] at hclr; omega
    obtain ⟨_, h256, h257, _⟩ := feed_code h hw
    obtain ⟨f, rfl⟩ : ∃ f, fuel = f + 1 := ⟨fuel - 1, by simp at hf; omega⟩
    rw [lzwBits_data _ _ _ h256 h257, List.append_assoc, run_emit h hw,
      ih (stAfter ext w j) f (inv_after_add h hw b hj) (by simp at hf ⊢; omega)]
    simp

theorem lzwBits_length_ge (j : Nat) (cs : List Nat) : cs.length ≤ (lzwBits j cs).length := by
  induction cs generalizing j with
  | nil => simp [lzwBits]
  | cons c cs ih =>
    have := lzwWidth_ge j
    have := ih (if c == 256 then 0 else if c == 257 then j else j + 1)
    simp only [lzwBits, List.length_append, bitsOfNat_length, List.length_cons]
    omega

theorem lzwdecode_lzwEnc (clr : Nat → Bool) (x : Bytes) : lzwdecode (lzwEnc clr x) = .ok x := by
  rw [lzwdecode_bits]
  unfold lzwEnc
  obtain ⟨k, hk, hbits⟩ := bitsOf_packBits (lzwBits 0 (lzwCodes clr x))
  have hlen : 8 * (packBits (lzwBits 0 (lzwCodes clr x))).length = (lzwBits 0 (lzwCodes clr x)).length + k := by
    rw [← bitsOf_length, hbits]; simp
  rw [hbits, hlen]
  have hcodes := lzwBits_length_ge 0 (lzwCodes clr x)
  generalize hF : (lzwBits 0 (lzwCodes clr x)).length + k + 1 = F
  unfold lzwCodes at hcodes hF ⊢
  obtain ⟨f, rfl⟩ : ∃ f, F = f + 1 := ⟨F - 1, by omega⟩
  rw [lzwBits_clear, List.append_assoc]
  have h9 : lzwWidth 0 = lzwInit.nbits := rfl
  have hfit : 256 < 2 ^ lzwInit.nbits := by decide
  rw [h9, lzwRun_step f lzwInit 256 _ hfit]
  have hlen2 : (lzwGo clr [] [] 0 0 x).length < f := by
    rw [lzwBits_clear] at hcodes hF
    simp only [List.length_cons, List.length_append, bitsOfNat_length] at hcodes hF
    have := lzwBits_length_ge 0 (lzwGo clr [] [] 0 0 x)
    have := lzwWidth_ge 0
    omega
  have := lzwRun_go clr x [] [] 0 0 stReset f k (.reset [] (Nat.zero_le 1)) hk hlen2
  simp only [feed_clear, this]
  rfl

end PdfVerif.Filters
