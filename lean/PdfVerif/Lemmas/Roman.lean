/-
C17 — roman numerals, place by place.  The specification's table is the symbol `m` followed by three
copies of one four-entry pattern (`decade`), one per decimal place; a pass of the loop of
`format_int_roman` writes one decimal digit (`digit`) with the symbols of its place.  Both the
correctness of the model and the read-back of the specification reduce to facts about one digit.
-/
import PdfVerif.Spec.Labels

namespace PdfVerif.Lemmas.Roman
open PdfVerif PdfVerif.Labels PdfVerif.Gen.LabelTables PdfVerif.Spec.Labels

theorem rep_eq_replicate (s : Text) : ∀ k, rep s k = (List.replicate k s).flatten
  | 0 => rfl
  | k + 1 => by simp [rep, List.replicate_succ, rep_eq_replicate s k]

/-- The table entries of the place with unit `u`, written with the symbols for one (`o`), five (`f`)
and ten (`t`) units. -/
def decade (u : Nat) (o f t : Text) : List (Nat × Text) :=
  [(u * 9, o ++ t), (u * 5, f), (u * 4, o ++ f), (u, o)]

def digit (o f t : Text) (d : Nat) : Text :=
  if d = 9 then o ++ t
  else if d = 4 then o ++ f
  else if d ≥ 5 then f ++ rep o (d - 5)
  else rep o d

theorem romanAux_decade (u : Nat) (o f t : Text) (rest : List (Nat × Text)) (n : Nat) :
    romanAux (decade u o f t ++ rest) n = romanAux (decade 1 o f t) (n / u) ++ romanAux rest (n % u) := by
  simp only [decade, List.cons_append, List.nil_append, romanAux, Nat.one_mul, Nat.div_one,
    List.append_nil, List.append_assoc, ← Nat.div_div_eq_div_mul, Nat.mod_mul_right_div_self,
    Nat.mod_mul_right_mod]

theorem romanAux_digit (o f t : Text) : ∀ d, d < 10 → romanAux (decade 1 o f t) d = digit o f t d
  | 0, _ | 1, _ | 2, _ | 3, _ | 4, _ | 5, _ | 6, _ | 7, _ | 8, _ | 9, _ => by
    simp [decade, romanAux, digit, rep, List.replicate]
  | d + 10, h => absurd h (Nat.not_lt.mpr (Nat.le_add_left 10 d))

theorem romanAux_table (n : Nat) :
    romanAux romanTable n = (List.replicate (n / 1000) [109]).flatten ++ romanAux romanTable.tail (n % 1000) := rfl

theorem romanAux_low (k : Nat) (h : k < 1000) :
    romanAux romanTable.tail k =
      digit [99] [100] [109] (k / 100) ++ (digit [120] [108] [99] (k / 10 % 10) ++ digit [105] [118] [120] (k % 10)) := by
  have table : romanTable = (1000, [109]) ::
      (decade 100 [99] [100] [109] ++ (decade 10 [120] [108] [99] ++ decade 1 [105] [118] [120])) := by decide
  have e1 : k % 100 / 10 = k / 10 % 10 := Nat.mod_mul_right_div_self k 10 10
  have e2 : k % 100 % 10 = k % 10 := Nat.mod_mul_right_mod k 10 10
  rw [table, List.tail_cons, romanAux_decade, romanAux_decade,
    ← List.append_nil (decade 1 [105] [118] [120]), romanAux_decade, e1, e2, Nat.div_one, romanAux, List.append_nil,
    romanAux_digit _ _ _ _ (Nat.div_lt_of_lt_mul h), romanAux_digit _ _ _ _ (Nat.mod_lt _ (by decide)),
    romanAux_digit _ _ _ _ (Nat.mod_lt _ (by decide))]

/-- One pass of the loop, the `while` test included: at value 0 the loop stops, and the digit 0 is the
empty string. -/
theorem romanLoop_succ {i : Nat} {o f t : Text} (ho : listGet ROMAN_ONES i = .ok o)
    (hf : listGet ROMAN_FIVES i = .ok f) (ht : listGet ROMAN_ONES (i + 1) = .ok t) (fuel k : Nat) (r : List Text) :
    ∃ r', romanLoop (fuel + 1) k i r = romanLoop fuel (k / 10) (i + 1) r' ∧
      r'.flatten = digit o f t (k % 10) ++ r.flatten := by
  by_cases hk : k = 0
  · subst hk
    exact ⟨r, by cases fuel <;> simp [romanLoop], by simp [digit, rep]⟩
  rw [romanLoop, if_neg hk, romanStep, ho, hf, ht]
  fun_cases digit o f t (k % 10)
  case case1 h9 => exact ⟨_, by rw [if_pos h9]; rfl, by simp⟩
  case case2 h9 h4 => exact ⟨_, by rw [if_neg h9, if_pos h4]; rfl, by simp⟩
  case case3 h9 h4 h5 => exact ⟨_, by rw [if_neg h9, if_neg h4, if_pos h5]; rfl, by simp⟩
  case case4 h9 h4 h5 => exact ⟨_, by rw [if_neg h9, if_neg h4, if_neg h5]; rfl, by simp⟩

theorem formatIntRoman_all (n : Nat) (h : 0 < n) (hmax : (n : Int) < ROMAN_MAX) :
    formatIntRoman (n : Int) = .ok (romanAux romanTable n) := by
  have hk : n % 1000 < 1000 := Nat.mod_lt _ (by decide)
  obtain ⟨r1, h1, f1⟩ := romanLoop_succ (i := 0) rfl rfl rfl 2 (n % 1000) []
  obtain ⟨r2, h2, f2⟩ := romanLoop_succ (i := 1) rfl rfl rfl 1 (n % 1000 / 10) r1
  obtain ⟨r3, h3, f3⟩ := romanLoop_succ (i := 2) rfl rfl rfl 0 (n % 1000 / 10 / 10) r2
  have e : n % 1000 / 10 / 10 = n % 1000 / 100 := Nat.div_div_eq_div_mul _ 10 10
  have h4 : romanLoop 0 (n % 1000 / 10 / 10 / 10) 3 r3 = .ok r3 := by
    rw [e, Nat.div_div_eq_div_mul, Nat.div_eq_of_lt hk]; rfl
  have hm : listGet ROMAN_ONES 3 = .ok [109] := rfl
  unfold formatIntRoman
  rw [if_pos ⟨Int.natCast_pos.mpr h, hmax⟩, Int.toNat_natCast, h1, h2, h3, h4, hm]
  simp only [bind, Except.bind, pure, Except.pure, List.flatten_cons, f3, f2, f1, e,
    Nat.mod_eq_of_lt (Nat.div_lt_of_lt_mul hk : n % 1000 / 100 < 10), rep_eq_replicate,
    List.flatten_nil, List.append_nil]
  rw [romanAux_table, romanAux_low _ hk]

theorem formatIntRoman_of_roman (v : Int) (r : Text) : roman v.toNat = some r → formatIntRoman v = .ok r := by
  fun_cases roman v.toNat <;> intro h
  case case1 hc =>
    have hv : (v.toNat : Int) = v := Int.toNat_of_nonneg (Int.le_of_lt (Int.lt_toNat.mp hc.1))
    rw [← Option.some.inj h, ← hv]
    exact formatIntRoman_all v.toNat hc.1 (Int.ofNat_lt.mpr hc.2)
  case case2 => cases h

theorem romanDigitValue_le (c : Nat) : romanDigitValue c ≤ 1000 := by
  fun_cases romanDigitValue c <;> decide

/-- Symbols worth at least `u` each, in front of a numeral that starts with a symbol worth at most `u`:
none of them is subtracted on account of what follows, so the values add. -/
theorem romanValueAux_append (u : Nat) (t2 : Text) (h2 : (romanValueAux t2).2 ≤ u) :
    ∀ t1 : Text, (∀ c ∈ t1, u ≤ romanDigitValue c) →
      romanValueAux (t1 ++ t2) =
        ((romanValueAux t1).1 + (romanValueAux t2).1, if t1 = [] then (romanValueAux t2).2 else (romanValueAux t1).2)
  | [], _ => by simp [romanValueAux]
  | c :: tl, h1 => by
    have hc := h1 c List.mem_cons_self
    have cons : ∀ tl, romanValueAux (c :: tl) =
        (if romanDigitValue c < (romanValueAux tl).2 then (romanValueAux tl).1 - (romanDigitValue c : Int)
          else (romanValueAux tl).1 + (romanDigitValue c : Int), romanDigitValue c) := fun _ => rfl
    rw [List.cons_append, cons, cons tl,
      romanValueAux_append u t2 h2 tl (fun x hx => h1 x (List.mem_cons_of_mem c hx))]
    cases tl with
    | nil =>
      have h : ¬ romanDigitValue c < (romanValueAux t2).2 := Nat.not_lt.mpr (Nat.le_trans h2 hc)
      simp only [if_true, if_neg h, romanValueAux, Nat.not_lt_zero, if_false, reduceCtorEq, Int.zero_add]
      rw [Int.add_comm]
    | cons c' tl' =>
      simp only [reduceCtorEq, if_false]
      by_cases h : romanDigitValue c < (romanValueAux (c' :: tl')).2
      · rw [if_pos h, if_pos h, Int.sub_eq_add_neg, Int.sub_eq_add_neg, Int.add_right_comm]
      · rw [if_neg h, if_neg h, Int.add_right_comm]

theorem romanValue_append (u : Nat) (t1 t2 : Text) (h1 : ∀ c ∈ t1, u ≤ romanDigitValue c)
    (h2 : ∀ c ∈ t2, romanDigitValue c ≤ u) : romanValue (t1 ++ t2) = romanValue t1 + romanValue t2 := by
  have h2' : (romanValueAux t2).2 ≤ u := by
    cases t2 with
    | nil => exact Nat.zero_le u
    | cons c tl => exact h2 c List.mem_cons_self
  rw [romanValue, romanValueAux_append u t2 h2' t1 h1]
  rfl

def PlaceOk (u : Nat) (o f t : Text) : Prop :=
  ∀ d < 10, romanValue (digit o f t d) = ((u * d : Nat) : Int) ∧
    ∀ c ∈ digit o f t d, u ≤ romanDigitValue c ∧ romanDigitValue c ≤ 10 * u

theorem places_ok : PlaceOk 100 [99] [100] [109] ∧ PlaceOk 10 [120] [108] [99] ∧ PlaceOk 1 [105] [118] [120] := by
  unfold PlaceOk
  decide

theorem romanValue_ms : ∀ k : Nat, romanValue (List.replicate k [109]).flatten = ((1000 * k : Nat) : Int)
  | 0 => rfl
  | k + 1 => by
    rw [List.replicate_succ, List.flatten_cons,
      romanValue_append 1000 [109] _ (by decide) (fun c _ => romanDigitValue_le c), romanValue_ms k]
    have : romanValue [109] = ((1000 : Nat) : Int) := by decide
    rw [this, ← Int.natCast_add, Nat.mul_succ, Nat.add_comm]

theorem romanValue_all (n : Nat) : romanValue (romanAux romanTable n) = (n : Int) := by
  have hk : n % 1000 < 1000 := Nat.mod_lt _ (by decide)
  obtain ⟨v2, b2⟩ := places_ok.1 (n % 1000 / 100) (Nat.div_lt_of_lt_mul hk)
  obtain ⟨v1, b1⟩ := places_ok.2.1 (n % 1000 / 10 % 10) (Nat.mod_lt _ (by decide))
  obtain ⟨v0, b0⟩ := places_ok.2.2 (n % 1000 % 10) (Nat.mod_lt _ (by decide))
  have hlow : ∀ c ∈ digit [120] [108] [99] (n % 1000 / 10 % 10) ++ digit [105] [118] [120] (n % 1000 % 10),
      romanDigitValue c ≤ 100 := by
    intro c hc
    rcases List.mem_append.mp hc with hc | hc
    · exact (b1 c hc).2
    · exact Nat.le_trans (b0 c hc).2 (by decide)
  rw [romanAux_table, romanAux_low _ hk,
    romanValue_append 1000 _ _ (by simp [romanDigitValue]) (fun c _ => romanDigitValue_le c), romanValue_ms,
    romanValue_append 100 _ _ (fun c hc => (b2 c hc).1) hlow, v2,
    romanValue_append 10 _ _ (fun c hc => (b1 c hc).1) (fun c hc => (b0 c hc).2), v1, v0]
  omega

end PdfVerif.Lemmas.Roman
