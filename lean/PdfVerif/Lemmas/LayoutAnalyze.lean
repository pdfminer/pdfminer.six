/-
The last stage of `LTLayoutContainer.analyze` (`finalBoxes`): with either setting of `boxes_flow` the returned boxes
are the analysed input boxes up to order and `index` (`strip`), numbered in output order, and with a numeric
`boxes_flow` they are the leaves of the hierarchy in depth-first order (`finalBoxes_spec`); `IsUnion`, the
tight hull, with `bbOfList`; and `GroupOK`, what `LTTextGroup.analyze` and `IndexAssigner` leave of a well-formed group
hierarchy (`finalBoxes_groupsOK`).
-/
import Mathlib.Data.List.Nodup
import PdfVerif.Lemmas.LayoutBoxes
namespace PdfVerif.Layout
open PdfVerif PdfVerif.Gen.Layout

variable {le : Cmp}

/-- A box without its number (`IndexAssigner` and `enumFrom` only change `index`). -/
def strip (b : Box) : Box := { b with index := 0 }

theorem strip_bid (b : Box) : (strip b).bid = b.bid := rfl
theorem strip_glyphs (b : Box) : (strip b).glyphs = b.glyphs := rfl
theorem strip_lines (b : Box) : (strip b).lines = b.lines := rfl

theorem analyzeGroups_strip (bf : Rat) : ∀ (ns : List Node) (k : Nat),
    (((analyzeGroups bf ns k).flatMap Node.leaves).map strip).Perm
      (((ns.flatMap Node.leaves).map Box.analyze).map strip)
  | [], _ => .refl _
  | g :: rest, k => by
    simp only [analyzeGroups, List.flatMap_cons, List.map_append]
    exact ((List.Perm.of_eq (node_assign_leaves (g.analyze bf) k)).trans ((node_analyze_leaves bf g).map strip)).append
      (analyzeGroups_strip bf rest _)

theorem analyzeGroups_length (bf : Rat) : ∀ (ns : List Node) (k : Nat), (analyzeGroups bf ns k).length = ns.length
  | [], _ => rfl
  | _ :: r, _ => by simp only [analyzeGroups, List.length_cons, analyzeGroups_length bf r]

theorem analyzeGroups_index (bf : Rat) : ∀ (ns : List Node) (k : Nat),
    ((analyzeGroups bf ns k).flatMap Node.leaves).map (·.index)
      = (List.range' k (ns.flatMap Node.leaves).length).map Int.ofNat
  | [], _ => rfl
  | g :: rest, k => by
    have hlen : (g.analyze bf).leaves.length = g.leaves.length := by
      simpa using (node_analyze_leaves bf g).length_eq
    simp only [analyzeGroups, List.flatMap_cons, List.map_append, List.length_append]
    rw [node_assign_index, analyzeGroups_index bf rest, node_assign_snd, hlen, ← List.range'_append_1, List.map_append]

theorem enumFrom_strip : ∀ (bs : List Box) (k : Nat), (enumFrom k bs).map strip = bs.map strip
  | [], _ => by simp [enumFrom]
  | b :: rest, k => by simp [enumFrom, enumFrom_strip rest (k + 1), strip]

/-- A list whose keys increase strictly is the only arrangement of its members that is sorted by key. -/
theorem mergeSort_eq_of_strict {α : Type} (key : α → Int) {l bs : List α}
    (hl : (l.map key).Pairwise (· < ·)) (hp : bs.Perm l) :
    bs.mergeSort (fun a b => decide (key a ≤ key b)) = l := by
  have hl' := List.pairwise_map.mp hl
  have hs := List.pairwise_mergeSort (le := fun a b => decide (key a ≤ key b))
    (fun a b c h1 h2 => decide_eq_true (le_trans (of_decide_eq_true h1) (of_decide_eq_true h2)))
    (fun a b => by simpa using le_total (key a) (key b)) bs
  refine List.Perm.eq_of_pairwise (le := fun a b => key a ≤ key b) ?_ (hs.imp of_decide_eq_true) (hl'.imp le_of_lt)
    ((List.mergeSort_perm _ _).trans hp)
  intro a b ha hb h1 h2
  exact List.inj_on_of_nodup_map (hl.imp ne_of_lt) (((List.mergeSort_perm _ _).trans hp).subset ha) hb (le_antisymm h1 h2)

/-- Everything the final stage guarantees, for both settings of `boxes_flow`. -/
theorem finalBoxes_spec (p : LAParams) (pageBB : BB) (boxes : List Box)
    (hbid : (boxes.map (·.bid)).Nodup) :
    -- the boxes are the analysed input boxes, renumbered
    (((finalBoxes le p pageBB boxes).1.map strip).Perm ((boxes.map Box.analyze).map strip))
    -- numbered 0..n-1 in output order
    ∧ ((finalBoxes le p pageBB boxes).1.map (·.index) = (List.range' 0 boxes.length).map Int.ofNat)
    -- loop ended by itself, no KeyError
    ∧ (finalBoxes le p pageBB boxes).2.2.fuel = false ∧ (finalBoxes le p pageBB boxes).2.2.err = false
    -- the hierarchy: its leaves in depth-first order are exactly the output boxes
    ∧ (∀ gs, (finalBoxes le p pageBB boxes).2.1 = some gs →
        gs.flatMap Node.leaves = (finalBoxes le p pageBB boxes).1)
    ∧ ((finalBoxes le p pageBB boxes).2.1 = none ↔ p.boxes_flow = none) := by
  unfold finalBoxes
  cases hbf : p.boxes_flow with
  | none =>
    simp only
    refine ⟨?_, ?_, by simp, by simp, by simp, by simp⟩
    · rw [enumFrom_strip]
      exact (List.mergeSort_perm _ _).map strip
    · rw [enumFrom_index, (List.mergeSort_perm _ _).length_eq, List.length_map]
  | some bf =>
    simp only
    have hspec := groupTextboxes_spec (le := le) pageBB boxes
    set leaves := (analyzeGroups bf (groupTextboxes le pageBB boxes).1 0).flatMap Node.leaves with hleaves
    have F1 : (leaves.map strip).Perm ((boxes.map Box.analyze).map strip) :=
      (analyzeGroups_strip bf _ 0).trans ((hspec.1.map Box.analyze).map strip)
    have F2 : leaves.map (·.index) = (List.range' 0 boxes.length).map Int.ofNat := by
      rw [hleaves, analyzeGroups_index, hspec.1.length_eq]
    -- the identity lookup is a bijection between the input boxes and the leaves …
    have hbids : (leaves.map (·.bid)).Perm (boxes.map (·.bid)) := by
      simpa [List.map_map, Function.comp_def, strip, Box.analyze] using F1.map Box.bid
    set look := fun b : Box => (leaves.find? (fun b' => b'.bid == b.bid)).getD b with hlookdef
    have hlook : ∀ b ∈ boxes, look b ∈ leaves ∧ (look b).bid = b.bid := by
      intro b hb
      obtain ⟨c, hc, hcb⟩ := List.mem_map.mp (hbids.symm.subset (List.mem_map_of_mem (f := Box.bid) hb))
      cases hf : leaves.find? (fun b' => b'.bid == b.bid) with
      | none => exact absurd (by simpa using hcb) (List.find?_eq_none.mp hf c hc)
      | some b' => simpa [hlookdef, hf] using ⟨List.mem_of_find?_eq_some hf, by simpa using List.find?_some hf⟩
    have hperm : (boxes.map look).Perm leaves := by
      refine ((List.Nodup.of_map Box.bid ?_).subperm ?_).perm_of_length_le ?_
      · rw [List.map_map, List.map_congr_left (f := Box.bid ∘ look) fun b hb => (hlook b hb).2]; exact hbid
      · exact List.forall_mem_map.mpr fun b hb => (hlook b hb).1
      · simpa using hbids.length_eq.le
    -- … and the leaves are already in the order of their indices
    have heq : (boxes.map look).mergeSort (fun a b => decide (a.index ≤ b.index)) = leaves := by
      refine mergeSort_eq_of_strict Box.index ?_ hperm
      rw [F2, List.pairwise_map]
      exact (List.pairwise_lt_range' 1).imp Int.ofNat_lt.mpr
    rw [heq]
    exact ⟨F1, F2, hspec.2.2.2, hspec.2.2.1, fun gs hgs => by rw [← Option.some.inj hgs], by simp⟩

theorem finalBoxes_glyphs (p : LAParams) (pageBB : BB) (boxes : List Box) (hbid : (boxes.map (·.bid)).Nodup) :
    ((finalBoxes le p pageBB boxes).1.flatMap Box.glyphs).Perm (boxes.flatMap Box.glyphs) := by
  have h := (finalBoxes_spec (le := le) p pageBB boxes hbid).1.flatMap_right Box.glyphs
  simp only [List.flatMap_map, strip_glyphs] at h
  exact h.trans (List.Perm.flatMap_left _ fun b _ => box_analyze_glyphs b)

/-- `bb` is the tight hull of the boxes in `l`: it contains each of them and each of its four
sides is attained by a member. -/
structure IsUnion (bb : BB) (l : List BB) : Prop where
  contains : ∀ b ∈ l, bb.x0 ≤ b.x0 ∧ bb.y0 ≤ b.y0 ∧ b.x1 ≤ bb.x1 ∧ b.y1 ≤ bb.y1
  left : ∃ b ∈ l, bb.x0 = b.x0
  bottom : ∃ b ∈ l, bb.y0 = b.y0
  right : ∃ b ∈ l, bb.x1 = b.x1
  top : ∃ b ∈ l, bb.y1 = b.y1

theorem isUnion_singleton (b : BB) : IsUnion b [b] :=
  ⟨fun c hc => by rw [List.mem_singleton.mp hc]; exact ⟨le_rfl, le_rfl, le_rfl, le_rfl⟩,
   ⟨b, List.mem_singleton_self b, rfl⟩, ⟨b, List.mem_singleton_self b, rfl⟩, ⟨b, List.mem_singleton_self b, rfl⟩,
   ⟨b, List.mem_singleton_self b, rfl⟩⟩

theorem isUnion_union {a : BB} {S : List BB} (h : IsUnion a S) (b : BB) : IsUnion (a.union b) (S ++ [b]) := by
  obtain ⟨hc, ⟨l, hl, hl'⟩, ⟨bo, hbo, hbo'⟩, ⟨r, hr, hr'⟩, ⟨t, ht, ht'⟩⟩ := h
  have side : ∀ f : BB → Rat, (f (a.union b) = f a ∨ f (a.union b) = f b) → (∃ m ∈ S, f a = f m) →
      ∃ m ∈ S ++ [b], f (a.union b) = f m := by
    rintro f (h | h) ⟨m, hm, e⟩
    · exact ⟨m, List.mem_append_left _ hm, h.trans e⟩
    · exact ⟨b, List.mem_append_right _ (List.mem_singleton_self b), h⟩
  refine ⟨?_, side (·.x0) (min_choice _ _) ⟨l, hl, hl'⟩, side (·.y0) (min_choice _ _) ⟨bo, hbo, hbo'⟩,
    side (·.x1) (max_choice _ _) ⟨r, hr, hr'⟩, side (·.y1) (max_choice _ _) ⟨t, ht, ht'⟩⟩
  intro c hc'
  rcases List.mem_append.mp hc' with hc' | hc'
  · have := hc c hc'
    exact ⟨le_trans (min_le_left _ _) this.1, le_trans (min_le_left _ _) this.2.1,
      le_trans this.2.2.1 (le_max_left _ _), le_trans this.2.2.2 (le_max_left _ _)⟩
  · rw [List.mem_singleton.mp hc']
    exact ⟨min_le_right _ _, min_le_right _ _, le_max_right _ _, le_max_right _ _⟩

theorem isUnion_foldl (rest : List BB) : ∀ (a : BB) (S : List BB), IsUnion a S →
    IsUnion (rest.foldl BB.union a) (S ++ rest) := by
  induction rest with
  | nil => intro a S h; simpa using h
  | cons b r ih =>
    intro a S h
    have := ih (a.union b) (S ++ [b]) (isUnion_union h b)
    simpa [List.append_assoc] using this

theorem bbOfList_isUnion (l : List BB) (h : l ≠ []) : IsUnion (bbOfList l) l := by
  cases l with
  | nil => exact absurd rfl h
  | cons b rest =>
    have := isUnion_foldl rest b [b] (isUnion_singleton b)
    simpa [bbOfList] using this

theorem isUnion_perm {bb : BB} {l₁ l₂ : List BB} (hp : l₁.Perm l₂) (h : IsUnion bb l₁) : IsUnion bb l₂ := by
  obtain ⟨hc, ⟨l, hl, hl'⟩, ⟨bo, hbo, hbo'⟩, ⟨r, hr, hr'⟩, ⟨t, ht, ht'⟩⟩ := h
  exact ⟨fun b hb => hc b (hp.symm.subset hb), ⟨l, hp.subset hl, hl'⟩, ⟨bo, hp.subset hbo, hbo'⟩,
    ⟨r, hp.subset hr, hr'⟩, ⟨t, hp.subset ht, ht'⟩⟩

/-- Well-formedness of the analysed group hierarchy. -/
inductive GroupOK (bf : Rat) : Node → Prop
  | leaf (b : Box) : GroupOK bf (.leaf b)
  | grp (t : Bool) (bb : BB) (l r : Node) : GroupOK bf l → GroupOK bf r →
      IsUnion bb [l.bb, r.bb] → t = (l.isVert || r.isVert) →
      groupKey t bf l.bb ≤ groupKey t bf r.bb → GroupOK bf (.grp t bb l r)

theorem node_analyze_isVert (bf : Rat) (n : Node) : (n.analyze bf).isVert = n.isVert := by
  fun_cases Node.analyze bf n <;> rfl

theorem node_assign_bb (n : Node) (k : Nat) : (n.assign k).1.bb = n.bb := by
  cases n <;> rfl

theorem node_assign_isVert (n : Node) (k : Nat) : (n.assign k).1.isVert = n.isVert := by
  cases n <;> rfl

theorem groupOK_analyze (bf : Rat) (n : Node) (h : NodeWF n) : GroupOK bf (n.analyze bf) := by
  fun_induction Node.analyze bf n with
  | case1 b => exact .leaf _
  | case2 t bb l r l' r' hlt ihl ihr =>
    obtain ⟨⟩ | ⟨_, _, _, _, hl, hr, hbb, ht⟩ := h
    refine .grp _ _ _ _ (ihr hr) (ihl hl) ?_ ?_ hlt.le
    · rw [node_analyze_bb, node_analyze_bb, hbb]
      exact isUnion_perm (.swap _ _ _) (isUnion_union (isUnion_singleton l.bb) r.bb)
    · rw [node_analyze_isVert, node_analyze_isVert, ht, Bool.or_comm]
  | case3 t bb l r l' r' hlt ihl ihr =>
    obtain ⟨⟩ | ⟨_, _, _, _, hl, hr, hbb, ht⟩ := h
    refine .grp _ _ _ _ (ihl hl) (ihr hr) ?_ ?_ (not_lt.mp hlt)
    · rw [node_analyze_bb, node_analyze_bb, hbb]
      exact isUnion_union (isUnion_singleton l.bb) r.bb
    · rw [node_analyze_isVert, node_analyze_isVert, ht]

theorem groupOK_assign (bf : Rat) (n : Node) (h : GroupOK bf n) : ∀ k, GroupOK bf (n.assign k).1 := by
  induction h with
  | leaf b => intro k; exact GroupOK.leaf _
  | grp t bb l r _ _ hu ht hk ihl ihr =>
    intro k
    simp only [Node.assign]
    refine GroupOK.grp _ _ _ _ (ihl _) (ihr _) ?_ ?_ ?_
    · rw [node_assign_bb, node_assign_bb]; exact hu
    · rw [node_assign_isVert, node_assign_isVert]; exact ht
    · rw [node_assign_bb, node_assign_bb]; exact hk

theorem groupOK_analyzeGroups (bf : Rat) : ∀ (ns : List Node) (k : Nat), (∀ n ∈ ns, NodeWF n) →
    ∀ g ∈ analyzeGroups bf ns k, GroupOK bf g
  | [], _, _, _, hg => by cases hg
  | n :: rest, k, hwf, g, hg => by
    rcases List.mem_cons.mp hg with rfl | hg
    · exact groupOK_assign bf _ (groupOK_analyze bf n (hwf n List.mem_cons_self)) k
    · exact groupOK_analyzeGroups bf rest _ (fun m hm => hwf m (List.mem_cons_of_mem _ hm)) g hg

theorem finalBoxes_groupsOK (p : LAParams) (pageBB : BB) (boxes : List Box) (bf : Rat)
    (hbf : p.boxes_flow = some bf) :
    ∀ gs, (finalBoxes le p pageBB boxes).2.1 = some gs → ∀ g ∈ gs, GroupOK bf g := by
  intro gs hgs g hg
  unfold finalBoxes at hgs
  rw [hbf] at hgs
  simp only [Option.some.injEq] at hgs
  subst hgs
  exact groupOK_analyzeGroups bf _ 0 (groupTextboxes_spec (le := le) pageBB boxes).2.1 g hg

end PdfVerif.Layout
