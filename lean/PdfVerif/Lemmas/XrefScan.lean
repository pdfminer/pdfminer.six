/-
C02 — fuel sufficiency of the table and body-scan loops, and the body-scan theorem
(`PDFXRefFallback.load`): headers at line starts ⇒ the offsets found are the true offsets.
-/
import PdfVerif.Lemmas.XrefTable

namespace PdfVerif.Xref

open PdfVerif.Gen.Xref

theorem takeLine_bounds {r l : Bytes} {k : Nat} (h : takeLine r = some (l, k)) : 1 ≤ k ∧ k ≤ r.length := by
  fun_induction takeLine r generalizing l k with
  | case1 => cases h
  | case2 => cases h; exact ⟨Nat.le_refl _, Nat.succ_le_succ (Nat.zero_le _)⟩
  | case3 => cases h
  | case4 => cases h; exact ⟨by decide, Nat.succ_le_succ (Nat.succ_le_succ (Nat.zero_le _))⟩
  | case5 => cases h; exact ⟨Nat.le_refl _, Nat.succ_le_succ (Nat.zero_le _)⟩
  | case6 => cases h
  | case7 => rename_i hr ih; cases h; exact ⟨Nat.succ_le_succ (Nat.zero_le _), Nat.succ_le_succ (ih hr).2⟩

theorem tableEntries_fuel {cnt : Nat} {objid : Int} {rest : Bytes} {pos : Nat} {offs : List (Int × Entry)} :
    (∀ o r p, tableEntries cnt objid rest pos offs = .ok (o, r, p) → r.length ≤ rest.length) ∧
    tableEntries cnt objid rest pos offs ≠ .error .recursion := by
  fun_induction tableEntries cnt objid rest pos offs with
  | case1 => exact ⟨fun o r p h => by cases h; exact Nat.le_refl _, nofun⟩
  | case2 => exact ⟨nofun, nofun⟩
  | case3 => exact ⟨nofun, nofun⟩
  | case4 =>
    rename_i ih
    exact ⟨fun o r p h => Nat.le_trans (ih.1 o r p h) (by rw [List.length_drop]; exact Nat.sub_le _ _), ih.2⟩
  | case5 => exact ⟨nofun, nofun⟩

/-- Every iteration consumes at least one byte, so `PDFXRef.load` terminates within one iteration per byte. -/
theorem tableLoop_fuel (fuel : Nat) (rest : Bytes) (pos : Nat) (offs : List (Int × Entry))
    (h : rest.length < fuel) : tableLoop fuel rest pos offs ≠ .error .recursion := by
  have hdrop : ∀ {rest l : Bytes} {k fuel : Nat}, takeLine rest = some (l, k) → rest.length < fuel + 1 →
      (rest.drop k).length < fuel := fun htl h => by
    have hb := takeLine_bounds htl
    rw [List.length_drop]
    exact Nat.lt_of_lt_of_le (Nat.sub_lt (Nat.lt_of_lt_of_le hb.1 hb.2) hb.1) (Nat.le_of_lt_succ h)
  -- one case per branch of `tableLoop`, in its order
  fun_induction tableLoop fuel rest pos offs with
  | case1 => exact absurd h (Nat.not_lt_zero _)
  | case2 => nofun
  | case3 => rename_i ih; exact ih (hdrop ‹_› h)
  | case4 => nofun
  | case5 => nofun
  | case6 => rename_i hte; intro hc; cases hc; exact tableEntries_fuel.2 hte
  | case7 => rename_i hte ih; exact ih (Nat.lt_of_le_of_lt (tableEntries_fuel.1 _ _ _ hte) (hdrop ‹_› h))
  | case8 => nofun
  | case9 => nofun

theorem tableLoad_fuel (data : Bytes) (afterKw : Nat) : tableLoad data afterKw ≠ .error .recursion := by
  unfold tableLoad
  cases htl : takeLine (data.drop afterKw) with
  | none => simp [htl]
  | some lk =>
    simp only [htl]
    exact tableLoop_fuel _ _ _ _ (Nat.lt_succ_of_le (by rw [List.length_drop]; exact Nat.sub_le _ _))

theorem fallbackLoop_fuel (data : Bytes) (ends : List (Nat × Nat × Val)) (fuel pos : Nat)
    (offs : List (Int × Entry)) (h : data.length < pos + fuel) :
    fallbackLoop data ends (fuel + 1) pos offs = fallbackLoop data ends fuel pos offs := by
  rw [fallbackLoop]
  -- one case per branch of the scan with `fuel`; the scan with `fuel + 1` takes the same branch
  fun_induction fallbackLoop data ends fuel pos offs with
  | case1 pos => rw [List.drop_eq_nil_of_le (show data.length ≤ pos from Nat.le_of_lt h)]; rfl
  | case2 _ _ _ htl => simp only [htl]
  | case3 _ _ _ _ _ htl hsw => simp only [htl, hsw, ↓reduceIte]
  | case4 _ _ _ _ _ htl hsw hcue ih =>
    simp only [htl, hsw, hcue, Bool.false_eq_true, ↓reduceIte]
    exact ih (by have := (takeLine_bounds htl).1; omega)
  | case5 _ _ _ _ _ htl hsw _ _ hcue hend => simp only [htl, hsw, hcue, hend, Bool.false_eq_true, ↓reduceIte]
  | case6 _ _ _ _ _ htl hsw _ _ hcue _ _ hend hle =>
    simp only [htl, hsw, hcue, hend, hle, Bool.false_eq_true, ↓reduceIte]
  | case7 _ _ _ _ _ htl hsw _ _ hcue _ _ _ hend _ hle ih =>
    simp only [htl, hsw, hcue, hend, hle, Bool.false_eq_true, ↓reduceIte]
    exact ih (by omega)

theorem fallbackLoop_items (ends : List (Nat × Nat × Val)) (items : List Item) (data tail : Bytes)
    (fuel pos : Nat) (offs : List (Int × Entry)) (hfuel : (itemsBytes items).length < fuel)
    (hdata : data.drop pos = itemsBytes items ++ tail) (hok : ItemsOK ends pos items tail)
    (htail : ∃ l k, takeLine tail = some (l, k) ∧ startsWith l kwTrailer = true) :
    fallbackLoop data ends fuel pos offs =
      .ok (scanSpec pos items offs, some (pos + (itemsBytes items).length)) := by
  induction items generalizing fuel pos offs with
  | nil =>
    obtain ⟨fuel, rfl⟩ := Nat.exists_eq_add_one_of_ne_zero (Nat.ne_of_gt hfuel)
    obtain ⟨l, k, h1, h2⟩ := htail
    rw [fallbackLoop, hdata]
    simp only [itemsBytes, List.nil_append, h1, h2, if_true, scanSpec, List.length_nil, Nat.add_zero]
  | cons i r ih =>
    obtain ⟨fuel, rfl⟩ := Nat.exists_eq_add_one_of_ne_zero (Nat.ne_of_gt (Nat.zero_lt_of_lt hfuel))
    -- every item has at least one byte, so one unit of fuel per item is enough
    rw [itemsBytes, List.length_append] at hfuel
    have hfuel' : 0 < i.bytes.length → (itemsBytes r).length < fuel := fun hi =>
      Nat.lt_of_lt_of_le (Nat.lt_add_of_pos_left hi) (Nat.le_of_lt_succ hfuel)
    have hd : data.drop pos = i.bytes ++ (itemsBytes r ++ tail) := by
      rw [hdata, itemsBytes, List.append_assoc]
    have hnext : data.drop (pos + i.bytes.length) = itemsBytes r ++ tail := by
      rw [← List.drop_drop, hd, List.drop_left]
    have hlen : pos + (itemsBytes (i :: r)).length = pos + i.bytes.length + (itemsBytes r).length := by
      rw [itemsBytes, List.length_append, Nat.add_assoc]
    rw [fallbackLoop, hd, hlen]
    cases i with
    | line l =>
      obtain ⟨htl, hsw, hcue, hrest⟩ := hok
      simp only [Item.bytes, htl, hsw, hcue, Bool.false_eq_true, if_false]
      rw [ih fuel (pos + l.length) offs (hfuel' (takeLine_bounds htl).1) hnext hrest]
      rfl
    | obj n g text =>
      obtain ⟨⟨l, k, htl, hsw, hcue⟩, hne, ⟨v, hends, hv⟩, hrest⟩ := hok
      have hpos : 0 < text.length := List.length_pos_iff.mpr hne
      have hgt : ¬ (pos + text.length ≤ pos) := Nat.not_le.mpr (Nat.lt_add_of_pos_right hpos)
      simp only [Item.bytes, htl, hsw, hcue, hends, Bool.false_eq_true, if_false, hgt]
      cases v with
      | objstm id k t => exact absurd rfl (hv id k t)
      | int _ => exact ih fuel (pos + text.length) _ (hfuel' hpos) hnext hrest
      | plain _ => exact ih fuel (pos + text.length) _ (hfuel' hpos) hnext hrest

theorem takeWhile_stop {p : UInt8 → Bool} (a : Bytes) (c : UInt8) (y : Bytes) (ha : ∀ b ∈ a, p b = true)
    (hc : p c = false) : (a ++ c :: y).takeWhile p = a ∧ (a ++ c :: y).dropWhile p = c :: y := by
  have hc' : ¬ p c = true := Bool.eq_false_iff.mp hc
  rw [List.takeWhile_append_of_pos ha, List.dropWhile_append_of_pos ha, List.takeWhile_cons_of_neg hc',
    List.dropWhile_cons_of_neg hc', List.append_nil]
  exact ⟨rfl, rfl⟩

theorem digit_not_respace {c : UInt8} (h : isDigit c = true) : isReSpace c = false := by
  show (isPySpace c || (decide (28 ≤ c) && decide (c ≤ 31)) || c == 133 || c == 160) = false
  rw [digit_not_space h, digit_not_le h (k := 31) (by decide), isDigit_ne h (k := 133) rfl,
    isDigit_ne h (k := 160) rfl, Bool.and_false]
  rfl

theorem sep_then (a : UInt8) (y : Bytes) (ha : isReSpace a = false) :
    (32 :: a :: y).takeWhile isReSpace = [32] ∧ (32 :: a :: y).dropWhile isReSpace = a :: y :=
  takeWhile_stop [32] a y (by decide) ha

theorem matchCue_digits (d1 d2 : Bytes) (h1 : d1 ≠ []) (h2 : d2 ≠ []) (hd1 : ∀ b ∈ d1, isDigit b = true)
    (hd2 : ∀ b ∈ d2, isDigit b = true) (c : UInt8) (t : Bytes) (hc : isWordByte c = false) :
    matchCue (d1 ++ 32 :: (d2 ++ 32 :: 111 :: 98 :: 106 :: c :: t)) = some (decNat d1, decNat d2) := by
  obtain ⟨a, as, rfl⟩ := List.exists_cons_of_ne_nil h2
  have hr1 := takeWhile_stop (p := isDigit) d1 32 (a :: as ++ 32 :: 111 :: 98 :: 106 :: c :: t) hd1 (by decide)
  have hs1 := sep_then a (as ++ 32 :: 111 :: 98 :: 106 :: c :: t) (digit_not_respace (hd2 a List.mem_cons_self))
  have hr2 := takeWhile_stop (p := isDigit) (a :: as) 32 (111 :: 98 :: 106 :: c :: t) hd2 (by decide)
  have hs2 := sep_then 111 (98 :: 106 :: c :: t) (by decide)
  have hne : d1.isEmpty = false := List.isEmpty_eq_false_iff.mpr h1
  rw [List.cons_append] at hr1 hr2
  unfold matchCue
  simp only [List.cons_append, hr1.1, hr1.2, hs1.1, hs1.2, hr2.1, hr2.2, hs2.1, hs2.2, hne]
  simp [hc]

/-- A line consisting of the EOL bytes only (what separates objects) is a plain line. -/
theorem eol_line_plain (eol : LineEol) (y : Bytes) (hy : StartsNonLF y) :
    takeLine (eol.bytes ++ y) = some (eol.bytes, eol.bytes.length) ∧ startsWith eol.bytes kwTrailer = false ∧
    matchCue eol.bytes = none := by
  have h := takeLine_eol [] eol y noEol_nil hy
  simp only [List.nil_append, List.length_nil, Nat.zero_add] at h
  refine ⟨h, ?_, ?_⟩ <;> cases eol <;> decide

theorem fallbackLoad_items (ends : List (Nat × Nat × Val)) (items : List Item) (tail : Bytes)
    (hok : ItemsOK ends 0 items tail)
    (htail : ∃ l k, takeLine tail = some (l, k) ∧ startsWith l kwTrailer = true) :
    fallbackLoad (itemsBytes items ++ tail) ends = .ok (scanSpec 0 items [], some (itemsBytes items).length) := by
  have h := fallbackLoop_items ends items (itemsBytes items ++ tail) tail
    ((itemsBytes items ++ tail).length + 1) 0 [] ?_ rfl hok htail
  · rwa [Nat.zero_add] at h
  · rw [List.length_append]
    exact Nat.lt_succ_of_le (Nat.le_add_right _ _)

theorem itemsOK_of_itemsOKb (ends : List (Nat × Nat × Val)) (items : List Item) (pos : Nat) (after : Bytes)
    (h : itemsOKb ends pos items after = true) : ItemsOK ends pos items after := by
  fun_induction itemsOKb ends pos items after with
  | case1 => trivial
  | case2 pos l r after ih =>
    simp only [Bool.and_eq_true, beq_iff_eq, Bool.not_eq_true'] at h
    exact ⟨h.1.1.1, h.1.1.2, h.1.2, ih h.2⟩
  | case3 pos n g text r after ih =>
    simp only [Bool.and_eq_true, Bool.not_eq_true'] at h
    obtain ⟨⟨⟨h1, h2⟩, h4⟩, h5⟩ := h
    refine ⟨?_, List.isEmpty_eq_false_iff.mp h2, ?_, ih h5⟩
    · cases htl : takeLine (text ++ (itemsBytes r ++ after)) with
      | none => rw [htl] at h1; cases h1
      | some lk =>
        rw [htl] at h1
        simp only [Bool.and_eq_true, Bool.not_eq_true', beq_iff_eq] at h1
        exact ⟨lk.1, lk.2, rfl, h1.1, h1.2⟩
    · cases hl' : lookupNat ends pos with
      | none => rw [hl'] at h4; cases h4
      | some ev =>
        rw [hl'] at h4
        simp only [Bool.and_eq_true, beq_iff_eq, Bool.not_eq_true'] at h4
        refine ⟨ev.2, by rw [← h4.1], fun id k t hv => ?_⟩
        rw [hv] at h4
        cases h4.2

end PdfVerif.Xref
