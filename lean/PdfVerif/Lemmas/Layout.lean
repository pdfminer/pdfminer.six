/-
`group_objects` puts every glyph into exactly one line and every line it yields satisfies `LineInv`; the analysis
of boxes and groups (sorting, `IndexAssigner`) permutes and renumbers and changes nothing else.
-/
import PdfVerif.Model.Layout

namespace PdfVerif.Layout
open PdfVerif PdfVerif.Gen.Layout

theorem glyphs_newLine (v : Bool) (g : Glyph) : (newLine v g).glyphs = [g] := by
  simp [newLine, Line.glyphs, Elem.glyphs]

theorem glyphs_add (wm : Rat) (l : Line) (g : Glyph) : (l.add wm g).glyphs = l.glyphs ++ [g] := by
  unfold Line.add Line.glyphs
  by_cases h : needSpace wm l g <;> simp [h, Elem.glyphs]

/-- what the loop still owes: the glyphs of the open line, or `obj0` alone -/
def pending (obj0 : Glyph) : Option Line → List Glyph
  | some l => l.glyphs
  | none => [obj0]

theorem go_conserve (p : LAParams) (obj0 : Glyph) (line : Option Line) (rest : List Glyph) :
    (go p obj0 line rest).flatMap Line.glyphs = pending obj0 line ++ rest := by
  fun_induction go p obj0 line rest with
  | case1 obj0 line => cases line <;> simp [pending, glyphs_newLine]
  | _ => simp [*, pending, glyphs_add, glyphs_newLine]

theorem groupObjects_conserve (p : LAParams) (gs : List Glyph) :
    (groupObjects p gs).flatMap Line.glyphs = gs := by
  cases gs with
  | nil => rfl
  | cons g rest => simp [groupObjects, go_conserve, pending]

def Chain (R : Glyph → Glyph → Prop) : List Glyph → Prop
  | [] => True
  | [_] => True
  | a :: b :: r => R a b ∧ Chain R (b :: r)

theorem chain_snoc {R : Glyph → Glyph → Prop} (l : List Glyph) (a g : Glyph) (hc : Chain R l)
    (h : l.getLast? = some a) (r : R a g) : Chain R (l ++ [g]) := by
  induction l with
  | nil => cases h
  | cons x l ih =>
    cases l with
    | nil => cases h; exact ⟨r, trivial⟩
    | cons y rest => exact ⟨hc.1, ih hc.2 (by rwa [List.getLast?_cons_cons] at h)⟩

theorem bbOfList_snoc (l : List BB) (x : BB) (h : l ≠ []) :
    bbOfList (l ++ [x]) = (bbOfList l).union x := by
  cases l with
  | nil => exact absurd rfl h
  | cons b rest => simp [bbOfList, List.foldl_append]

/-- The relation that made two consecutive glyphs share a line of the given class. -/
def aligned (p : LAParams) (vertical : Bool) (a b : Glyph) : Prop :=
  if vertical then valign p a.bb b.bb = true else halign p a.bb b.bb = true

structure LineInv (p : LAParams) (l : Line) : Prop where
  ne : l.glyphs ≠ []
  bb : l.bb = bbOfList (l.glyphs.map (·.bb))
  annos : ∀ c, Elem.anno c ∈ l.elems → c = 32
  uniform : Chain (aligned p l.vertical) l.glyphs
  vert : l.vertical = true → p.detect_vertical = true

theorem lineInv_new (p : LAParams) (v : Bool) (g : Glyph) (hv : v = true → p.detect_vertical = true) :
    LineInv p (newLine v g) := by
  refine ⟨by simp [glyphs_newLine], ?_, ?_, by simp [glyphs_newLine, Chain], hv⟩
  · rw [glyphs_newLine]; simp [newLine, bbOfList]
  · intro c h; simp [newLine] at h

theorem lineInv_add (p : LAParams) (l : Line) (a g : Glyph) (h : LineInv p l)
    (hl : l.glyphs.getLast? = some a) (hr : aligned p l.vertical a g) :
    LineInv p (l.add p.word_margin g) := by
  refine ⟨by simp [glyphs_add], ?_, ?_, ?_, h.vert⟩
  · rw [glyphs_add, List.map_append, List.map_singleton, bbOfList_snoc _ _ (by simpa using h.ne), ← h.bb]
    rfl
  · intro c hc
    unfold Line.add at hc
    simp only [List.mem_append] at hc
    rcases hc with (hc | hc) | hc
    · exact h.annos c hc
    · split at hc <;> simp at hc; exact hc
    · simp at hc
  · rw [glyphs_add]
    exact chain_snoc _ a g h.uniform hl hr

theorem valign_detect {p : LAParams} {a b : BB} (h : valign p a b = true) : p.detect_vertical = true := by
  unfold valign at h
  simp only [Bool.and_eq_true] at h
  exact h.1.1.1

/-- Induction over the lines that `group_objects` yields: a property that holds of every fresh line and is kept
when a glyph aligned with the latest one is added holds of every yielded line. -/
theorem go_induct (p : LAParams) {P : Line → Prop}
    (hnew : ∀ v g, (v = true → p.detect_vertical = true) → P (newLine v g))
    (hadd : ∀ l a g, P l → l.glyphs.getLast? = some a → aligned p l.vertical a g → P (l.add p.word_margin g))
    (obj0 : Glyph) (line : Option Line) (rest : List Glyph)
    (hline : ∀ l, line = some l → P l ∧ l.glyphs.getLast? = some obj0) :
    ∀ l' ∈ go p obj0 line rest, P l' := by
  -- the open line stays good when the next glyph, aligned with its latest one, joins it
  have join : ∀ {l a g}, P l ∧ l.glyphs.getLast? = some a → aligned p l.vertical a g →
      ∀ l2, some (l.add p.word_margin g) = some l2 → P l2 ∧ l2.glyphs.getLast? = some g := by
    rintro l a g ⟨hP, hlast⟩ hal _ ⟨⟩
    exact ⟨hadd l a g hP hlast hal, by simp [glyphs_add]⟩
  have fresh : ∀ v g, (v = true → p.detect_vertical = true) →
      P (newLine v g) ∧ (newLine v g).glyphs.getLast? = some g := fun v g hv => ⟨hnew v g hv, rfl⟩
  fun_induction go p obj0 line rest with
  | case1 obj0 line =>
    cases line with
    | none => simpa using hnew false obj0 nofun
    | some l => simpa using (hline l rfl).1
  | case2 obj0 obj1 rest h v l hc ih =>
    refine ih (join (hline l rfl) ?_)
    cases hv : l.vertical <;> simpa [aligned, hv, h, v] using hc
  | case3 obj0 obj1 rest h v l hc ih => exact List.forall_mem_cons.mpr ⟨(hline l rfl).1, ih (by simp)⟩
  | case4 obj0 obj1 rest h v hc ih =>
    simp only [Bool.and_eq_true] at hc
    exact ih (join (fresh true obj0 fun _ => valign_detect hc.1) hc.1)
  | case5 obj0 obj1 rest h v _ hc ih =>
    simp only [Bool.and_eq_true] at hc
    exact ih (join (fresh false obj0 nofun) hc.1)
  | case6 obj0 obj1 rest h v _ _ ih => exact List.forall_mem_cons.mpr ⟨hnew false obj0 nofun, ih (by simp)⟩

theorem groupObjects_induct (p : LAParams) {P : Line → Prop}
    (hnew : ∀ v g, (v = true → p.detect_vertical = true) → P (newLine v g))
    (hadd : ∀ l a g, P l → l.glyphs.getLast? = some a → aligned p l.vertical a g → P (l.add p.word_margin g))
    (gs : List Glyph) : ∀ l ∈ groupObjects p gs, P l := by
  cases gs with
  | nil => simp [groupObjects]
  | cons g rest => exact go_induct p hnew hadd g none rest (by simp)

theorem groupObjects_inv (p : LAParams) (gs : List Glyph) : ∀ l ∈ groupObjects p gs, LineInv p l :=
  groupObjects_induct p (lineInv_new p) (lineInv_add p) gs

theorem sortByKey_perm {α : Type} (key : α → Rat) (l : List α) : (sortByKey key l).Perm l :=
  List.mergeSort_perm _ _

theorem sortByKey_sorted {α : Type} (key : α → Rat) (l : List α) :
    (sortByKey key l).Pairwise (fun a b => key a ≤ key b) := by
  have h := List.pairwise_mergeSort (le := fun a b => decide (key a ≤ key b))
    (by intro a b c h1 h2; simp only [decide_eq_true_eq] at *; exact Rat.le_trans h1 h2)
    (by intro a b; simp only [Bool.or_eq_true, decide_eq_true_eq]; exact Rat.le_total) l
  exact h.imp (by intro a b h; simpa using h)

theorem glyphs_analyze (l : Line) : l.analyze.glyphs = l.glyphs := by
  simp [Line.analyze, Line.glyphs, Elem.glyphs]

theorem text_analyze (l : Line) : l.analyze.text = l.text ++ [10] := by
  simp [Line.analyze, Line.text, Elem.text]

theorem box_analyze_perm (b : Box) : b.analyze.lines.Perm (b.lines.map Line.analyze) := by
  unfold Box.analyze; exact sortByKey_perm _ _

theorem box_analyze_sorted (b : Box) : b.analyze.lines.Pairwise
    (fun l₁ l₂ => if b.vertical then l₂.bb.x1 ≤ l₁.bb.x1 else l₂.bb.y1 ≤ l₁.bb.y1) := by
  refine (sortByKey_sorted _ (b.lines.map Line.analyze)).imp fun {l₁ l₂} hle => ?_
  cases hv : b.vertical <;> simpa [hv, box_key_v, box_key_h] using hle

theorem box_analyze_bb (b : Box) : b.analyze.bb = b.bb := rfl
theorem box_analyze_vertical (b : Box) : b.analyze.vertical = b.vertical := rfl
theorem box_analyze_bid (b : Box) : b.analyze.bid = b.bid := rfl

theorem box_analyze_glyphs (b : Box) : b.analyze.glyphs.Perm b.glyphs := by
  unfold Box.glyphs
  refine (List.Perm.flatMap_right _ (box_analyze_perm b)).trans ?_
  rw [List.flatMap_map]
  simp [glyphs_analyze]

def Node.glyphs (n : Node) : List Glyph := n.leaves.flatMap Box.glyphs

theorem node_analyze_leaves (bf : Rat) (n : Node) :
    (n.analyze bf).leaves.Perm (n.leaves.map Box.analyze) := by
  induction n with
  | leaf b => simp [Node.analyze, Node.leaves]
  | grp t bb l r ihl ihr =>
    simp only [Node.analyze]
    split <;> simp only [Node.leaves, List.map_append]
    · exact List.perm_append_comm.trans (ihl.append ihr)
    · exact ihl.append ihr

theorem node_analyze_bb (bf : Rat) (n : Node) : (n.analyze bf).bb = n.bb := by
  cases n with
  | leaf b => rfl
  | grp t bb l r => simp only [Node.analyze]; split <;> rfl

theorem node_assign_snd (n : Node) : ∀ k, (n.assign k).2 = k + n.leaves.length := by
  induction n with
  | leaf b => intro k; simp [Node.assign, Node.leaves]
  | grp t bb l r ihl ihr =>
    intro k
    simp only [Node.assign, Node.leaves, List.length_append, ihl, ihr]
    omega

/-- `assign` numbers the leaves `k, k+1, …` in depth-first order … -/
theorem node_assign_index (n : Node) : ∀ k,
    (n.assign k).1.leaves.map (·.index) = (List.range' k n.leaves.length).map Int.ofNat := by
  induction n with
  | leaf b => intro k; simp [Node.assign, Node.leaves]
  | grp t bb l r ihl ihr =>
    intro k
    simp only [Node.assign, Node.leaves, List.map_append, List.length_append, ihl, ihr, node_assign_snd]
    rw [← List.range'_append_1, List.map_append]

/-- … and changes nothing else. -/
theorem node_assign_leaves (n : Node) : ∀ k,
    (n.assign k).1.leaves.map (fun b => { b with index := 0 }) = n.leaves.map (fun b => { b with index := 0 }) := by
  induction n with
  | leaf b => intro k; simp [Node.assign, Node.leaves]
  | grp t bb l r ihl ihr =>
    intro k
    simp only [Node.assign, Node.leaves, List.map_append, ihl, ihr]

theorem enumFrom_index : ∀ (bs : List Box) (k : Nat),
    (enumFrom k bs).map (·.index) = (List.range' k bs.length).map Int.ofNat
  | [], _ => by simp [enumFrom]
  | b :: rest, k => by simp [enumFrom, enumFrom_index rest (k + 1), List.range'_succ]

end PdfVerif.Layout
