/-
Lemmas about the inline-image glue (Model/InlineDict.lean): the dictionary a writer produces, with
abbreviated or full key names, is assembled as expected, tells the size of the data, selects the
`EI` end marker and yields the LTImage fields.
-/
import PdfVerif.Model.InlineDict
import PdfVerif.Lemmas.Inline
import PdfVerif.Lemmas.Bmp
import PdfVerif.Lemmas.InlineAssemble

namespace PdfVerif.InlineDictLemmas
open PdfVerif PdfVerif.InlineDict PdfVerif.Inline PdfVerif.InlineLemmas PdfVerif.Bmp PdfVerif.BmpLemmas
open PdfVerif.Gen.ImageGen

def bpcOf : Kind → Int
  | .gray8 => 8 | .rgb8 => 8 | .bit1 => 1

def csNameOf (abbr : Bool) : Kind → Bytes
  | .gray8 => if abbr then nG else nDeviceGray
  | .rgb8 => if abbr then nRGB else nDeviceRGB
  | .bit1 => if abbr then nG else nDeviceGray

/-- How a writer spells the four entries: each key short (`/W /H /BPC /CS`) or in full, and the
    colour space value short (`/G`, `/RGB`) or in full — every mixture is valid between BI and ID. -/
structure Spell where
  kw : Bool
  kh : Bool
  kb : Bool
  kc : Bool
  vc : Bool
  deriving DecidableEq, Repr

def Spell.keyW (s : Spell) : Bytes := if s.kw then kW else kWidth
def Spell.keyH (s : Spell) : Bytes := if s.kh then kH else kHeight
def Spell.keyB (s : Spell) : Bytes := if s.kb then kBPC else kBitsPerComponent
def Spell.keyC (s : Spell) : Bytes := if s.kc then kCS else kColorSpace

/-- The operands a writer puts between `BI` and `ID`. -/
def writerObjs (s : Spell) (k : Kind) (w h : Nat) : List Val :=
  [.name s.keyW, .int w, .name s.keyH, .int h, .name s.keyB, .int (bpcOf k), .name s.keyC, .name (csNameOf s.vc k)]

def writerDict (s : Spell) (k : Kind) (w h : Nat) : Dict :=
  [(s.keyW, .int w), (s.keyH, .int h), (s.keyB, .int (bpcOf k)), (s.keyC, .name (csNameOf s.vc k))]

theorem assemble_writer (s : Spell) (k : Kind) (w h : Nat) :
    assemble (writerObjs s k w h) = .ok (writerDict s k w h) := by
  have hk : [s.keyW, s.keyH, s.keyB, s.keyC].Nodup := by
    obtain ⟨kw, kh, kb, kc, vc⟩ := s
    show [if kw then kW else kWidth, if kh then kH else kHeight, if kb then kBPC else kBitsPerComponent,
      if kc then kCS else kColorSpace].Nodup
    revert kw kh kb kc
    decide
  exact (assemble_objsOf (writerDict s k w h)).trans
    (congrArg Except.ok ((foldl_dictSet_nodup (writerDict s k w h) [] hk).trans (List.nil_append _)))

theorem get_writer (s : Spell) (k : Kind) (w h : Nat) :
    getAny (writerDict s k w h) sizeKeysFilter = none ∧
    getAny (writerDict s k w h) sizeKeysWidth = some (.int w) ∧
    getAny (writerDict s k w h) sizeKeysHeight = some (.int h) ∧
    getAny (writerDict s k w h) sizeKeysImageMask = none ∧
    getAny (writerDict s k w h) sizeKeysBits = some (.int (bpcOf k)) ∧
    getAny (writerDict s k w h) sizeKeysColorSpace = some (.name (csNameOf s.vc k)) := by
  obtain ⟨kw, kh, kb, kc, vc⟩ := s
  cases kw <;> cases kh <;> cases kb <;> cases kc <;> exact ⟨rfl, rfl, rfl, rfl, rfl, rfl⟩

/-- The same look-ups through the key tuples of `LTImage.__init__` / `do_EI` / `do_keyword`. -/
theorem get_writer_lt (s : Spell) (k : Kind) (w h : Nat) :
    getAny (writerDict s k w h) keysEosFilter = none ∧
    getAny (writerDict s k w h) keysWidth = some (.int w) ∧
    getAny (writerDict s k w h) keysHeight = some (.int h) ∧
    getAny (writerDict s k w h) keysImageMask = none ∧
    getAny (writerDict s k w h) keysBits = some (.int (bpcOf k)) ∧
    getAny (writerDict s k w h) keysColorSpace = some (.name (csNameOf s.vc k)) ∧
    getAny (writerDict s k w h) doEIKeysWidth = some (.int w) ∧
    getAny (writerDict s k w h) doEIKeysHeight = some (.int h) := by
  obtain ⟨g1, g2, g3, g4, g5, g6⟩ := get_writer s k w h
  exact ⟨g1, g2, g3, g4, g5, g6, g2, g3⟩

theorem eos_writer (s : Spell) (k : Kind) (w h : Nat) : eosOf (writerDict s k w h) = .ok EI := by
  rw [eosOf, (get_writer_lt s k w h).1]
  rfl

theorem doEI_writer (s : Spell) (k : Kind) (w h : Nat) :
    doEI (writerDict s k w h) =
      some ⟨.int w, .int h, .int (bpcOf k), [some (.name (csNameOf s.vc k))], none⟩ := by
  obtain ⟨_, g2, g3, g4, g5, g6, g7, g8⟩ := get_writer_lt s k w h
  rw [doEI, g2, g3, g4, g5, g6, g7, g8]
  rfl

theorem data_size_rows (k : Kind) (w h : Nat) :
    (image_data_size (w : Int) (h : Int) (bpcOf k) ((if k = .rgb8 then 3 else 1 : Nat) : Int)).toNat =
      h * rowBytes k w := by
  have hrow : pyDiv ((w : Int) * bpcOf k * ((if k = .rgb8 then 3 else 1 : Nat) : Int) + 7) 8 =
      ((rowBytes k w : Nat) : Int) := by
    unfold pyDiv
    cases k <;> simp only [bpcOf, rowBytes] <;> rw [Int.fdiv_eq_ediv_of_nonneg _ (by simp)] <;> simp <;> omega
  rw [image_data_size, hrow, ← Int.natCast_mul, Int.toNat_natCast]

theorem size_writer (s : Spell) (k : Kind) (w h : Nat) (hw : 1 ≤ w) (hh : 1 ≤ h) :
    inlineSize (writerDict s k w h) = some (h * rowBytes k w) := by
  obtain ⟨g1, g2, g3, g4, g5, g6⟩ := get_writer s k w h
  have hn : componentsOf (csNameOf s.vc k) = some (if k = .rgb8 then 3 else 1) := by
    cases s.vc <;> cases k <;> rfl
  have hb : posInt (some (.int (bpcOf k))) = some (bpcOf k) := by cases k <;> rfl
  have hp : ∀ n : Nat, 1 ≤ n → posInt (some (.int n)) = some (n : Int) := fun n hn => if_pos (by omega)
  rw [inlineSize, g1, g2, g3, g4, g5, g6]
  simp only [hp w hw, hp h hh, hb, hn, isPyTrue, Bool.false_eq_true, if_false]
  exact congrArg some (data_size_rows k w h)

end PdfVerif.InlineDictLemmas
