/- C11: a generic renderer of tags and character data, and the raw lexer of the XML reader as its inverse. -/
import PdfVerif.Lemmas.Convert

namespace PdfVerif.Xml
open PdfVerif.Convert

def renderAttrs : List (Str × Str) → Str
  | [] => []
  | (k, v) :: r => ' ' :: (k ++ '=' :: '"' :: (v ++ '"' :: renderAttrs r))

def closeStr (sp sc : Bool) : Str := (if sp then [' '] else []) ++ (if sc then ['/', '>'] else ['>'])

def tagBody : Tag → Str
  | .decl b => '?' :: (b ++ ['?', '>'])
  | .stag n as sp sc => n ++ (renderAttrs as ++ closeStr sp sc)
  | .etag n => '/' :: (n ++ ['>'])

def renderTok (t : Tok) : Str := '<' :: (tagBody t.tag ++ t.tail)

def NameOk (n : Str) : Prop := n ≠ [] ∧ ∀ c ∈ n, isNameChar c = true
def ValOk (v : Str) : Prop := ∀ c ∈ v, c ≠ '"' ∧ c ≠ '<'
def TailOk (t : Str) : Prop := ∀ c ∈ t, c ≠ '<'
def AttrsOk (as : List (Str × Str)) : Prop := ∀ kv ∈ as, NameOk kv.1 ∧ ValOk kv.2

def TagOk : Tag → Prop
  | .decl b => ∀ c ∈ b, c ≠ '?'
  | .stag n as _ _ => NameOk n ∧ AttrsOk as
  | .etag n => NameOk n

def TokOk (t : Tok) : Prop := TagOk t.tag ∧ TailOk t.tail

theorem nameChar_ne {c : Char} (h : isNameChar c = true) :
    c ≠ '?' ∧ c ≠ '/' ∧ c ≠ '>' ∧ c ≠ '=' ∧ isSpace c = false := by
  have ne : ∀ d : Char, isNameChar d = false → c ≠ d := fun d hd e => by rw [e, hd] at h; cases h
  refine ⟨ne _ rfl, ne _ rfl, ne _ rfl, ne _ rfl, ?_⟩
  simp only [isSpace, Bool.or_eq_false_iff, decide_eq_false_iff_not]
  exact ⟨⟨⟨ne _ rfl, ne _ rfl⟩, ne _ rfl⟩, ne _ rfl⟩

theorem lex_run (S : Str → LexSt) (ok : Char → Prop)
    (step : ∀ acc c cs, ok c → lexGo (S acc) (c :: cs) = lexGo (S (acc ++ [c])) cs)
    (acc n rest : Str) (hn : ∀ c ∈ n, ok c) : lexGo (S acc) (n ++ rest) = lexGo (S (acc ++ n)) rest := by
  induction n generalizing acc with
  | nil => rw [List.nil_append, List.append_nil]
  | cons c n ih =>
    obtain ⟨hc, hn⟩ := List.forall_mem_cons.mp hn
    rw [List.cons_append, step _ _ _ hc, ih _ hn, List.append_assoc]; rfl

theorem lex_sname (acc n rest : Str) (hn : ∀ c ∈ n, isNameChar c = true) :
    lexGo (.sname acc) (n ++ rest) = lexGo (.sname (acc ++ n)) rest :=
  lex_run .sname _ (fun _ _ _ h => by simp only [lexGo, h, if_true]) acc n rest hn

theorem lex_ename (acc n rest : Str) (hn : ∀ c ∈ n, isNameChar c = true) :
    lexGo (.ename acc) (n ++ rest) = lexGo (.ename (acc ++ n)) rest :=
  lex_run .ename _ (fun _ _ _ h => by simp only [lexGo, h, (nameChar_ne h).2.2.1, if_true, if_false]) acc n rest hn

theorem lex_aname (nm : Str) (as : List (Str × Str)) (acc n rest : Str) (hn : ∀ c ∈ n, isNameChar c = true) :
    lexGo (.aname nm as acc) (n ++ rest) = lexGo (.aname nm as (acc ++ n)) rest :=
  lex_run (.aname nm as) _ (fun _ _ _ h => by simp only [lexGo, h, (nameChar_ne h).2.2.2.1, if_true, if_false])
    acc n rest hn

theorem lex_aval (nm : Str) (as : List (Str × Str)) (an acc v rest : Str) (hv : ValOk v) :
    lexGo (.aval nm as an acc) (v ++ '"' :: rest) = lexGo (.inTag nm (as ++ [(an, acc ++ v)]) false) rest := by
  rw [lex_run (.aval nm as an) _ (fun _ _ _ h => by simp only [lexGo, h.1, h.2, if_false]) acc v _ hv, lexGo,
    if_pos rfl]

theorem lex_tail (tag : Tag) (acc t : Str) (ht : TailOk t) (rest : Str) :
    lexGo (.tail tag acc) (t ++ rest) = lexGo (.tail tag (acc ++ t)) rest :=
  lex_run (.tail tag) _ (fun _ _ _ h => by simp only [lexGo, h, if_false]) acc t rest ht

theorem lex_pi (acc b rest : Str) (hb : ∀ c ∈ b, c ≠ '?') :
    lexGo (.pi acc false) (b ++ '?' :: '>' :: rest) = lexGo (.tail (.decl (acc ++ b)) []) rest := by
  rw [lex_run (.pi · false) _
    (fun _ _ _ h => by simp only [lexGo, h, Bool.and_false, Bool.false_eq_true, if_false]) acc b _ hb]
  simp [lexGo]

theorem lex_attrs (nm : Str) (as0 as : List (Str × Str)) (has : AttrsOk as) (rest : Str) :
    lexGo (.inTag nm as0 false) (renderAttrs as ++ rest) = lexGo (.inTag nm (as0 ++ as) false) rest := by
  fun_induction renderAttrs as generalizing as0 with
  | case1 => simp
  | case2 k v as ih =>
    obtain ⟨⟨⟨hk0, hk⟩, hv⟩, has'⟩ := List.forall_mem_cons.mp has
    cases k with
    | nil => exact absurd rfl hk0
    | cons c k =>
      obtain ⟨hc, hk⟩ := List.forall_mem_cons.mp hk
      have hne := nameChar_ne hc
      have hsp : isSpace ' ' = true := rfl
      simp only [List.cons_append, List.append_assoc, lexGo, hsp, if_true, hne.2.2.2.2, hne.2.2.1, hne.2.1, hc,
        Bool.false_eq_true, if_false]
      rw [lex_aname nm as0 [c] k _ hk]
      simp only [lexGo, if_true]
      rw [lex_aval nm as0 _ [] v _ hv]
      simpa using ih (as0 ++ [(c :: k, v)]) has'

theorem lex_close_inTag (nm : Str) (as : List (Str × Str)) (sp sc : Bool) (rest : Str) :
    lexGo (.inTag nm as false) (closeStr sp sc ++ rest) = lexGo (.tail (.stag nm as sp sc) []) rest := by
  cases sp <;> cases sc <;> rfl

theorem lex_close_sname (nm : Str) (sp sc : Bool) (rest : Str) :
    lexGo (.sname nm) (closeStr sp sc ++ rest) = lexGo (.tail (.stag nm [] sp sc) []) rest := by
  cases sp <;> cases sc <;> rfl

theorem lex_tag (tag : Tag) (h : TagOk tag) (rest : Str) :
    lexGo .lt (tagBody tag ++ rest) = lexGo (.tail tag []) rest := by
  cases tag with
  | decl b =>
    simp only [tagBody, List.cons_append, List.append_assoc, lexGo, if_true]
    simpa using lex_pi [] b rest h
  | etag n =>
    obtain ⟨h0, hn⟩ := h
    have hq : ('/' : Char) ≠ '?' := by decide
    simp only [tagBody, List.cons_append, List.append_assoc, lexGo, hq, if_true, if_false]
    rw [lex_ename [] n _ hn]
    simp [lexGo, h0]
  | stag n as sp sc =>
    obtain ⟨⟨h0, hn⟩, has⟩ := h
    cases n with
    | nil => exact absurd rfl h0
    | cons c n =>
      obtain ⟨hc, hn⟩ := List.forall_mem_cons.mp hn
      have hne := nameChar_ne hc
      simp only [tagBody, List.cons_append, List.append_assoc, lexGo, hne.1, hne.2.1, hc, if_true, if_false]
      rw [lex_sname [c] n _ hn]
      simp only [List.singleton_append]
      cases as with
      | nil => simpa [renderAttrs] using lex_close_sname (c :: n) sp sc rest
      | cons kv as' =>
        -- after the name a space follows: same as continuing from `inTag … false`
        have hstep : ∀ Y, lexGo (.sname (c :: n)) (' ' :: Y) = lexGo (.inTag (c :: n) [] false) (' ' :: Y) := by
          intro Y; simp [lexGo, isSpace, isNameChar]
        obtain ⟨k, v⟩ := kv
        have := lex_attrs (c :: n) [] ((k, v) :: as') has (closeStr sp sc ++ rest)
        simp only [renderAttrs, List.cons_append, List.append_assoc, List.nil_append] at this ⊢
        rw [hstep, this, lex_close_inTag]

theorem lex_render (ts : List Tok) (h : ∀ t ∈ ts, TokOk t) : lexRaw (ts.flatMap renderTok) = some ts := by
  induction ts with
  | nil => rfl
  | cons t ts ih =>
    obtain ⟨ht, hts⟩ := List.forall_mem_cons.mp h
    obtain ⟨tag, tail⟩ := t
    simp only [lexRaw, List.flatMap_cons, renderTok, List.cons_append, List.append_assoc, lexGo, if_true]
    rw [lex_tag tag ht.1, lex_tail tag [] tail ht.2]
    -- the tail ends at the `<` of the next token, or at the end of the input
    cases ts with
    | nil => rfl
    | cons u us =>
      have ih' := ih hts
      simp only [lexRaw, List.flatMap_cons, renderTok, List.cons_append, lexGo, if_true] at ih' ⊢
      rw [ih']; rfl

end PdfVerif.Xml
