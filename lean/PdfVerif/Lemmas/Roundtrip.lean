/-
Units for every kind of token, spelled trees (`STree`, with `bytesOf`, `valueOf` and the conformance
predicate `wfE`), and the theorem that the bytes of a spelled tree lex to the token sequence of its
value — with minimal delimiters and comments (`lex_tree`).  Then sequences of trees (`lex_seq`), from
bytes to objects (`objects_spelled`), and the spelling of an indirect object `n g obj … endobj`
(`ObjSpelling`, `lex_obj`).
-/
import PdfVerif.Lemmas.LexUnits
import PdfVerif.Lemmas.StackParser

namespace PdfVerif.Lexer
open PdfVerif PdfVerif.Gen.LexTables

theorem LexUnit.of_token {s : Bytes} {t : Token} (h0 : s.headD 62 ≠ 62)
    (h : ∀ (st : St) (d : UInt8) (rest : Bytes) (pos : Nat), st.mode = .main → isDW d = true →
      ∃ st', st'.mode = .main ∧
        (foldBytes st (s ++ d :: rest) pos).2 = (pos, t) :: (foldBytes st' (d :: rest) (pos + s.length)).2) :
    LexUnit s [t] true := by
  cases s with
  | nil => simp at h0
  | cons b tl =>
    refine LexUnit.of_main (by simpa using h0) fun st d rest pos hm hd => ?_
    obtain ⟨st', hm', e⟩ := h st d rest pos hm (hd rfl)
    exact ⟨st', Or.inl hm', by rw [e]; simp [tokVals]⟩

theorem number_start_ne_62 {c : UInt8} (hc : isDigit c = true ∨ c = 43 ∨ c = 45) : c ≠ 62 := by
  rintro rfl; revert hc; decide

theorem unit_int (sign ds : Bytes)
    (hs : sign = [] ∨ sign = [43] ∨ sign = [45]) (hne : ds ≠ []) (hd : ∀ c ∈ ds, isDigit c = true)
    (hlen : ds.length ≤ 4300) : LexUnit (sign ++ ds) [Token.int (intValue sign ds)] true := by
  obtain ⟨c, t, hct, hc, -⟩ := sign_digits_cons sign ds hs (by simp [hne]) hd
  apply LexUnit.of_token (by rw [hct]; exact number_start_ne_62 hc)
  intro st d rest pos hm hdw
  obtain ⟨hen, h46, -, -, -⟩ := dw_class d hdw
  exact ⟨_, rfl, int_token st hm sign ds d rest pos hs hne hd hlen hen h46⟩

theorem unit_real (sign ip fp : Bytes)
    (hs : sign = [] ∨ sign = [43] ∨ sign = [45]) (hip : ∀ c ∈ ip, isDigit c = true)
    (hfp : ∀ c ∈ fp, isDigit c = true) (hne : ¬ (ip = [] ∧ fp = [])) :
    LexUnit (sign ++ ip ++ 46 :: fp) [Token.real (sign ++ ip ++ 46 :: fp)] true := by
  have h0 : (sign ++ ip ++ 46 :: fp).headD 62 ≠ 62 := by
    by_cases he : sign ++ ip = []
    · simp [he]
    · obtain ⟨c, t, hct, hc, -⟩ := sign_digits_cons sign ip hs he hip
      rw [hct]; exact number_start_ne_62 hc
  apply LexUnit.of_token h0
  intro st d rest pos hm hdw
  exact ⟨_, rfl, real_token st hm sign ip fp d rest pos hs hip hfp hne (dw_class d hdw).1⟩

theorem unit_name (items : List NameItem) (hok : ∀ i ∈ items, i.ok) :
    LexUnit (47 :: renderName items) [Token.lit (nameValue items)] true := by
  apply LexUnit.of_token (by simp)
  intro st d rest pos hm hdw
  obtain ⟨-, -, hel, h35, -⟩ := dw_class d hdw
  obtain ⟨st', hm', e⟩ := name_token st hm items hok d rest pos hel h35
  have hl : pos + (47 :: renderName items).length = pos + 1 + (renderName items).length := by
    rw [List.length_cons]; omega
  exact ⟨st', hm', hl ▸ e⟩

theorem unit_keyword (c : UInt8) (w : Bytes) (hc : isAlpha c = true) (hw : ∀ x ∈ w, isAlpha x = true) :
    LexUnit (c :: w)
      [if (c :: w) == kwTrue then Token.bool true else if (c :: w) == kwFalse then Token.bool false
       else Token.kwd (c :: w)] true := by
  apply LexUnit.of_token (by rintro rfl; revert hc; decide)
  intro st d rest pos hm hdw
  obtain ⟨-, -, -, -, hek⟩ := dw_class d hdw
  exact ⟨_, rfl, keyword_token st hm c w d rest pos hc hw hek⟩

theorem unit_string (items : List StrItem) (hok : ∀ i ∈ items, i.ok) (hch : chainOK items)
    (hbal : depthAfter 0 items = some 0) :
    LexUnit (40 :: (renderStr items ++ [41])) [Token.str (strValue items)] false := by
  apply LexUnit.of_fold (by decide)
  intro st pos hm
  obtain ⟨st', hm', e⟩ := string_token st hm items pos hok hch hbal
  rw [List.cons_append] at e
  rw [e]; exact ⟨.inl hm', rfl⟩

def hexDigitsOf (body : Bytes) : Bytes := body.filter (fun c => !isSPC c)

/-- ends in `_parse_wclose` (a hand-over state) -/
theorem unit_hex (body : Bytes) (n : Nat)
    (hb : ∀ c ∈ body, isHEX c = true ∨ isSPC c = true) (heven : (hexDigitsOf body).length = 2 * n) :
    LexUnit (60 :: (body ++ [62])) [Token.str (pairUp (hexDigitsOf body))] false := by
  apply LexUnit.of_fold (by decide)
  intro st pos hm
  have h := hex_spelling st hm body pos n hb heven
  simp only [List.cons_append] at h
  rw [h]; exact ⟨.inr rfl, by simp [tokVals, hexDigitsOf]⟩

end PdfVerif.Lexer

namespace PdfVerif.Roundtrip
open PdfVerif PdfVerif.Lexer PdfVerif.StackParser PdfVerif.Gen.LexTables

/-- A tree together with ONE conformant way of writing it: every token carries its spelling choice
    and the separator (white space and comments, possibly none) that follows it. -/
inductive STree where
  | null (g : List SepItem)
  | bool (b : Bool) (g : List SepItem)
  | int (sign ds : Bytes) (g : List SepItem)
  | real (sign ip fp : Bytes) (g : List SepItem)
  | name (items : List NameItem) (g : List SepItem)
  | str (items : List StrItem) (g : List SepItem)
  | hex (body : Bytes) (g : List SepItem)
  | ref (ds : Bytes) (g1 : List SepItem) (gs : Bytes) (g2 g3 : List SepItem)      -- `ds g1 gs g2 R g3`
  | arr (g0 : List SepItem) (items : List STree) (g1 : List SepItem)
  | dict (g0 : List SepItem) (entries : List (List NameItem × List SepItem × STree)) (g1 : List SepItem)

def wNull : Bytes := [110, 117, 108, 108]

mutual
def bytesOf : STree → Bytes
  | .null g => wNull ++ renderSep g
  | .bool b g => (if b then kwTrue else kwFalse) ++ renderSep g
  | .int sign ds g => (sign ++ ds) ++ renderSep g
  | .real sign ip fp g => (sign ++ ip ++ 46 :: fp) ++ renderSep g
  | .name items g => (47 :: renderName items) ++ renderSep g
  | .str items g => (40 :: (renderStr items ++ [41])) ++ renderSep g
  | .hex body g => (60 :: (body ++ [62])) ++ renderSep g
  | .ref ds g1 gs g2 g3 => (ds ++ renderSep g1) ++ ((gs ++ renderSep g2) ++ ([82] ++ renderSep g3))
  | .arr g0 items g1 => ([91] ++ renderSep g0) ++ (bytesList items ++ ([93] ++ renderSep g1))
  | .dict g0 es g1 => ([60, 60] ++ renderSep g0) ++ (bytesEntries es ++ ([62, 62] ++ renderSep g1))
def bytesList : List STree → Bytes
  | [] => []
  | t :: r => bytesOf t ++ bytesList r
def bytesEntries : List (List NameItem × List SepItem × STree) → Bytes
  | [] => []
  | (k, g, v) :: r => ((47 :: renderName k) ++ renderSep g) ++ (bytesOf v ++ bytesEntries r)
end

mutual
def valueOf : STree → PObj
  | .null _ => .null
  | .bool b _ => .bool b
  | .int sign ds _ => .int (intValue sign ds)
  | .real sign ip fp _ => .real (sign ++ ip ++ 46 :: fp)
  | .name items _ => .lit (nameValue items)
  | .str items _ => .str (strValue items)
  | .hex body _ => .str (pairUp (hexDigitsOf body))
  | .ref ds _ gs _ _ => .ref (intValue [] ds) (intValue [] gs)
  | .arr _ items _ => .arr (valueList items)
  | .dict _ es _ => .dict (valueEntries es)
def valueList : List STree → List PObj
  | [] => []
  | t :: r => valueOf t :: valueList r
def valueEntries : List (List NameItem × List SepItem × STree) → List (Bytes × PObj)
  | [] => []
  | (k, _, v) :: r => (nameValue k, valueOf v) :: valueEntries r
end

/-- does the spelling end in a run of regular characters with nothing after it (so that the next byte
    must be white space or a delimiter)? -/
def endsReg : STree → Bool
  | .null g => g.isEmpty
  | .bool _ g => g.isEmpty
  | .int _ _ g => g.isEmpty
  | .real _ _ _ g => g.isEmpty
  | .name _ g => g.isEmpty
  | .ref _ _ _ _ g3 => g3.isEmpty
  | _ => false

def digitsOK (ds : Bytes) : Prop := ds ≠ [] ∧ (∀ c ∈ ds, isDigit c = true) ∧ ds.length ≤ 4300
def signOK (sign : Bytes) : Prop := sign = [] ∨ sign = [43] ∨ sign = [45]

instance (ds : Bytes) : Decidable (digitsOK ds) := by unfold digitsOK; infer_instance
instance (sign : Bytes) : Decidable (signOK sign) := by unfold signOK; infer_instance

theorem sepOK_nil : sepOK [] := fun _ h => nomatch h

/-- `#00` is not allowed in a name (7.3.5) -/
def NameItem.nonzero : NameItem → Prop
  | .raw _ => True
  | .esc h l => hexCharVal h * 16 + hexCharVal l ≠ 0

def nameOK (items : List NameItem) : Prop := ∀ i ∈ items, i.ok ∧ NameItem.nonzero i

instance : DecidablePred NameItem.nonzero := fun i => by cases i <;> unfold NameItem.nonzero <;> infer_instance
instance (items : List NameItem) : Decidable (nameOK items) := by unfold nameOK; infer_instance

mutual
/-- the spelling choices are conformant (ISO 32000-1 7.2–7.3): separators are white space / comments;
    where a separator is empty after a regular-character token, a delimiter follows (checked between
    neighbours); names without `#00`; hex strings of hex digits and white space; distinct UTF-8 keys.
    `even = true` adds: even hex digit count (the domain of the tokenizer theorems, open finding). -/
def wfE (even : Bool) : STree → Prop
  | .null g => sepOK g
  | .bool _ g => sepOK g
  | .int sign ds g => signOK sign ∧ digitsOK ds ∧ sepOK g
  | .real sign ip fp g => signOK sign ∧ (∀ c ∈ ip, isDigit c = true) ∧ (∀ c ∈ fp, isDigit c = true) ∧
      ¬ (ip = [] ∧ fp = []) ∧ sepOK g
  | .name items g => nameOK items ∧ sepOK g
  | .str items g => (∀ i ∈ items, i.ok) ∧ chainOK items ∧ depthAfter 0 items = some 0 ∧ sepOK g
  | .hex body g => (∀ c ∈ body, isHEX c = true ∨ isGapByte c = true) ∧
      (even = true → ∃ n, (hexDigitsOf body).length = 2 * n) ∧ sepOK g
  | .ref ds g1 gs g2 g3 => digitsOK ds ∧ sepOK g1 ∧ g1 ≠ [] ∧ digitsOK gs ∧ sepOK g2 ∧ g2 ≠ [] ∧ sepOK g3
  | .arr g0 items g1 => sepOK g0 ∧ wfListE even items ∧ sepOK g1
  | .dict g0 es g1 => sepOK g0 ∧ wfEntriesE even es ∧ sepOK g1 ∧
      (keysOf (valueEntries es)).Nodup ∧ ∀ k ∈ keysOf (valueEntries es), utf8Valid k = true
def wfListE (even : Bool) : List STree → Prop
  | [] => True
  | t :: r => wfE even t ∧ wfListE even r ∧
      (endsReg t = true → r ≠ [] → ∀ rest, isDW ((bytesList r ++ rest).headD 0) = true)
def wfEntriesE (even : Bool) : List (List NameItem × List SepItem × STree) → Prop
  | [] => True
  | (k, g, v) :: r => nameOK k ∧ sepOK g ∧ (g = [] → ∀ rest, isDW ((bytesOf v ++ rest).headD 0) = true) ∧
      wfE even v ∧ wfEntriesE even r
end

/-- conformant and inside the domain of the tokenizer theorems -/
abbrev wf := wfE true
abbrev wfList := wfListE true
abbrev wfEntries := wfEntriesE true

theorem tok_sep {s : Bytes} {ts : List Token} (h : LexUnit s ts true) (g : List SepItem) (hg : sepOK g) :
    LexUnit (s ++ renderSep g) ts g.isEmpty := by
  cases g with
  | nil => simpa [renderSep] using h
  | cons i r =>
    have h2 := LexUnit.sep (i :: r) hg
    have := LexUnit.append h h2 (fun _ d _ => sep_head_dw (i :: r) hg (by simp) [d])
    simpa using this

theorem free_sep {s : Bytes} {ts : List Token} (h : LexUnit s ts false) (g : List SepItem) (hg : sepOK g) :
    LexUnit (s ++ renderSep g) ts false := by
  simpa using LexUnit.append_free h (LexUnit.sep g hg)

theorem unit_word (c : UInt8) (w : Bytes) (h : (c :: w).all isAlpha = true) :
    LexUnit (c :: w)
      [if (c :: w) == kwTrue then Token.bool true else if (c :: w) == kwFalse then Token.bool false
       else Token.kwd (c :: w)] true :=
  have h' := List.all_eq_true.mp h
  unit_keyword c w (h' c (by simp)) (fun x hx => h' x (by simp [hx]))

theorem unit_null : LexUnit wNull [Token.kwd StackParser.kwNull] true := unit_word 110 [117, 108, 108] (by decide)
theorem unit_true : LexUnit kwTrue [Token.bool true] true := unit_word 116 [114, 117, 101] (by decide)
theorem unit_false : LexUnit kwFalse [Token.bool false] true := unit_word 102 [97, 108, 115, 101] (by decide)
theorem unit_R : LexUnit [82] [Token.kwd kwR] true := unit_word 82 [] (by decide)
theorem unit_obj : LexUnit kwObj [Token.kwd kwObj] true := unit_word 111 [98, 106] (by decide)
theorem unit_endobj : LexUnit kwEndobj [Token.kwd kwEndobj] true := unit_word 101 [110, 100, 111, 98, 106] (by decide)

theorem unit_int_sep (ds : Bytes) (g : List SepItem) (hd : digitsOK ds) (hg : sepOK g) (hne : g ≠ []) :
    LexUnit (ds ++ renderSep g) [Token.int (intValue [] ds)] false := by
  have := tok_sep (unit_int [] ds (.inl rfl) hd.1 hd.2.1 hd.2.2) g hg
  rwa [List.isEmpty_eq_false_iff.mpr hne] at this

mutual
/-- The bytes of a well-formed spelled tree lex (from any hand-over state, whatever follows) to the
    token sequence of its value. -/
theorem lex_tree : ∀ (t : STree), wf t → LexUnit (bytesOf t) (ser (valueOf t)) (endsReg t)
  | .null g, h => tok_sep unit_null g h
  | .bool true g, h => tok_sep unit_true g h
  | .bool false g, h => tok_sep unit_false g h
  | .int sign ds g, h => by
    obtain ⟨hs, ⟨hne, hd, hlen⟩, hg⟩ := h
    exact tok_sep (unit_int sign ds hs hne hd hlen) g hg
  | .real sign ip fp g, h => by
    obtain ⟨hs, hip, hfp, hne, hg⟩ := h
    exact tok_sep (unit_real sign ip fp hs hip hfp hne) g hg
  | .name items g, h => tok_sep (unit_name items (fun i hi => (h.1 i hi).1)) g h.2
  | .str items g, h => by
    obtain ⟨hok, hch, hbal, hg⟩ := h
    exact free_sep (unit_string items hok hch hbal) g hg
  | .hex body g, h => by
    obtain ⟨hb, hev, hg⟩ := h
    obtain ⟨n, hn⟩ := hev rfl
    have hb' : ∀ c ∈ body, isHEX c = true ∨ isSPC c = true := fun c hc =>
      (hb c hc).imp_right (fun h => (gap_class c h).2.2)
    exact free_sep (unit_hex body n hb' hn) g hg
  | .ref ds g1 gs g2 g3, h => by
    obtain ⟨hd1, hg1, hg1n, hd2, hg2, hg2n, hg3⟩ := h
    exact LexUnit.append_free (unit_int_sep ds g1 hd1 hg1 hg1n)
      (LexUnit.append_free (unit_int_sep gs g2 hd2 hg2 hg2n) (tok_sep unit_R g3 hg3))
  | .arr g0 items g1, h => by
    obtain ⟨hg0, hitems, hg1⟩ := h
    exact LexUnit.append_free (free_sep LexUnit.open_bracket g0 hg0) (lex_list items g1 hitems hg1)
  | .dict g0 es g1, h => by
    obtain ⟨hg0, hes, hg1, _, _⟩ := h
    exact LexUnit.append_free (free_sep LexUnit.dict_open g0 hg0) (lex_entries es g1 hes hg1)
/-- array items up to and including `]` and its separator -/
theorem lex_list : ∀ (ts : List STree) (g1 : List SepItem), wfList ts → sepOK g1 →
    LexUnit (bytesList ts ++ ([93] ++ renderSep g1)) (serList (valueList ts) ++ [Token.kwd [93]]) false
  | [], g1, _, hg1 => free_sep LexUnit.close_bracket g1 hg1
  | t :: r, g1, h, hg1 => by
    obtain ⟨ht, hr, hadj⟩ := h
    have := LexUnit.append (lex_tree t ht) (lex_list r g1 hr hg1) (fun hreg d _ => by
      cases r with
      | nil => simp [bytesList, isDW]
      | cons t2 r2 =>
        have := hadj hreg (by simp) (([93] ++ renderSep g1) ++ [d])
        simpa only [List.append_assoc] using this)
    simpa only [bytesList, valueList, serList, List.append_assoc] using this
/-- dictionary entries up to and including `>>` and its separator -/
theorem lex_entries : ∀ (es : List (List NameItem × List SepItem × STree)) (g1 : List SepItem),
    wfEntries es → sepOK g1 →
    LexUnit (bytesEntries es ++ ([62, 62] ++ renderSep g1)) (serEntries (valueEntries es) ++ [Token.kwd [62, 62]]) false
  | [], g1, _, hg1 => free_sep LexUnit.dict_close g1 hg1
  | (k, g, v) :: r, g1, h, hg1 => by
    obtain ⟨hk, hg, hgv, hv, hr⟩ := h
    have uk := tok_sep (unit_name k (fun i hi => (hk i hi).1)) g hg
    -- what follows the value begins with `/` (next key) or `>` (end of the dictionary)
    have uvr := LexUnit.append (lex_tree v hv) (lex_entries r g1 hr hg1) (fun _ d _ => by
      cases r with
      | nil => simp [bytesEntries, isDW]
      | cons e r2 => obtain ⟨k2, g2, v2⟩ := e; simp [bytesEntries, isDW])
    have := LexUnit.append uk uvr (fun hreg d _ => by
      have := hgv (List.isEmpty_iff.mp hreg) ((bytesEntries r ++ ([62, 62] ++ renderSep g1)) ++ [d])
      simpa only [List.append_assoc] using this)
    simpa only [bytesEntries, valueEntries, serEntries, List.append_assoc, List.cons_append, List.nil_append] using this
end

mutual
theorem clean_tree {e : Bool} : ∀ (t : STree), wfE e t → clean (valueOf t)
  | .arr _ items _, h => clean_list items h.2.1
  | .dict _ es _, h => ⟨clean_entries es h.2.1, h.2.2.2.1, h.2.2.2.2⟩
  | .null _, _ | .bool _ _, _ | .int _ _ _, _ | .real _ _ _ _, _ | .name _ _, _ | .str _ _, _ | .hex _ _, _
  | .ref _ _ _ _ _, _ => trivial
theorem clean_list {e : Bool} : ∀ (ts : List STree), wfListE e ts → cleanList (valueList ts)
  | [], _ => trivial
  | t :: r, h => ⟨clean_tree t h.1, clean_list r h.2.1⟩
theorem clean_entries {e : Bool} : ∀ (es : List (List NameItem × List SepItem × STree)), wfEntriesE e es → cleanEntries (valueEntries es)
  | [], _ => trivial
  | (_, _, v) :: r, h => ⟨clean_tree v h.2.2.2.1, clean_entries r h.2.2.2.2⟩
end

/-- several top-level spelled trees in a row (a content / object stream without operators): their
    bytes lex to the concatenated token sequences; whatever follows must be white space or a delimiter -/
theorem lex_seq : ∀ (ts : List STree), wfList ts → LexUnit (bytesList ts) (serList (valueList ts)) true
  | [], _ => by simpa [bytesList, valueList, serList] using LexUnit.nil.weaken true
  | t :: r, h => by
    simp only [wfList, wfListE] at h
    obtain ⟨ht, hr, hadj⟩ := h
    simp only [bytesList, valueList, serList]
    have u1 := lex_tree t ht
    have u2 := lex_seq r hr
    exact LexUnit.append u1 u2 (fun hreg d hd => by
      cases r with
      | nil => simpa [bytesList] using hd rfl
      | cons t2 r2 =>
        have := hadj hreg (by simp) [d]
        simpa using this)

theorem objects_spelled (pad : List SepItem) (hpad : sepOK pad) (t : STree) (hwf : wf t) :
    objects (specLex (renderSep pad ++ bytesOf t)) = { results := [norm (valueOf t)] } := by
  show finish (feedAll {} (tokVals (specLex _))) = _
  rw [(LexUnit.append_free (LexUnit.sep pad hpad) (lex_tree t hwf)).specLex]
  exact finish_top _ _ (top_ser [] {} _ (clean_tree t hwf) ⟨rfl, rfl, rfl, rfl⟩)

theorem objects_spelled_list (pad : List SepItem) (hpad : sepOK pad) (ts : List STree) (hwf : wfList ts) :
    objects (specLex (renderSep pad ++ bytesList ts)) = { results := normList (valueList ts) } := by
  show finish (feedAll {} (tokVals (specLex _))) = _
  rw [(LexUnit.append_free (LexUnit.sep pad hpad) (lex_seq ts hwf)).specLex]
  exact finish_top _ _ (top_serList _ [] {} (clean_list ts hwf) ⟨rfl, rfl, rfl, rfl⟩)

structure ObjSpelling where
  ds : Bytes
  g1 : List SepItem
  gs : Bytes
  g2 : List SepItem
  g3 : List SepItem
  body : STree
  g4 : List SepItem

def ObjSpelling.bytes (o : ObjSpelling) : Bytes :=
  (o.ds ++ renderSep o.g1) ++ ((o.gs ++ renderSep o.g2) ++ ((kwObj ++ renderSep o.g3) ++
    (bytesOf o.body ++ (kwEndobj ++ renderSep o.g4))))

def ObjSpelling.wf (o : ObjSpelling) : Prop :=
  digitsOK o.ds ∧ sepOK o.g1 ∧ o.g1 ≠ [] ∧ digitsOK o.gs ∧ sepOK o.g2 ∧ o.g2 ≠ [] ∧ sepOK o.g3 ∧
    (o.g3 = [] → ∀ rest, isDW ((bytesOf o.body ++ rest).headD 0) = true) ∧
    Roundtrip.wf o.body ∧ endsReg o.body = false ∧ sepOK o.g4

theorem ObjSpelling.wf.body {o : ObjSpelling} (h : o.wf) : Roundtrip.wf o.body := by
  obtain ⟨-, -, -, -, -, -, -, -, hb, -⟩ := h
  exact hb

/-- `objid gen obj` and the spelled body, without the `endobj` (what stands in front of `stream`) -/
theorem lex_obj_head (o : ObjSpelling) (h : o.wf) :
    LexUnit ((o.ds ++ renderSep o.g1) ++ ((o.gs ++ renderSep o.g2) ++ ((kwObj ++ renderSep o.g3) ++ bytesOf o.body)))
      ([Token.int (intValue [] o.ds), Token.int (intValue [] o.gs), Token.kwd kwObj] ++ ser (valueOf o.body)) false := by
  obtain ⟨hd1, hg1, hg1n, hd2, hg2, hg2n, hg3, hg3d, hwf, hreg, _⟩ := h
  have u34 := LexUnit.append (tok_sep unit_obj o.g3 hg3) (hreg ▸ lex_tree o.body hwf)
    (fun hreg3 d _ => hg3d (List.isEmpty_iff.mp hreg3) [d])
  simpa using LexUnit.append_free (unit_int_sep o.ds o.g1 hd1 hg1 hg1n)
    (LexUnit.append_free (unit_int_sep o.gs o.g2 hd2 hg2 hg2n) u34)

theorem lex_obj (o : ObjSpelling) (h : o.wf) :
    LexUnit o.bytes
      ([Token.int (intValue [] o.ds), Token.int (intValue [] o.gs), Token.kwd kwObj] ++
        (ser (valueOf o.body) ++ [Token.kwd kwEndobj])) o.g4.isEmpty := by
  have uh := lex_obj_head o h
  obtain ⟨-, -, -, -, -, -, -, -, -, -, hg4⟩ := h
  simpa [ObjSpelling.bytes, List.append_assoc] using LexUnit.append_free uh (tok_sep unit_endobj o.g4 hg4)

end PdfVerif.Roundtrip
