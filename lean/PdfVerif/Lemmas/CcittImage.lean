/-
C19: a whole coded line (`feed_line`), then a whole image (`feed_rows`, `decode_rows`, `feed_eofb`, `feed_end`),
through the bit-level parser.  Between the two: the fuel of the specification's `encodeLineAux` is never
exhausted (`encodeLineAux_fuel`, about the specification alone), and `output_line` packs a row as the
specification does (`packLine_fun`), so that the encoder's bytes unpack to its bits (`encodeImage_bits`).
-/
import PdfVerif.Lemmas.CcittLine

namespace PdfVerif.Ccitt
open PdfVerif.Gen PdfVerif.Spec

/-- Two parser states agree on everything the line semantics reads, except the colour: what
`Props.C19.run_rt` says a run-length code leaves untouched. -/
structure SameLine (a b : St) : Prop where
  wd : a.width = b.width
  ba : a.bytealign = b.bytealign
  rvs : a.reversed = b.reversed
  rf : a.refline = b.refline
  cl : a.curline = b.curline
  cp : a.curpos = b.curpos
  bf : a.buf = b.buf

theorem SameLine.refl (a : St) : SameLine a a := ⟨rfl, rfl, rfl, rfl, rfl, rfl, rfl⟩

/-- First run of a horizontal mode: `_parse_horiz1` until a terminating code. -/
theorem feed_run_first (st : St) (hacc : st.acc = .horiz1) (hnode : st.node = runTrie st.color) (n : Nat)
    (pos : Nat) (rest : List Bool) :
    feedFlat st pos 0 (T6.encodeRun st.color n ++ rest) =
      feedFlat { st with n1 := st.n1 + n, n2 := 0, color := !st.color, acc := .horiz2,
                         node := runTrie (!st.color) } (pos + (T6.encodeRun st.color n).length) 0 rest := by
  obtain ⟨m, t, ht, rfl, hf⟩ := feed_encodeRun st ⟨.inl hacc, hnode⟩ n
  rw [hf]
  simp only [accept, addRun, hacc, parseHoriz1, (horiz1Term_iff t).2 ht, if_true, afterAccept,
    CcittCode.horiz1Flip, Nat.add_assoc]

/-- Second run of a horizontal mode: `_parse_horiz2` until a terminating code, then
`_do_horizontal` and `_flush_line`. -/
theorem feed_run_second (st : St) (hacc : st.acc = .horiz2) (hnode : st.node = runTrie st.color) (n : Nat)
    (pos : Nat) (rest : List Bool) :
    feedFlat st pos 0 (T6.encodeRun st.color n ++ rest) =
      afterAccept (.ok (afterFlush (doHorizontal
        { st with n2 := st.n2 + n, color := !st.color, acc := .mode, node := .empty } st.n1 (st.n2 + n))))
        (pos + (T6.encodeRun st.color n).length) rest := by
  obtain ⟨m, t, ht, rfl, hf⟩ := feed_encodeRun st ⟨.inr hacc, hnode⟩ n
  rw [hf]
  simp only [accept, addRun, hacc, parseHoriz2, (horiz2Term_iff t).2 ht, if_true, CcittCode.horiz2Flip,
    Nat.add_assoc]

/-- A complete horizontal mode: H, a0a1 in the current colour, a1a2 in the other one. -/
theorem feed_horiz (st : St) (hacc : st.acc = .mode) (hnode : st.node = modeTrie) {c : Bool} (hcol : st.color = c)
    (n1 n2 : Nat) (pos : Nat) (rest : List Bool) :
    feedFlat st pos 0 ((T6.codeH ++ T6.encodeRun c n1 ++ T6.encodeRun (!c) n2) ++ rest) =
      afterAccept (.ok (afterFlush (doHorizontal { st with n1 := n1, n2 := n2, acc := .mode, node := .empty } n1 n2)))
        (pos + (T6.codeH ++ T6.encodeRun c n1 ++ T6.encodeRun (!c) n2).length) rest := by
  subst hcol
  rw [List.append_assoc, List.append_assoc, List.append_assoc,
    feed_follow_leaf _ st pos _ (.mode .h) (by decide) (by rw [hnode]; exact modeSpec_follow (by decide))]
  simp only [accept, hacc, parseMode, modeAction_h, afterAccept]
  rw [feed_run_first _ rfl rfl, feed_run_second _ rfl rfl]
  simp only [Nat.zero_add, Bool.not_not, List.length_append, Nat.add_assoc]
  rfl

/-- The parser sits at the start of a line with reference line `ref`, having output `buf`. -/
structure Ready (w : Nat) (al rv : Bool) (ref : List Bool) (buf : List UInt8) (st : St) : Prop where
  wd : st.width = w
  ba : st.bytealign = al
  rvs : st.reversed = rv
  rf : st.refline = ref
  cl : st.curline = List.replicate w true
  cp : st.curpos = -1
  col : st.color = true
  acc : st.acc = .mode
  node : st.node = modeTrie
  bf : st.buf = buf

theorem Ready.core {w al rv ref buf st} (h : Ready w al rv ref buf st) (cur : List Bool) :
    Core w al rv ref cur buf st (-1) true :=
  ⟨h.wd, h.ba, h.rvs, h.rf, h.bf, by rw [h.cl]; simp, h.cp, h.col, by omega, by omega,
    by intro i hi; omega, by intro h0; omega⟩

/-- bits discarded after the code word that ended at position `p - 1` completed a line -/
def skipAfter (al : Bool) (p : Nat) : Nat := if al then 7 - (p - 1) % 8 else 0

section line
variable {w : Nat} {al rv : Bool} {ref cur : List Bool} {buf : List UInt8}

theorem afterFlush_mid {st : St} {a0 : Int} {color : Bool} (h : Core w al rv ref cur buf st a0 color)
    (hlt : a0 < w) : afterFlush st = ({ st with acc := .mode, node := modeTrie }, .cont) := by
  have : ¬ ((st.width : Int) ≤ st.curpos) := by rw [h.wd, h.cp]; omega
  simp [afterFlush, flushLine, CcittCode.flushCond, this]

theorem afterFlush_done {st : St} {color : Bool} (h : Core w al rv ref cur buf st (w : Int) color)
    (hcur : cur.length = w) :
    ∃ st2, afterFlush st = (st2, if al then .byteSkip else .cont) ∧
      Ready w al rv cur (buf ++ packLine rv cur) st2 := by
  have hc : st.curline = cur := by
    apply List.ext_getElem?
    intro i
    by_cases hi : i < w
    · exact h.pre i (by omega)
    · rw [List.getElem?_eq_none (by rw [h.curlen]; omega), List.getElem?_eq_none (by omega)]
  have hle : (st.width : Int) ≤ st.curpos := by rw [h.wd, h.cp]; omega
  refine ⟨{ (resetLine { st with buf := st.buf ++ packLine st.reversed st.curline }) with
      acc := .mode, node := modeTrie }, ?_, ?_⟩
  · simp only [afterFlush, flushLine, CcittCode.flushCond, hle, decide_true, if_true, h.ba]
  · simp only [resetLine]
    exact ⟨h.wd, h.ba, h.rvs, hc, by simp [h.wd, CcittCode.blankPixel], rfl, rfl, rfl, rfl,
      by simp [h.bf, h.rvs, hc]⟩

/-- What remains to be shown for the rest of a line once the next code word has been dealt with. -/
def LineGoal (w : Nat) (al rv : Bool) (cur : List Bool) (buf : List UInt8) (st : St) (code : List Bool) : Prop :=
  ∃ st', Ready w al rv cur (buf ++ packLine rv cur) st' ∧ code ≠ [] ∧
    ∀ (pos : Nat) (rest : List Bool), feedFlat st pos 0 (code ++ rest) =
      feedFlat st' (pos + code.length) (skipAfter al (pos + code.length)) rest

theorem encodeLineAux_done (fuel : Nat) (a0 : Int) (c : Bool) (chs : List T6.Choice)
    (h : (cur.length : Int) ≤ a0) : T6.encodeLineAux ref cur fuel a0 c chs = [] := by
  cases fuel with
  | zero => rfl
  | succ n => simp [T6.encodeLineAux, h]

theorem step_finish {st st1 : St} {a0' : Int} {color' : Bool} {code : List Bool} {fuel : Nat}
    {chs' : List T6.Choice} (hcur : cur.length = w)
    (hc1 : Core w al rv ref cur buf st1 a0' color')
    (hcode : code ≠ [])
    (hstep : ∀ (pos : Nat) (rest : List Bool), feedFlat st pos 0 (code ++ rest) =
      afterAccept (.ok (afterFlush st1)) (pos + code.length) rest)
    (hfuel : (w : Int) - a0' ≤ fuel)
    (ih : ∀ st : St, Core w al rv ref cur buf st a0' color' → a0' < w → st.acc = .mode → st.node = modeTrie →
      (w : Int) - a0' ≤ fuel → LineGoal w al rv cur buf st (T6.encodeLineAux ref cur fuel a0' color' chs')) :
    LineGoal w al rv cur buf st (code ++ T6.encodeLineAux ref cur fuel a0' color' chs') := by
  by_cases hlt : a0' < w
  · have haf := afterFlush_mid hc1 hlt
    obtain ⟨st', hr, hne, hf⟩ := ih { st1 with acc := .mode, node := modeTrie }
      (hc1.ignore st1.n1 st1.n2 .mode modeTrie) hlt rfl rfl hfuel
    refine ⟨st', hr, by simp [hcode], ?_⟩
    intro pos rest
    rw [List.append_assoc, hstep, haf]
    simp only [afterAccept]
    rw [hf, List.length_append, Nat.add_assoc]
  · have hw : a0' = w := by have := hc1.hi; omega
    subst hw
    obtain ⟨st2, haf, hr⟩ := afterFlush_done hc1 hcur
    rw [encodeLineAux_done _ _ _ _ (by omega), List.append_nil]
    refine ⟨st2, hr, hcode, ?_⟩
    intro pos rest
    rw [hstep, haf]
    cases al <;> simp [afterAccept, skipAfter]

theorem resolve_pass {ch : T6.Choice} {a1 b1 b2 : Nat} (h : T6.resolve ch a1 b1 b2 = .pass) : b2 < a1 := by
  by_cases hp : b2 < a1
  · exact hp
  · by_cases hv : T6.vertOk a1 b1 = true <;> cases ch <;> simp_all [T6.resolve, T6.stdMode]

theorem resolve_vert {ch : T6.Choice} {a1 b1 b2 : Nat} (h : T6.resolve ch a1 b1 b2 = .vert) :
    T6.vertOk a1 b1 = true := by
  by_cases hv : T6.vertOk a1 b1 = true
  · exact hv
  · by_cases hp : b2 < a1 <;> cases ch <;> simp [T6.resolve, T6.stdMode, hp, hv] at h

theorem feed_line_aux (hcur : cur.length = w) (href : ref.length = w) (fuel : Nat) (a0 : Int) (color : Bool)
    (chs : List T6.Choice) (st : St) (hc : Core w al rv ref cur buf st a0 color) (hlt : a0 < w)
    (hacc : st.acc = .mode) (hnode : st.node = modeTrie) (hfuel : (w : Int) - a0 ≤ fuel) :
    LineGoal w al rv cur buf st (T6.encodeLineAux ref cur fuel a0 color chs) := by
  fun_induction T6.encodeLineAux ref cur fuel a0 color chs generalizing st with
  | case1 => omega
  | case2 => omega
  | case3 fuel a0 color chs _ lo a1 b1 b2 hres ih =>
    have hlo := hc.lo
    have hp : b2 < a1 := resolve_pass hres
    have hc1 := core_pass (hc.ignore st.n1 st.n2 .mode .empty) hlt hcur href hp
    have hb2 : a0 < (b2 : Int) := lt_b2Of ref color (by omega)
    refine step_finish hcur hc1 (by decide : T6.codeP ≠ []) ?_ (by omega) ih
    intro pos rest
    rw [feed_follow_leaf _ st pos rest (.mode .p) (by decide) (by rw [hnode]; exact modeSpec_follow (by decide))]
    simp only [accept, hacc, parseMode, modeAction_p]
  | case4 fuel a0 color chs _ lo a1 b1 b2 hres ih =>
    have hlo := hc.lo
    have ha1 : a0 < (a1 : Int) := lt_nextNot cur color hlo
    have hv := resolve_vert hres
    simp only [T6.vertOk, decide_eq_true_eq] at hv
    have hc1 := core_vert (hc.ignore st.n1 st.n2 .mode .empty) hlt hcur
    obtain ⟨hne, hfl⟩ := codeV_ok (d := (a1 : Int) - (b1 : Int)) (by omega) (by omega)
    refine step_finish hcur hc1 hne ?_ (by omega) ih
    intro pos rest
    rw [feed_follow_leaf _ st pos rest _ hne (by rw [hnode]; exact hfl)]
    simp only [accept, hacc, parseMode, modeAction_v]
    rfl
  | case5 fuel a0 color chs _ lo a1 b1 b2 hres a2 ih =>
    have hlo := hc.lo
    have ha1 : a0 < (a1 : Int) := lt_nextNot cur color hlo
    have ha2 : a1 ≤ a2 := nextNot_ge _ _ _
    have hc1 := core_horiz (hc.ignore (a1 - a0.toNat) (a2 - a1) .mode .empty) hlt hcur
    exact step_finish hcur hc1 (by simp [T6.codeH]) (feed_horiz st hacc hnode hc.col _ _) (by omega) ih

theorem feed_line (hw : 1 ≤ w) (hcur : cur.length = w) (href : ref.length = w) (chs : List T6.Choice)
    {st : St} (h : Ready w al rv ref buf st) :
    LineGoal w al rv cur buf st (T6.encodeLine ref cur chs) := by
  unfold T6.encodeLine
  exact feed_line_aux hcur href _ _ _ _ st (h.core cur) (by omega) h.acc h.node (by omega)

end line

/-- Any amount of fuel ≥ the number of pixels still to be coded gives the same code: the stated fuel
`cur.length + 1` of `encodeLine` is never exhausted. -/
theorem encodeLineAux_fuel {w : Nat} {ref cur : List Bool} (hcur : cur.length = w) (href : ref.length = w) :
    ∀ (f1 f2 : Nat) (a0 : Int) (color : Bool) (chs : List T6.Choice), -1 ≤ a0 →
      (w : Int) - a0 ≤ f1 → (w : Int) - a0 ≤ f2 →
      T6.encodeLineAux ref cur f1 a0 color chs = T6.encodeLineAux ref cur f2 a0 color chs := by
  intro f1
  induction f1 with
  | zero =>
    intro f2 a0 color chs _ h1 _
    rw [encodeLineAux_done 0 a0 color chs (by omega), encodeLineAux_done f2 a0 color chs (by omega)]
  | succ f1 ih =>
    intro f2 a0 color chs hlo h1 h2
    by_cases hd : (cur.length : Int) ≤ a0
    · rw [encodeLineAux_done _ a0 color chs hd, encodeLineAux_done f2 a0 color chs hd]
    · cases f2 with
      | zero => omega
      | succ f2 =>
        simp only [T6.encodeLineAux, hd, if_false]
        -- every mode moves a0 to the right
        have ha1 := lt_nextNot cur color hlo
        have hb2 := lt_b2Of ref color (a0 := a0) (by omega)
        have ha2 : T6.nextNot cur color (a0 + 1).toNat ≤
            T6.nextNot cur (!color) (T6.nextNot cur color (a0 + 1).toNat) := nextNot_ge _ _ _
        cases T6.resolve (chs.headD .std) (T6.nextNot cur color (a0 + 1).toNat)
            (T6.b1Of ref color (a0 + 1).toNat) (T6.b2Of ref color (T6.b1Of ref color (a0 + 1).toNat)) <;>
          simp only [] <;> rw [ih f2 _ _ chs.tail (by omega) (by omega) (by omega)]


theorem outLen_nat (n : Nat) : (CcittCode.outLen (n : Int)).toNat = (n + 7) / 8 := by
  simp only [CcittCode.outLen, pyDiv]
  rw [Int.fdiv_eq_ediv_of_nonneg _ (by omega)]
  omega

theorem outByte_eq (l : List Bool) (j : Nat) : outByte l j = byteOfBits (l.drop (8 * j)) := by
  -- the sum over `range 8` written out is the eight-term sum of `byteOfBits`, the regenerated masks being 128 … 1
  simp [outByte, byteOfBits, CcittCode.outMasks, List.range, List.range.loop, bitVal, List.getD_eq_getElem?_getD,
    List.getElem?_drop, Nat.add_assoc]

theorem byteOfBits_take (b0 b1 b2 b3 b4 b5 b6 b7 : Bool) (rest : List Bool) :
    byteOfBits (b0 :: b1 :: b2 :: b3 :: b4 :: b5 :: b6 :: b7 :: rest) = byteOfBits [b0, b1, b2, b3, b4, b5, b6, b7] := rfl

theorem range_map_packBits : ∀ l : List Bool,
    (List.range ((l.length + 7) / 8)).map (fun j => byteOfBits (l.drop (8 * j))) = packBits l := by
  intro l
  induction l using packBits.induct with
  | case1 => rfl
  | case2 b0 b1 b2 b3 b4 b5 b6 b7 rest ih =>
    have hl : ((b0 :: b1 :: b2 :: b3 :: b4 :: b5 :: b6 :: b7 :: rest).length + 7) / 8 = (rest.length + 7) / 8 + 1 := by
      simp only [List.length_cons]; omega
    rw [hl, List.range_succ_eq_map, List.map_cons, List.map_map, packBits, ← ih]
    congr 1
  | case3 l h1 h2 =>
    rcases l with _ | ⟨b0, _ | ⟨b1, _ | ⟨b2, _ | ⟨b3, _ | ⟨b4, _ | ⟨b5, _ | ⟨b6, _ | ⟨b7, rest⟩⟩⟩⟩⟩⟩⟩⟩
    · exact absurd rfl h1
    all_goals first
      | exact absurd rfl (h2 _ _ _ _ _ _ _ _ _)
      | simp [packBits, List.range, List.range.loop]

theorem packLine_fun (rv : Bool) : packLine rv = fun r => packBits (if rv then r.map (!·) else r) := by
  funext bits
  simp only [packLine, outLen_nat]
  have hf : (List.map CcittCode.outFlip bits) = bits.map (!·) := rfl
  rw [hf, ← range_map_packBits]
  exact List.map_congr_left fun j _ => outByte_eq _ j

theorem bitsOfByte_byteOfBits : ∀ b0 b1 b2 b3 b4 b5 b6 b7 : Bool,
    bitsOfByte (byteOfBits [b0, b1, b2, b3, b4, b5, b6, b7]) = [b0, b1, b2, b3, b4, b5, b6, b7] := by
  decide +kernel

theorem unpack_pack : ∀ (n : Nat) (bits : List Bool), bits.length = 8 * n →
    (packBits bits).flatMap bitsOfByte = bits := by
  intro n
  induction n with
  | zero => intro bits h; have : bits = [] := List.eq_nil_of_length_eq_zero (by omega); subst this; rfl
  | succ n ih =>
    intro bits h
    rcases bits with _ | ⟨b0, _ | ⟨b1, _ | ⟨b2, _ | ⟨b3, _ | ⟨b4, _ | ⟨b5, _ | ⟨b6, _ | ⟨b7, rest⟩⟩⟩⟩⟩⟩⟩⟩ <;>
      simp only [List.length_cons, List.length_nil] at h <;> try omega
    simp only [packBits, List.flatMap_cons, bitsOfByte_byteOfBits]
    rw [ih rest (by omega)]
    rfl

theorem padTo8_length (bits : List Bool) : (T6.padTo8 bits).length % 8 = 0 := by
  simp only [T6.padTo8, List.length_append, List.length_replicate]; omega

theorem encodeImage_bits (w : Nat) (rows : List (List Bool)) (chs : List (List T6.Choice)) (al eofb : Bool) :
    (T6.encodeImage w rows chs al eofb).flatMap bitsOfByte = T6.encodeImageBits w rows chs al eofb := by
  have := padTo8_length (T6.encodeRows al (List.replicate w true) rows chs ++ (if eofb then T6.codeEOFB else []))
  exact unpack_pack ((T6.encodeImageBits w rows chs al eofb).length / 8) _ (by unfold T6.encodeImageBits; omega)

section image
variable {w : Nat} {al rv : Bool}

theorem feed_rows (hw : 1 ≤ w) : ∀ (rows : List (List Bool)) (chs : List (List T6.Choice)) (ref : List Bool)
    (buf : List UInt8) (st : St) (pos : Nat),
    (∀ r ∈ rows, r.length = w) → ref.length = w → Ready w al rv ref buf st → (al = true → pos % 8 = 0) →
    ∃ (st' : St) (ref' : List Bool), Ready w al rv ref' (buf ++ rows.flatMap (packLine rv)) st' ∧
      (al = true → (pos + (T6.encodeRows al ref rows chs).length) % 8 = 0) ∧
      ∀ rest : List Bool, feedFlat st pos 0 (T6.encodeRows al ref rows chs ++ rest) =
        feedFlat st' (pos + (T6.encodeRows al ref rows chs).length) 0 rest := by
  intro rows
  induction rows with
  | nil =>
    intro chs ref buf st pos _ _ hr hp
    exact ⟨st, ref, by simpa using hr, by simpa [T6.encodeRows] using hp, by intro rest; simp [T6.encodeRows]⟩
  | cons cur rows ih =>
    intro chs ref buf st pos hlen href hr hp
    have hcur : cur.length = w := hlen cur (by simp)
    obtain ⟨st1, hr1, hne, hf1⟩ := feed_line (al := al) (rv := rv) (buf := buf) hw hcur href (chs.headD []) hr
    have hpos : 0 < (T6.encodeLine ref cur (chs.headD [])).length := List.length_pos_iff.mpr hne
    simp only [T6.encodeRows]
    generalize T6.encodeLine ref cur (chs.headD []) = code at *
    -- the row's code is followed by `pad`, the fill bits that `ByteSkip` discards
    obtain ⟨pad, hpad, hskip, hal1⟩ : ∃ pad, (if al then T6.padTo8 code else code) = code ++ pad ∧
        skipAfter al (pos + code.length) = pad.length ∧
        (al = true → (pos + code.length + pad.length) % 8 = 0) := by
      cases al with
      | false => exact ⟨[], (List.append_nil _).symm, rfl, fun h => by cases h⟩
      | true =>
        have hp0 := hp rfl
        exact ⟨List.replicate ((8 - code.length % 8) % 8) false, rfl,
          by simp only [skipAfter, if_true, List.length_replicate]; omega,
          fun _ => by simp only [List.length_replicate]; omega⟩
    obtain ⟨st', ref', hr', hal', hf'⟩ := ih chs.tail cur (buf ++ packLine rv cur) st1
      (pos + code.length + pad.length) (fun r hr => hlen r (by simp [hr])) hcur hr1 hal1
    rw [hpad]
    refine ⟨st', ref', by simpa [List.flatMap_cons, List.append_assoc] using hr', ?_, ?_⟩
    · intro h
      have := hal' h
      simp only [List.length_append] at this ⊢
      omega
    · intro rest
      simp only [List.append_assoc, List.length_append]
      rw [hf1, hskip, feedFlat_skip, hf']
      congr 1
      omega

/-- Data whose bits start with the code of `rows`: the rows come out, and what follows is fed to a parser
standing at the start of the next line. -/
theorem decode_rows (hw : 1 ≤ w) (rows : List (List Bool)) (chs : List (List T6.Choice))
    (hlen : ∀ r ∈ rows, r.length = w) (data : List UInt8) (tail : List Bool)
    (hd : data.flatMap bitsOfByte = T6.encodeRows al (List.replicate w true) rows chs ++ tail) :
    ∃ (st1 : St) (ref1 : List Bool), Ready w al rv ref1 (rows.flatMap (packLine rv)) st1 ∧
      ccittfaxdecode (some (-1)) (some (w : Int)) al rv data =
        match feedFlat st1 (T6.encodeRows al (List.replicate w true) rows chs).length 0 tail with
        | .error e => .error e
        | .ok st => .ok st.buf := by
  have hr0 : Ready w al rv (List.replicate w true) [] (initSt w al rv) :=
    ⟨rfl, rfl, rfl, rfl, rfl, rfl, rfl, rfl, rfl, rfl⟩
  obtain ⟨st1, ref1, hr1, _, hf1⟩ := feed_rows (al := al) (rv := rv) hw rows chs (List.replicate w true) []
    (initSt w al rv) 0 hlen (by simp) hr0 (by intro _; rfl)
  have hc : ¬ ((w : Int) ≤ 0) := by omega
  refine ⟨st1, ref1, by simpa using hr1, ?_⟩
  simp only [ccittfaxdecode, ne_eq, if_false, Option.getD_some, hc, Int.toNat_natCast]
  rw [feedBytes_flat _ _ 0 rfl, hd, hf1, Nat.zero_add]
  rfl

theorem feed_eofb (st : St) (hacc : st.acc = .mode) (hnode : st.node = modeTrie) (pos : Nat) (rest : List Bool) :
    feedFlat st pos 0 (T6.codeEOFB ++ rest) = .ok { st with node := .empty } := by
  rw [feed_follow_leaf _ st _ _ (.mode .e) (by decide) (by rw [hnode]; exact modeSpec_follow (by decide))]
  simp only [accept, hacc, parseMode, modeAction_e, afterAccept]

theorem feed_end (st : St) (hacc : st.acc = .mode) (hnode : st.node = modeTrie) (eofb : Bool) {k : Nat}
    (hk : k < 8) (pos : Nat) :
    ∃ st', feedFlat st pos 0 ((if eofb then T6.codeEOFB else []) ++ List.replicate k false) = .ok st' ∧
      st'.buf = st.buf := by
  cases eofb with
  | true => exact ⟨_, feed_eofb st hacc hnode pos _, rfl⟩
  | false =>
    obtain ⟨a, c, hz⟩ := zeros_ok hk
    have := feed_follow_node (List.replicate k false) st pos [] a c (by rw [hnode]; exact hz)
    rw [List.append_nil] at this
    exact ⟨_, this, rfl⟩

end image

end PdfVerif.Ccitt
