/-
`do_keyword`'s dictionary assembly `{literal_name(k): v for (k, v) in choplist(2, objs)}`:
a later pair with the same key replaces the value of an earlier one.
-/
import PdfVerif.Model.InlineDict

namespace PdfVerif.InlineDictLemmas
open PdfVerif PdfVerif.InlineDict

/-- The operand list of a run of `/key value` pairs. -/
def objsOf : List (Bytes × Val) → List Val
  | [] => []
  | (k, v) :: rest => .name k :: v :: objsOf rest

def lastVal (ps : List (Bytes × Val)) (k : Bytes) : Option Val :=
  (ps.reverse.find? (fun p => p.1 == k)).map (·.2)

theorem lookup_nil (k : Bytes) : lookup [] k = none := rfl

theorem lookup_cons (a : Bytes) (b : Val) (t : Dict) (k : Bytes) :
    lookup ((a, b) :: t) k = if a = k then some b else lookup t k := by
  by_cases h : a = k <;> simp [lookup, h]

theorem dictSet_cons (a : Bytes) (b : Val) (t : Dict) (k : Bytes) (v : Val) :
    dictSet ((a, b) :: t) k v =
      if a = k then (k, v) :: t.map (fun p => if p.1 == k then (k, v) else p) else (a, b) :: dictSet t k v := by
  by_cases h : a = k
  · simp [dictSet, h]
  · have : (a == k) = false := by simpa using h
    simp only [dictSet, List.any_cons, this, Bool.false_or, List.map_cons, Bool.false_eq_true, if_false, h]
    split <;> rfl

theorem lookup_map_ne (k k' : Bytes) (v : Val) (h : k ≠ k') : ∀ d : Dict,
    lookup (d.map (fun p => if p.1 == k then (k, v) else p)) k' = lookup d k'
  | [] => rfl
  | (a, b) :: t => by
    rw [List.map_cons, lookup_cons a b, ← lookup_map_ne k k' v h t]
    by_cases ha : a = k
    · rw [if_pos (by simpa using ha), lookup_cons, if_neg h, if_neg (ha ▸ h)]
    · rw [if_neg (by simpa using ha), lookup_cons]

/-- Python dict assignment seen through `lookup`. -/
theorem lookup_dictSet (k : Bytes) (v : Val) (k' : Bytes) : ∀ d : Dict,
    lookup (dictSet d k v) k' = if k = k' then some v else lookup d k'
  | [] => lookup_cons k v [] k'
  | (a, b) :: t => by
    rw [dictSet_cons]
    split
    · next ha =>
      subst ha
      rw [lookup_cons, lookup_cons]
      split
      · rfl
      · next hk => exact lookup_map_ne a k' v hk t
    · next ha =>
      rw [lookup_cons, lookup_cons, lookup_dictSet k v k' t]
      by_cases hk : k = k'
      · subst hk; rw [if_neg ha, if_pos rfl, if_pos rfl]
      · rw [if_neg hk, if_neg hk]

theorem assembleFrom_objsOf : ∀ (ps : List (Bytes × Val)) (d : Dict),
    assembleFrom (objsOf ps) d = .ok (ps.foldl (fun d p => dictSet d p.1 p.2) d)
  | [], d => rfl
  | (k, v) :: rest, d => assembleFrom_objsOf rest (dictSet d k v)

theorem length_objsOf : ∀ (ps : List (Bytes × Val)), (objsOf ps).length = 2 * ps.length
  | [] => rfl
  | (k, v) :: rest => by simp [objsOf, length_objsOf rest]; omega

theorem assemble_objsOf (ps : List (Bytes × Val)) :
    assemble (objsOf ps) = .ok (ps.foldl (fun d p => dictSet d p.1 p.2) []) := by
  unfold assemble
  rw [length_objsOf, if_neg (by simp)]
  exact assembleFrom_objsOf ps []

theorem foldl_dictSet_nodup : ∀ (ps : List (Bytes × Val)) (d : Dict), ((d ++ ps).map (·.1)).Nodup →
    ps.foldl (fun d p => dictSet d p.1 p.2) d = d ++ ps
  | [], d, _ => (List.append_nil d).symm
  | p :: ps, d, h => by
    have hp : p.1 ∉ d.map (·.1) := by
      rw [List.map_append, List.map_cons] at h
      exact fun hm => (List.nodup_append.mp h).2.2 _ hm _ (List.mem_cons_self ..) rfl
    have hnew : dictSet d p.1 p.2 = d ++ [p] := by
      rw [dictSet, if_neg]
      intro ha
      obtain ⟨q, hq, hk⟩ := List.any_eq_true.mp ha
      exact hp (List.mem_map.mpr ⟨q, hq, by simpa using hk⟩)
    rw [List.foldl_cons, hnew, foldl_dictSet_nodup ps _ (by simpa using h)]
    simp

theorem lookup_foldl : ∀ (ps : List (Bytes × Val)) (d : Dict) (k : Bytes),
    lookup (ps.foldl (fun d p => dictSet d p.1 p.2) d) k =
      match lastVal ps k with
      | some v => some v
      | none => lookup d k
  | [], d, k => by simp [lastVal]
  | (a, b) :: rest, d, k => by
    rw [List.foldl_cons, lookup_foldl rest (dictSet d a b) k, lookup_dictSet]
    simp only [lastVal, List.reverse_cons, List.find?_append]
    cases (rest.reverse.find? (fun p => p.1 == k)) <;> by_cases hak : a = k <;> simp [hak]

end PdfVerif.InlineDictLemmas
