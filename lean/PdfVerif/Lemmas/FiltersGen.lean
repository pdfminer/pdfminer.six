/-
Byte and bit arithmetic that links the hand model to the definitions regenerated from lzw.py and
utils.py (`Gen.Filters`).
-/
import PdfVerif.Lemmas.FiltersLit

namespace PdfVerif.Filters
open PdfVerif PdfVerif.FilterEnc PdfVerif.Gen.Filters

theorem paeth_cases (a b c : Int) :
    paeth_predictor a b c = a ∨ paeth_predictor a b c = b ∨ paeth_predictor a b c = c := by
  fun_cases paeth_predictor a b c
  · exact .inl rfl
  · exact .inr (.inl rfl)
  · exact .inr (.inr rfl)

theorem u8_add_toNat (x y : UInt8) : (x + y).toNat = (x.toNat + y.toNat) % 256 := by
  simp [UInt8.toNat_add]

theorem paeth_u8 (a b c : UInt8) :
    (UInt8.ofNat (Int.toNat (paeth_predictor a.toNat b.toNat c.toNat % 256))).toNat
      = (paeth_predictor a.toNat b.toNat c.toNat).toNat := by
  -- the predictor returns one of its arguments, here a byte value
  have key : ∀ m : Nat, m < 256 → (UInt8.ofNat (Int.toNat ((m : Int) % 256))).toNat = (m : Int).toNat := by
    intro m hm
    rw [toNat_ofNat_lt _ (by omega)]; omega
  rcases paeth_cases a.toNat b.toNat c.toNat with h | h | h <;> rw [h]
  · exact key _ a.toNat_lt
  · exact key _ b.toNat_lt
  · exact key _ c.toNat_lt

theorem shl_or_mask (v x n : Nat) : (v <<< n) ||| (x &&& ((1 <<< n) - 1)) = v * 2 ^ n + x % 2 ^ n := by
  have h1 : (1 <<< n) = 2 ^ n := by simp [Nat.shiftLeft_eq]
  rw [h1, Nat.and_two_pow_sub_one_eq_mod]
  have hlt : x % 2 ^ n < 2 ^ n := Nat.mod_lt _ (Nat.two_pow_pos n)
  rw [← Nat.shiftLeft_add_eq_or_of_lt hlt, Nat.shiftLeft_eq]

theorem lzwTakeAll_eq (v bits buff r : Nat) :
    lzwTakeAll v bits buff r = v * 2 ^ bits + buff / 2 ^ (r - bits) % 2 ^ bits := by
  simp only [lzwTakeAll, shl_or_mask, Nat.shiftRight_eq_div_pow]

theorem lzwTakePart_eq (v r buff : Nat) : lzwTakePart v r buff = v * 2 ^ r + buff % 2 ^ r := by
  simp only [lzwTakePart, shl_or_mask]

end PdfVerif.Filters
