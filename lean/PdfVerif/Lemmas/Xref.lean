/-
C02 — the representation relation and the search theorems.  `Rep whole objs secs hist` (with `SecRep`
for one section) says that the loaded sections, newest first, and the object store represent the
history; it is the hypothesis of the C02 theorems about `getobj`.  Under it the newest-first search
computes `resolve` (`search_rep`, `getobjF_spec`), also with the cache of `PDFDocument` (`CacheOK`,
`getobjC_spec`, `queriesC_spec`); `rep_of_alignedOK` gives `Rep` from its executable form.
-/
import PdfVerif.Spec.Xref
import PdfVerif.Lemmas.XrefGen
import PdfVerif.Lemmas.XrefLookup

namespace PdfVerif.Xref

open PdfVerif.Gen.Xref

/-- for `decide` on what `getobj` returns (the evaluated examples of `Props/C02`) -/
instance : DecidableEq (Except Err Val) := fun a b =>
  match a, b with
  | .ok x, .ok y => if h : x = y then isTrue (by rw [h]) else isFalse (by intro h'; cases h'; exact h rfl)
  | .error x, .error y => if h : x = y then isTrue (by rw [h]) else isFalse (by intro h'; cases h'; exact h rfl)
  | .ok _, .error _ => isFalse (by intro h; cases h)
  | .error _, .ok _ => isFalse (by intro h; cases h)

/-- Section `s` lists exactly the definitions of revision `r` (for every object number). -/
def SecRep (whole : History) (objs : List (Nat × Nat × Nat × Val)) (s : Section) (r : Revision) : Prop :=
  ∀ n, match r.lookup n with
       | none => s.getPos n = none
       | some v => ∃ e, s.getPos n = some e ∧ entryOK whole objs n v e = true

/-- The loaded sections (newest first) represent the history (newest first), one section per
(sub-)revision. -/
inductive Rep (whole : History) (objs : List (Nat × Nat × Nat × Val)) : List Section → History → Prop
  | nil : Rep whole objs [] []
  | cons {s ss r rs} : SecRep whole objs s r → Rep whole objs ss rs → Rep whole objs (s :: ss) (r :: rs)

theorem SecRep.none {whole objs s r n} (hs : SecRep whole objs s r) (hl : r.lookup n = none) :
    s.getPos n = none := by
  have := hs n; rwa [hl] at this

theorem SecRep.some {whole objs s r n v} (hs : SecRep whole objs s r) (hl : r.lookup n = some v) :
    ∃ e, s.getPos n = some e ∧ entryOK whole objs n v e = true := by
  have := hs n; rwa [hl] at this

theorem parseAt_of_entryOK {whole objs n v e} (hs : e.strm = none) (h : entryOK whole objs n v e = true) :
    parseAt objs e.idx n = .ok v := by
  unfold entryOK at h
  unfold parseAt
  rw [hs] at h
  cases hl : lookupNat objs e.idx with
  | none => rw [hl] at h; cases h
  | some t =>
    obtain ⟨num, g, v'⟩ := t
    rw [hl] at h
    simp only [Bool.and_eq_true, beq_iff_eq] at h
    simp only [h.1, h.2, if_true]

/-- A member of an object stream is never an object stream itself (`Tok.toVal`): the last conjunct. -/
theorem member_of_entryOK {whole objs n v e c} (hs : e.strm = some c) (h : entryOK whole objs n v e = true) :
    ∃ id k toks, resolve whole c = some (.objstm id k toks) ∧
      objstmMember (.objstm id k toks) e.idx = .ok v ∧ (∀ id' k' toks', v ≠ .objstm id' k' toks') := by
  revert h
  fun_cases entryOK whole objs n v e with
  | case1 hn => rw [hs] at hn; cases hn
  | case2 hn => rw [hs] at hn; cases hn
  | case3 c' hc id k toks hr t ht =>
    cases hs.symm.trans hc
    intro h
    rw [beq_iff_eq] at h
    exact ⟨id, k, toks, hr, by simp only [objstmMember, objstmIndex, ht, h],
      fun id' k' toks' hv => by cases t <;> cases h.trans hv⟩
  | case4 => nofun
  | case5 => nofun

theorem resolve_cons_none {r : Revision} {rs : History} {n : Nat} (h : r.lookup n = none) :
    resolve (r :: rs) n = resolve rs n := by
  simp only [resolve, h]

theorem resolve_cons_some {r : Revision} {rs : History} {n : Nat} {v : Val} (h : r.lookup n = some v) :
    resolve (r :: rs) n = some v := by
  simp only [resolve, h]

/-- Newest-first search over sections that represent `rs` computes `resolve rs`, provided the
recursive call is right on object-stream containers — or the object looked up is a container
itself (then the recursive call is never used). -/
theorem search_rep {whole objs ss rs} (h : Rep whole objs ss rs) (n : Nat) (rec : Nat → Except Err Val)
    (hrec : (∃ id k toks, resolve rs n = some (.objstm id k toks)) ∨
            (∀ c id k toks, resolve whole c = some (.objstm id k toks) → rec c = .ok (.objstm id k toks))) :
    search objs rec n ss = specGetobj rs n := by
  induction h with
  | nil => rfl
  | @cons s ss r rs hs _ ih =>
    cases hl : r.lookup n with
    | none =>
      rw [resolve_cons_none hl] at hrec
      rw [search, hs.none hl, specGetobj, resolve_cons_none hl]
      exact ih hrec
    | some v =>
      obtain ⟨e, hg, hok⟩ := hs.some hl
      rw [resolve_cons_some hl] at hrec
      have htry : tryEntry objs rec n e = .ok v := by
        unfold tryEntry
        cases hst : e.strm with
        | none => exact parseAt_of_entryOK hst hok
        | some c =>
          obtain ⟨id, k, toks, hc, hmem, hno⟩ := member_of_entryOK hst hok
          rcases hrec with ⟨id', k', toks', hv⟩ | h2
          · exact absurd (Option.some.inj hv) (hno id' k' toks')
          · simp only [h2 c id k toks hc]; exact hmem
      rw [search, hg, specGetobj, resolve_cons_some hl]
      simp only [htry]

theorem getobjF_objstm {whole objs ss} (h : Rep whole objs ss whole) (f : Nat) (ip : List Nat) (n : Nat) {id k toks}
    (hv : resolve whole n = some (.objstm id k toks)) :
    getobjF objs ss (f + 1) ip n = .ok (.objstm id k toks) := by
  rw [getobjF, search_rep h n _ (Or.inl ⟨id, k, toks, hv⟩), specGetobj, hv]

theorem getobjF_spec {whole objs ss} (h : Rep whole objs ss whole) (f n : Nat) :
    getobjF objs ss (f + 2) [] n = specGetobj whole n := by
  rw [getobjF]
  exact search_rep h n _ (Or.inr fun c id k toks hc => getobjF_objstm h f [c] c hc)

theorem findIndex_none_of_below {ranges : List (Nat × Nat)} {bound n acc : Nat}
    (h : ranges.all (fun r => r.1 + r.2 ≤ bound) = true) (hn : bound ≤ n) : findIndex ranges n acc = none := by
  induction ranges generalizing acc with
  | nil => rfl
  | cons r rest ih =>
    obtain ⟨s, c⟩ := r
    simp only [List.all_cons, Bool.and_eq_true, decide_eq_true_eq] at h
    have : ¬ (s ≤ n ∧ n < s + c) := fun hin => Nat.lt_irrefl _ (Nat.lt_of_lt_of_le hin.2 (Nat.le_trans h.1 hn))
    rw [findIndex_cons, if_neg this, ih h.2]

theorem getPos_none_of_below {s : Section} {bound n : Nat} (h : s.below bound = true) (hn : bound ≤ n) :
    s.getPos n = none := by
  cases s with
  | table offs =>
    rw [Section.getPos, lookupOff_eq_lookup, List.lookup_eq_none_iff]
    intro p hp
    have := List.all_eq_true.mp h p hp
    simp only [decide_eq_true_eq] at this
    rw [bne_iff_ne]
    omega
  | stream x => rw [Section.getPos, XStream.getPos, findIndex_none_of_below h hn]

theorem lookup_none_of_below {r : Revision} {bound n : Nat} (h : r.below bound = true) (hn : bound ≤ n) :
    r.lookup n = none := by
  rw [Revision.lookup, lookupNat_eq_lookup, List.lookup_eq_none_iff]
  intro p hp
  have := List.all_eq_true.mp h p hp
  simp only [decide_eq_true_eq] at this
  rw [bne_iff_ne]
  omega

theorem secRep_of_secOKb {whole objs bound s r} (h1 : secOKb whole objs bound s r = true)
    (h2 : s.below bound = true) (h3 : r.below bound = true) : SecRep whole objs s r := by
  intro n
  by_cases hn : n < bound
  · have := List.all_eq_true.mp h1 n (List.mem_range.mpr hn)
    split at this
    · rename_i hl hg; rw [hl]; exact hg
    · rename_i v e hl hg; rw [hl]; exact ⟨e, hg, this⟩
    · cases this
  · rw [lookup_none_of_below h3 (Nat.le_of_not_lt hn)]
    exact getPos_none_of_below h2 (Nat.le_of_not_lt hn)

theorem rep_of_alignedOK {whole objs bound ss rs} (h : alignedOK whole objs bound ss rs = true) :
    Rep whole objs ss rs := by
  fun_induction alignedOK whole objs bound ss rs with
  | case1 => exact .nil
  | case2 =>
    rename_i ih
    simp only [Bool.and_eq_true] at h
    exact .cons (secRep_of_secOKb h.1.1.1 h.1.1.2 h.1.2) (ih h.2)
  | case3 => cases h

def CacheOK (whole : History) (c : Cache) : Prop :=
  ∀ k v, lookupNat c k = some v → specGetobj whole k = .ok v

theorem cacheOK_nil (whole : History) : CacheOK whole [] := by
  intro k v h; cases h

theorem cacheOK_cons {whole : History} {c : Cache} {n : Nat} {v : Val} (h : CacheOK whole c)
    (hv : specGetobj whole n = .ok v) : CacheOK whole ((n, v) :: c) := by
  intro k v' hk
  rw [lookupNat] at hk
  by_cases hnk : n = k
  · subst hnk
    rw [beq_self_eq_true, if_pos rfl] at hk
    cases hk
    exact hv
  · rw [beq_false_of_ne hnk] at hk
    exact h k v' hk

theorem searchC_rep {whole objs ss rs} (h : Rep whole objs ss rs) (n : Nat)
    (rec : Cache → Nat → Except Err Val × Cache) (c : Cache) (hc : CacheOK whole c)
    (hrec : (∃ id k toks, resolve rs n = some (.objstm id k toks)) ∨
            (∀ c0 cont id k toks, CacheOK whole c0 → resolve whole cont = some (.objstm id k toks) →
               (rec c0 cont).1 = .ok (.objstm id k toks) ∧ CacheOK whole (rec c0 cont).2)) :
    (searchC objs rec n ss c).1 = specGetobj rs n ∧ CacheOK whole (searchC objs rec n ss c).2 := by
  induction h with
  | nil => exact ⟨rfl, hc⟩
  | @cons s ss r rs hs _ ih =>
    cases hl : r.lookup n with
    | none =>
      rw [resolve_cons_none hl] at hrec
      rw [searchC, hs.none hl, specGetobj, resolve_cons_none hl]
      exact ih hrec
    | some v =>
      obtain ⟨e, hg, hok⟩ := hs.some hl
      rw [resolve_cons_some hl] at hrec
      have htry : ∃ c', tryEntryC objs rec c n e = (.ok v, c') ∧ CacheOK whole c' := by
        unfold tryEntryC
        cases hst : e.strm with
        | none => exact ⟨c, by simp only [parseAt_of_entryOK hst hok], hc⟩
        | some cont =>
          obtain ⟨id, k, toks, hcont, hmem, hno⟩ := member_of_entryOK hst hok
          rcases hrec with ⟨id', k', toks', hv⟩ | h2
          · exact absurd (Option.some.inj hv) (hno id' k' toks')
          · obtain ⟨hr1, hr2⟩ := h2 c cont id k toks hc hcont
            rcases hrc : rec c cont with ⟨res, c'⟩
            rw [hrc] at hr1 hr2
            cases hr1
            exact ⟨c', by simp only [hrc, hmem], hr2⟩
      obtain ⟨c', ht, hc'⟩ := htry
      simp only [searchC, hg, ht, specGetobj, resolve_cons_some hl, true_and]
      exact hc'

/-- One level of `getobj` with the cache, from what the search below it does: a hit is sound by
`CacheOK`, a found value is stored. -/
theorem getobjC_of_searchC {whole : History} {objs ss} (f : Nat) (ip : List Nat) (c : Cache) (n : Nat)
    (hc : CacheOK whole c) {r : Except Err Val × Cache}
    (hr : searchC objs (fun c' s => if ip.contains s then (.error .syntax, c') else getobjC objs ss f (s :: ip) c' s)
      n ss c = r) (hs : r.1 = specGetobj whole n ∧ CacheOK whole r.2) :
    (getobjC objs ss (f + 1) ip c n).1 = specGetobj whole n ∧ CacheOK whole (getobjC objs ss (f + 1) ip c n).2 := by
  unfold getobjC
  cases hl : lookupNat c n with
  | some v => exact ⟨(hc n v hl).symm, hc⟩
  | none =>
    rw [hr]
    obtain ⟨res, c'⟩ := r
    cases res with
    | ok v => exact ⟨hs.1, cacheOK_cons hs.2 hs.1.symm⟩
    | error x => exact hs

theorem getobjC_objstm {whole objs ss} (h : Rep whole objs ss whole) (f : Nat) (ip : List Nat) (c : Cache) (n : Nat)
    (hc : CacheOK whole c) {id k toks} (hv : resolve whole n = some (.objstm id k toks)) :
    (getobjC objs ss (f + 1) ip c n).1 = specGetobj whole n ∧ CacheOK whole (getobjC objs ss (f + 1) ip c n).2 :=
  getobjC_of_searchC f ip c n hc rfl (searchC_rep h n _ c hc (Or.inl ⟨id, k, toks, hv⟩))

theorem getobjC_spec {whole objs ss} (h : Rep whole objs ss whole) (f : Nat) (c : Cache) (n : Nat)
    (hc : CacheOK whole c) :
    (getobjC objs ss (f + 2) [] c n).1 = specGetobj whole n ∧ CacheOK whole (getobjC objs ss (f + 2) [] c n).2 :=
  getobjC_of_searchC (f + 1) [] c n hc rfl (searchC_rep h n _ c hc (Or.inr fun c0 cont id k toks hc0 hcont => by
    have := getobjC_objstm h f [cont] c0 cont hc0 hcont
    rw [specGetobj, hcont] at this
    exact this))

theorem queriesC_spec {whole objs ss} (h : Rep whole objs ss whole) (qs : List Nat) (c : Cache)
    (hc : CacheOK whole c) : queriesC objs ss qs c = qs.map (specGetobj whole) := by
  induction qs generalizing c with
  | nil => rfl
  | cons q qs ih =>
    obtain ⟨h1, h2⟩ := getobjC_spec h (getobjFuel - 2) c q hc
    simp only [queriesC, List.map_cons]
    have hf : getobjFuel = getobjFuel - 2 + 2 := by decide
    rw [hf]
    rw [h1, ih _ h2]

end PdfVerif.Xref
