/-
Lemmas for C13: the number-tree walk of `Model/LenientTree.lean` — errors are family errors or the fuel outcome, and
the visited set stays duplicate free (every indirect node / Kids array is entered at most once).
-/
import PdfVerif.Lemmas.Lenient
import PdfVerif.Model.LenientTree

namespace PdfVerif.Lenient
open PdfVerif

theorem ntList_allowed (hG : Gen.Lenient.resolve1Guard = true) (strict : Bool) (g : Graph)
    (d : List (String × Obj)) (k : String) : Allowed (ntList strict g d k) := by
  unfold ntList
  split
  · exact listValue_allowed hG strict g _
  · trivial

theorem ntItems_allowed (hG : Gen.Lenient.resolve1Guard = true) (strict : Bool) (g : Graph) (l : List Obj) :
    Allowed (ntItems strict g l) := by
  fun_induction ntItems strict g l
  case case1 hi => exact (intValue_allowed hG strict g _).error_of hi
  case case2 hr ih => exact ih.error_of hr
  all_goals trivial

theorem ntNode_allowed (hG : Gen.Lenient.resolve1Guard = true) (strict : Bool) (g : Graph) (obj : Obj) :
    Allowed (ntNode strict g obj) := by
  fun_cases ntNode strict g obj
  case case1 h => exact (dictValue_allowed hG strict g _).error_of h
  case case2 h | case3 h | case4 h => exact (ntList_allowed hG strict g _ _).error_of h
  case case5 h => exact (ntItems_allowed hG strict g _).error_of h
  case case6 => trivial

def NTGood (r : Except Err (List (Obj × Obj) × List Nat)) : Prop :=
  Outcome (fun e => e.isFamily = true ∨ e = .fuel) (fun p => p.2.Nodup) r

theorem NTGood_seq {r1 : Except Err (List (Obj × Obj) × List Nat)}
    {k : List Nat → Except Err (List (Obj × Obj) × List Nat)}
    (F : List (Obj × Obj) → List (Obj × Obj) → List (Obj × Obj))
    (h1 : NTGood r1) (hk : ∀ v1, v1.Nodup → NTGood (k v1)) :
    NTGood (match (generalizing := false) r1 with
      | .error e => .error e
      | .ok (i1, v1) =>
        match k v1 with
        | .error e => .error e
        | .ok (i2, v2) => .ok (F i1 i2, v2)) := by
  cases r1 with
  | error e => exact h1
  | ok p =>
    have h2 := hk p.2 h1
    dsimp only
    split
    · next e hk2 => exact h2.error_of hk2
    · next i2 v2 hk2 => exact (h2.ok_of hk2 : v2.Nodup)

theorem NTGood_map {r : Except Err (List (Obj × Obj) × List Nat)} (F : List (Obj × Obj) → List (Obj × Obj))
    (h : NTGood r) :
    NTGood (match (generalizing := false) r with
      | .error e => .error e
      | .ok (its, v) => .ok (F its, v)) := by
  cases r with
  | error e => exact h
  | ok p => exact h

theorem ntKids_good (strict : Bool) (g : Graph) (fuel : Nat)
    (hP : ∀ obj visited, visited.Nodup → NTGood (ntParseFuel strict g fuel obj visited)) :
    ∀ (kids : List Obj) (visited : List Nat), visited.Nodup → NTGood (ntKidsFuel strict g fuel kids visited) := by
  intro kids
  induction kids with
  | nil => intro visited hn; simp only [ntKidsFuel]; exact hn
  | cons c cs ih =>
    intro visited hn
    cases c with
    | ref n =>
      simp only [ntKidsFuel]
      split
      · exact ih visited hn
      · next hc =>
        exact NTGood_seq (· ++ ·) (hP (.ref n) (n :: visited) (List.nodup_cons.mpr ⟨by simpa using hc, hn⟩)) ih
    | _ => simp only [ntKidsFuel]; exact NTGood_seq (· ++ ·) (hP _ visited hn) ih

theorem ntParse_good (hG : Gen.Lenient.resolve1Guard = true) (hGn : Gen.Lenient.numberTreeGuard = true)
    (strict : Bool) (g : Graph) :
    ∀ (fuel : Nat) (obj : Obj) (visited : List Nat), visited.Nodup →
      NTGood (ntParseFuel strict g fuel obj visited) := by
  intro fuel
  induction fuel with
  | zero => intro obj visited hn; simp only [ntParseFuel]; exact Or.inr rfl
  | succ f ih =>
    intro obj visited hn
    simp only [ntParseFuel]
    split
    · next e hnode => exact Or.inl ((ntNode_allowed hG strict g obj).error_of hnode)
    · next node _ =>
      split
      · exact hn
      · split
        · next n _ =>
          simp only [hGn, Bool.true_and]
          split
          · exact hn
          · next hc =>
            exact NTGood_map (node.items ++ ·)
              (ntKids_good strict g f ih node.kids (n :: visited) (List.nodup_cons.mpr ⟨by simpa using hc, hn⟩))
        · exact NTGood_map (node.items ++ ·) (ntKids_good strict g f ih node.kids visited hn)

end PdfVerif.Lenient
