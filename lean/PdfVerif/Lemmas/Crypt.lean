/- Lemmas for C10: RC4 is an involution, the standard's constants and Algorithms 2-5 against the
   reader's, the control flow of `authenticate`, traversals of object trees, Algorithm 2.B. -/
import PdfVerif.Model.Crypt
import PdfVerif.Spec.CryptWriter

namespace PdfVerif.Crypt
open PdfVerif PdfVerif.Gen.Crypt PdfVerif.CryptWriter

theorem xor_cancel (c k : UInt8) : (c ^^^ k) ^^^ k = c := by
  rw [UInt8.xor_assoc, UInt8.xor_self, UInt8.xor_zero]

theorem prga_prga (s : Array UInt8) (i j : Nat) (d : Bytes) : prga s i j (prga s i j d) = d := by
  induction d generalizing s i j with
  | nil => rfl
  | cons c cs ih => simp only [prga, xor_cancel, ih]

theorem prga_length (s : Array UInt8) (i j : Nat) (d : Bytes) : (prga s i j d).length = d.length := by
  induction d generalizing s i j with
  | nil => rfl
  | cons c cs ih => simp only [prga, List.length_cons, ih]

theorem rc4Core_rc4Core (key d : Bytes) : rc4Core key (rc4Core key d) = d := prga_prga _ _ _ _

theorem rc4Core_length (key d : Bytes) : (rc4Core key d).length = d.length := prga_length _ _ _ _

theorem rc4Layers_length (key : Bytes) (is : List Nat) (x : Bytes) :
    (rc4Layers key is x).length = x.length := by
  induction is generalizing x with
  | nil => rfl
  | cons i rest ih => simp only [rc4Layers, List.foldl_cons] at ih ⊢; rw [ih, rc4Core_length]

theorem rc4Layers_reverse (key : Bytes) (is : List Nat) (x : Bytes) :
    rc4Layers key is.reverse (rc4Layers key is x) = x := by
  induction is generalizing x with
  | nil => rfl
  | cons i rest ih =>
    simp only [rc4Layers, List.foldl_cons, List.reverse_cons, List.foldl_append, List.foldl_nil] at ih ⊢
    rw [ih, rc4Core_rc4Core]

theorem xorKey_zero (key : Bytes) : xorKey key 0 = key := by
  simp [xorKey]

/-- Algorithms 3 and 4/5 wrap their RC4 output in the same nineteen XOR-keyed passes. -/
theorem alg3O_eq (P : Prims) (c : Cfg) (po pu : Bytes) :
    alg3O P c po pu =
      if c.r ≥ 3 then
        rc4Layers ((iter P.md5 50 (P.md5 po)).take (keyLen c)) (List.range' 1 19)
          (rc4Core ((iter P.md5 50 (P.md5 po)).take (keyLen c)) pu)
      else rc4Core ((P.md5 po).take (keyLen c)) pu := by
  unfold alg3O
  split <;> rfl

theorem alg45U_eq (P : Prims) (c : Cfg) (key tail : Bytes) :
    alg45U P c key tail =
      if c.r = 2 then rc4Core key isoPad
      else rc4Layers key (List.range' 1 19) (rc4Core key (P.md5 (isoPad ++ c.id0))) ++ tail := rfl

/-- Algorithm 7 undoes Algorithm 3: `OWNER_LAYERS` (`range(19, -1, -1)`) peels off, last first, the
    plain RC4 pass and the nineteen XOR-keyed passes that produced O. -/
theorem rc4Layers_owner_undo (key x : Bytes) :
    rc4Layers key OWNER_LAYERS (rc4Layers key (List.range' 1 19) (rc4Core key x)) = x := by
  have h : rc4Layers key (List.range' 1 19) (rc4Core key x) = rc4Layers key (List.range 20) x := by
    rw [show List.range 20 = 0 :: List.range' 1 19 by decide, rc4Layers, rc4Layers, List.foldl_cons,
      xorKey_zero]
  rw [h, show OWNER_LAYERS = (List.range 20).reverse by decide, rc4Layers_reverse]

theorem padding_eq : PASSWORD_PADDING = isoPad := by decide

theorem padPassword_eq (pw : Bytes) : padPassword pw = pad32 pw := by
  simp [padPassword, pad32, padding_eq, PASSWORD_LEN]

theorem pad32_length (pw : Bytes) : (pad32 pw).length = 32 := by
  simp [pad32, isoPad]

theorem pad32_eq_self {x : Bytes} (h : x.length = 32) : pad32 x = x := by
  unfold pad32
  rw [List.take_append_of_le_length (by omega), List.take_of_length_le (by omega)]

theorem pad32_pad32 (pw : Bytes) : pad32 (pad32 pw) = pad32 pw := pad32_eq_self (pad32_length pw)

theorem leBytes_length (k n : Nat) : (leBytes k n).length = k := by
  induction k generalizing n with
  | zero => rfl
  | succ k ih => simp [leBytes, ih]

theorem leBytes_mod (k n : Nat) : leBytes k (n % 256 ^ k) = leBytes k n := by
  induction k generalizing n with
  | zero => rfl
  | succ k ih => rw [leBytes, leBytes, Nat.pow_succ', Nat.mod_mul_right_mod, Nat.mod_mul_right_div_self, ih]

theorem leBytes4_mod (n : Nat) : leBytes 4 n = leBytes 4 (n % 4294967296) := (leBytes_mod 4 n).symm

theorem uintValue32_eq (x : Int) : uintValue32 x = (x % 4294967296).toNat := by
  unfold uintValue32
  split
  · rfl
  · rw [Int.add_emod_right]

/-- the reader's `struct.pack("<L", uint_value(P, 32) & 0xFFFFFFFF)` is the writer's two's-complement
    P, for every integer P. -/
theorem pBytes_eq (p : Int) : leBytes 4 (uintValue32 p) = pBytes p := by
  rw [uintValue32_eq]; rfl

theorem uintValue32_lt (p : Int) : uintValue32 p < 4294967296 := by
  rw [uintValue32_eq]; omega

theorem keyBytes_eq (c : Cfg) (hr : c.r = 2 ∨ c.r = 3 ∨ c.r = 4) : keyBytes c.r c.length = keyLen c := by
  unfold keyBytes keyLen BITS_PER_KEY_BYTE KEY_BYTES_R2
  rcases hr with h | h | h <;> simp [h]

theorem keyBytes_ne_zero (r : Int) {length : Nat} (h : 8 ≤ length) : keyBytes r length ≠ 0 := by
  unfold keyBytes BITS_PER_KEY_BYTE KEY_BYTES_R2
  split <;> omega

theorem iter_succ' {α : Type} (f : α → α) (n : Nat) (x : α) : iter f (n + 1) x = f (iter f n x) := by
  induction n generalizing x with
  | zero => rfl
  | succ n ih => rw [iter, ih (f x)]; rfl

/-- In particular 16 bytes for every V4 (AESV2) document, where pdfminer forces Length = 128. -/
theorem alg2Key_length (P : Prims) (hmd5 : ∀ x, (P.md5 x).length = 16) (c : Cfg) (pu o : Bytes)
    (hr : c.r ≥ 3) : (alg2Key P c pu o).length = min (keyLen c) 16 := by
  unfold alg2Key
  simp only [hr, if_true]
  rw [show (50 : Nat) = 49 + 1 from rfl, iter_succ', List.length_take, hmd5]

section authenticate
variable {P : Prims} {prm : Params} {length p : Nat} {pw : List Nat} {b k : Bytes}

theorem authenticate234_user (henc : encodeLatin1 pw = some b) (hk : keyBytes prm.r length ≠ 0)
    (hu : authUser P prm length p b = some k) : authenticate234 P prm length p pw = .ok k := by
  simp only [authenticate234, henc, hk, if_false, hu]

theorem authenticate234_owner (henc : encodeLatin1 pw = some b) (hk : keyBytes prm.r length ≠ 0)
    (hu : authUser P prm length p b = none) (ho : authOwner P prm length p b = some k) :
    authenticate234 P prm length p pw = .ok k := by
  simp only [authenticate234, henc, hk, if_false, hu, ho]

theorem authenticate234_reject (henc : encodeLatin1 pw = some b) (hk : keyBytes prm.r length ≠ 0)
    (hu : authUser P prm length p b = none) (ho : authOwner P prm length p b = none) :
    authenticate234 P prm length p pw = .error .passwordIncorrect := by
  simp only [authenticate234, henc, hk, if_false, hu, ho]

theorem authenticate56_error {e : Err} (hn : normalizePassword P prm.r pw = .error e) :
    authenticate56 P prm pw = .error e := by
  simp only [authenticate56, hn]

/-- the V5 handler tries the owner branch first -/
theorem authenticate56_owner (hn : normalizePassword P prm.r pw = .ok b)
    (ho : authOwner56 P prm b = some k) : authenticate56 P prm pw = .ok k := by
  simp only [authenticate56, hn, ho]

theorem authenticate56_user (hn : normalizePassword P prm.r pw = .ok b)
    (ho : authOwner56 P prm b = none) (hu : authUser56 P prm b = some k) :
    authenticate56 P prm pw = .ok k := by
  simp only [authenticate56, hn, ho, hu]

theorem authenticate56_reject (hn : normalizePassword P prm.r pw = .ok b)
    (ho : authOwner56 P prm b = none) (hu : authUser56 P prm b = none) :
    authenticate56 P prm pw = .error .passwordIncorrect := by
  simp only [authenticate56, hn, ho, hu]

end authenticate

/-- all that `attrsType` reads of a dictionary value -/
def Obj.atom? : Obj → Option Bytes
  | .atom a => some a
  | _ => none

theorem attrsType_cons (k : Bytes) (v : Obj) (rest : List (Bytes × Obj)) :
    attrsType ((k, v) :: rest)
      = if k = keyType then v.atom?.orElse fun _ => attrsType rest else attrsType rest := by
  cases v <;> rfl

theorem atom?_encryptAll (e : Bytes → Bytes) (skip : List (Bytes × Obj) → Bool) (v : Obj) :
    (encryptAll e skip v).atom? = v.atom? := by
  fun_cases encryptAll e skip v <;> rfl

theorem atom?_decipherAll (f : Bytes → Bytes) (g : Bool → Bytes → Bytes) (v : Obj) :
    (decipherAll f g v).atom? = v.atom? := by
  fun_cases decipherAll f g v <;> rfl

theorem attrsType_encryptKVs (e : Bytes → Bytes) (skip : List (Bytes × Obj) → Bool)
    (kvs : List (Bytes × Obj)) : attrsType (encryptKVs e skip kvs) = attrsType kvs := by
  induction kvs with
  | nil => rfl
  | cons kv rest ih => obtain ⟨k, v⟩ := kv; simp only [encryptKVs, attrsType_cons, atom?_encryptAll, ih]

theorem attrsType_decipherKVs (f : Bytes → Bytes) (g : Bool → Bytes → Bytes)
    (kvs : List (Bytes × Obj)) : attrsType (decipherKVs f g kvs) = attrsType kvs := by
  induction kvs with
  | nil => rfl
  | cons kv rest ih => obtain ⟨k, v⟩ := kv; simp only [decipherKVs, attrsType_cons, atom?_decipherAll, ih]

section roundtrip
set_option linter.unusedSectionVars false
variable (f : Bytes → Bytes) (g : Bool → Bytes → Bytes) (e : Bytes → Bytes)
  (skip : List (Bytes × Obj) → Bool)
  (hfe : ∀ b, f (e b) = b) (he : ∀ b, e b = [] → b = [])
  (hg : ∀ attrs raw, g (attrsType attrs = some atomMetadata) (if skip attrs then raw else e raw) = raw)
include hfe he hg

mutual
theorem decipher_encrypt_obj (o : Obj) : decipherAll f g (encryptAll e skip o) = o := by
  cases o with
  | str b =>
    simp only [encryptAll, decipherAll]
    by_cases hb : (e b).isEmpty
    · have : e b = [] := by simpa using hb
      rw [if_pos hb, this, he b this]
    · rw [if_neg hb, hfe]
  | atom a => rfl
  | arr xs => simp only [encryptAll, decipherAll, decipher_encrypt_list xs]
  | dict kvs => simp only [encryptAll, decipherAll, decipher_encrypt_kvs kvs]
  | stream attrs raw =>
    simp only [encryptAll]
    by_cases hx : attrsType attrs = some atomXRef
    · simp only [hx, if_true, decipherAll]
    · simp only [hx, if_false, decipherAll, attrsType_encryptKVs, decipher_encrypt_kvs attrs, hg]
theorem decipher_encrypt_list (xs : List Obj) : decipherList f g (encryptList e skip xs) = xs := by
  cases xs with
  | nil => rfl
  | cons x xs => simp only [encryptList, decipherList, decipher_encrypt_obj x, decipher_encrypt_list xs]
theorem decipher_encrypt_kvs (kvs : List (Bytes × Obj)) :
    decipherKVs f g (encryptKVs e skip kvs) = kvs := by
  cases kvs with
  | nil => rfl
  | cons kv rest =>
    obtain ⟨k, v⟩ := kv
    simp only [encryptKVs, decipherKVs, decipher_encrypt_obj v, decipher_encrypt_kvs rest]
end
end roundtrip

section trace
variable (f : Bytes → Bytes) (g : Bool → Bytes → Bytes)

mutual
theorem decipherAllT_spec (o : Obj) :
    decipherAllT f g o = (decipherAll f g o, expectedCalls o) := by
  cases o with
  | str b => by_cases hb : b.isEmpty <;> simp [decipherAllT, decipherAll, expectedCalls, hb]
  | atom a => rfl
  | arr xs => simp only [decipherAllT, decipherAll, expectedCalls, decipherListT_spec xs]
  | dict kvs => simp only [decipherAllT, decipherAll, expectedCalls, decipherKVsT_spec kvs]
  | stream attrs raw =>
    by_cases hx : attrsType attrs = some atomXRef
    · simp only [decipherAllT, decipherAll, expectedCalls, hx, if_true]
    · simp only [decipherAllT, decipherAll, expectedCalls, hx, if_false, decipherKVsT_spec attrs]
theorem decipherListT_spec (xs : List Obj) :
    decipherListT f g xs = (decipherList f g xs, expectedCallsList xs) := by
  cases xs with
  | nil => rfl
  | cons x xs =>
    simp only [decipherListT, decipherList, expectedCallsList, decipherAllT_spec x, decipherListT_spec xs]
theorem decipherKVsT_spec (kvs : List (Bytes × Obj)) :
    decipherKVsT f g kvs = (decipherKVs f g kvs, expectedCallsKVs kvs) := by
  cases kvs with
  | nil => rfl
  | cons kv rest =>
    obtain ⟨k, v⟩ := kv
    simp only [decipherKVsT, decipherKVs, expectedCallsKVs, decipherAllT_spec v, decipherKVsT_spec rest]
end
end trace

/-- `_bytes_mod_3` (sum of the bytes' residues) is the big-endian integer modulo 3 (256 ≡ 1). -/
theorem bytesMod3_eq (bs : Bytes) :
    bytesMod3 bs = bs.foldl (fun acc b => (acc * 256 + b.toNat) % 3) 0 :=
  -- the running sum of residues, reduced modulo 3, is the running value of the other fold
  List.foldl_rel (r := fun x y => x % 3 = y) (f := fun acc (b : UInt8) => acc + b.toNat % 3) rfl
    fun b _ c c' (h : c % 3 = c') => by omega

theorem r6_continue_iff (round last : Nat) :
    r6_continue (round : Int) (last : Int) = true ↔ ¬ (round ≥ 64 ∧ last + 32 ≤ round) := by
  unfold r6_continue
  simp only [decide_eq_true_eq]
  omega

/-- The loop of `_r6_password` - with its regenerated `while` condition `r6_continue` and repeat
    count - is the loop of Algorithm 2.B. -/
theorem r6Loop_eq_alg2B (P : Prims) (pw vec : Bytes) (fuel round last : Nat) (k : Bytes) :
    r6Loop P pw vec fuel round last k = alg2BLoop P pw vec fuel round last k := by
  fun_induction alg2BLoop P pw vec fuel round last k with
  | case1 => rfl
  | case2 _ _ _ _ h => rw [r6Loop, if_neg fun hb => (r6_continue_iff _ _).mp hb h]
  | case3 _ _ _ _ h k1 e m k' ih =>
    rw [r6Loop, if_pos ((r6_continue_iff _ _).mpr h), ← ih]
    simp only [k', m, e, k1, bytesMod3_eq, R6_REPEAT]

theorem r6_password_is_alg2B (P : Prims) (pw salt vec : Bytes) (hs : salt.length ≤ 8) :
    passwordHash P 6 pw salt vec = alg2B P pw salt vec := by
  unfold passwordHash alg2B
  simp only [show ¬ ((6 : Int) = 5) by decide, if_false, r6Loop_eq_alg2B]
  rw [List.take_of_length_le hs]

section flat
variable (f : Bytes → Bytes) (g g' : Bool → Bytes → Bytes)

mutual
theorem decipher_flat (o : Obj) (h : flat o = true) : decipherAll f g o = decipherAll f g' o := by
  cases o with
  | str b => rfl
  | atom a => rfl
  | arr xs => simp only [flat] at h; simp only [decipherAll, decipher_flat_list xs h]
  | dict kvs => simp only [flat] at h; simp only [decipherAll, decipher_flat_kvs kvs h]
  | stream a r => simp [flat] at h
theorem decipher_flat_list (xs : List Obj) (h : flatList xs = true) :
    decipherList f g xs = decipherList f g' xs := by
  cases xs with
  | nil => rfl
  | cons x xs =>
    simp only [flatList, Bool.and_eq_true] at h
    simp only [decipherList, decipher_flat x h.1, decipher_flat_list xs h.2]
theorem decipher_flat_kvs (kvs : List (Bytes × Obj)) (h : flatKVs kvs = true) :
    decipherKVs f g kvs = decipherKVs f g' kvs := by
  cases kvs with
  | nil => rfl
  | cons kv rest =>
    obtain ⟨k, v⟩ := kv
    simp only [flatKVs, Bool.and_eq_true] at h
    simp only [decipherKVs, decipher_flat v h.1, decipher_flat_kvs rest h.2]
end
end flat

mutual
theorem encrypt_flat (e : Bytes → Bytes) (s1 s2 : List (Bytes × Obj) → Bool) (o : Obj) (h : flat o = true) :
    encryptAll e s1 o = encryptAll e s2 o := by
  cases o with
  | str b => rfl
  | atom a => rfl
  | arr xs => simp only [flat] at h; simp only [encryptAll, encrypt_flat_list e s1 s2 xs h]
  | dict kvs => simp only [flat] at h; simp only [encryptAll, encrypt_flat_kvs e s1 s2 kvs h]
  | stream a r => simp [flat] at h
theorem encrypt_flat_list (e : Bytes → Bytes) (s1 s2 : List (Bytes × Obj) → Bool) (xs : List Obj)
    (h : flatList xs = true) : encryptList e s1 xs = encryptList e s2 xs := by
  cases xs with
  | nil => rfl
  | cons x xs =>
    simp only [flatList, Bool.and_eq_true] at h
    simp only [encryptList, encrypt_flat e s1 s2 x h.1, encrypt_flat_list e s1 s2 xs h.2]
theorem encrypt_flat_kvs (e : Bytes → Bytes) (s1 s2 : List (Bytes × Obj) → Bool)
    (kvs : List (Bytes × Obj)) (h : flatKVs kvs = true) : encryptKVs e s1 kvs = encryptKVs e s2 kvs := by
  cases kvs with
  | nil => rfl
  | cons kv rest =>
    obtain ⟨k, v⟩ := kv
    simp only [flatKVs, Bool.and_eq_true] at h
    simp only [encryptKVs, encrypt_flat e s1 s2 v h.1, encrypt_flat_kvs e s1 s2 rest h.2]
end

end PdfVerif.Crypt
