/-
Every hand-written scanner body `parse*Hit` of `Model/Lexer.lean` equals the interpretation of the body
regenerated from psparser.py (`Gen/LexScan.lean`), for every parser state, byte and position.
-/
import PdfVerif.Model.LexScan

namespace PdfVerif.Lexer
open PdfVerif PdfVerif.Gen.LexTables PdfVerif.Gen.LexScan

theorem tie_main (st : St) (c : UInt8) (j : Nat) : parseMainHit st c j = genHit .main st c j := by
  simp only [genHit, progOf, P_main, interp, exec, evalCond, parseMainHit]
  repeat' apply ite_congr ?_ (fun _ => ?_) (fun _ => ?_)
  all_goals first | rfl | simp

theorem tie_comment (st : St) (c : UInt8) (j : Nat) : parseCommentHit st = genHit .comment st c j := by
  simp [genHit, progOf, P_comment, interp, exec, parseCommentHit, modeOfScn]

theorem tie_literal (st : St) (c : UInt8) (j : Nat) : parseLiteralHit st c = genHit .literal st c j := by
  simp only [genHit, progOf, P_literal, interp, exec, evalCond, withTok, parseLiteralHit, setFld, modeOfScn]
  repeat' apply ite_congr ?_ (fun _ => ?_) (fun _ => ?_)
  all_goals first | rfl | simp

/- Here and in `_parse_string_1` the hand model tests `isEmpty`, the regenerated program its negation:
   the test is decided first.  (`cases`/`rw` on it fail: after `simp only` its `Decidable` instance
   still mentions `evalCond`; rewriting with its value works.) -/
theorem tie_literalHex (st : St) (c : UInt8) (j : Nat) : parseLiteralHexHit st c = genHit .literal_hex st c j := by
  simp only [genHit, progOf, P_literal_hex, interp, exec, evalCond, parseLiteralHexHit, raise, raiseIS, clsFn,
    getFld, setFld, modeOfScn]
  apply ite_congr rfl (fun _ => rfl) (fun _ => ?_)
  rcases Bool.eq_false_or_eq_true st.hex.isEmpty with hE | hE <;>
    simp only [hE, if_true, if_false, Bool.not_true, Bool.false_eq_true, Bool.not_false]
  · rfl
  · cases pyIntBase 16 st.hex
    · rfl
    · exact ite_congr rfl (fun _ => rfl) (fun _ => rfl)

theorem tie_number (st : St) (c : UInt8) (j : Nat) : parseNumberHit st c = genHit .number st c j := by
  simp only [genHit, progOf, P_number, interp, exec, evalCond, withTok, parseNumberHit, modeOfScn]
  apply ite_congr rfl (fun _ => rfl) (fun _ => ?_)
  cases pyInt st.cur <;> rfl

theorem tie_float (st : St) (c : UInt8) (j : Nat) : parseFloatHit st = genHit .float st c j := by
  simp only [genHit, progOf, P_float, interp, exec, withTok, parseFloatHit, modeOfScn]
  cases pyFloatOk st.cur <;> rfl

theorem tie_keyword (st : St) (c : UInt8) (j : Nat) : parseKeywordHit st = genHit .keyword st c j := by
  simp only [genHit, progOf, P_keyword, interp, exec, evalCond, withTok, parseKeywordHit, modeOfScn]
  -- the hand model chooses the token inside the record, the program branches around it
  rw [apply_ite (emit st), apply_ite (Hit.mk _ false), apply_ite (emit st), apply_ite (Hit.mk _ false)]
  rfl

theorem tie_string (st : St) (c : UInt8) (j : Nat) : parseStringHit st c = genHit .string st c j := by
  simp only [genHit, progOf, P_string, interp, exec, evalCond, withTok, parseStringHit, setFld, modeOfScn, Int.add_neg_one]
  apply ite_congr rfl (fun _ => rfl) (fun _ => ?_)
  apply ite_congr rfl (fun _ => rfl) (fun _ => ?_)
  rcases Bool.eq_false_or_eq_true (c == 41) with h | h <;>
    simp only [h, Bool.true_and, Bool.false_and, if_true, if_false, Bool.false_eq_true]
  · exact ite_congr rfl (fun _ => rfl) (fun _ => rfl)
  · rfl

theorem tie_string1 (st : St) (c : UInt8) (j : Nat) : parseString1Hit st c = genHit .string_1 st c j := by
  -- the octal escape: the program masks with `& 255` and guards `bytes((chrcode,))`, the hand model takes `% 256`
  have and255 (d : Nat) : d &&& 255 = d % 256 := Nat.and_two_pow_sub_one_eq_mod d 8
  have mod256 (d : Nat) : d % 256 < 256 := Nat.mod_lt _ (by decide)
  simp only [genHit, progOf, P_string_1, interp, exec, evalCond, parseString1Hit, raise, raiseIS, clsFn, getFld,
    setFld, modeOfScn, and255, mod256, if_true]
  apply ite_congr rfl (fun _ => rfl) (fun _ => ?_)
  rcases Bool.eq_false_or_eq_true st.oct.isEmpty with hE | hE <;>
    simp only [hE, if_true, if_false, Bool.not_true, Bool.false_eq_true, Bool.not_false]
  · rcases Option.eq_none_or_eq_some (escLookup c) with h | ⟨e, h⟩ <;>
      simp only [h, Option.isSome_none, Option.isSome_some, Bool.false_eq_true, if_false, if_true]
    · exact ite_congr rfl (fun _ => rfl) (fun _ => ite_congr rfl (fun _ => rfl) (fun _ => rfl))
    · rfl
  · cases pyIntBase 8 st.oct <;> rfl

theorem tie_string2 (st : St) (c : UInt8) (j : Nat) : parseString2Hit st c = genHit .string_2 st c j := by
  by_cases h : c = 10 <;> simp [genHit, progOf, P_string_2, interp, exec, evalCond, parseString2Hit, modeOfScn, h]

theorem tie_wopen (st : St) (c : UInt8) (j : Nat) : parseWopenHit st c = genHit .wopen st c j := by
  simp only [genHit, progOf, P_wopen, interp, exec, evalCond, withTok, parseWopenHit, modeOfScn, constBytes]
  repeat' apply ite_congr ?_ (fun _ => ?_) (fun _ => ?_)
  all_goals first | rfl | simp

theorem tie_wclose (st : St) (c : UInt8) (j : Nat) : parseWcloseHit st c = genHit .wclose st c j := by
  simp only [genHit, progOf, P_wclose, interp, exec, evalCond, withTok, parseWcloseHit, modeOfScn, constBytes]
  repeat' apply ite_congr ?_ (fun _ => ?_) (fun _ => ?_)
  all_goals first | rfl | simp

theorem tie_hexstring (st : St) (c : UInt8) (j : Nat) : parseHexstringHit st = genHit .hexstring st c j := by
  simp only [genHit, progOf, P_hexstring, interp, exec, withTok, parseHexstringHit, raise, raiseIS, modeOfScn]
  cases hexPairs (st.cur.filter fun c => !isSPC c) <;> simp

theorem accum_eq_gen (st : St) (pre : Bytes) (m : Scn) (hm : scnOfMode st.mode = some m) (hs : (searchRe m).isSome) :
    accum st pre = if searchAccum m then { st with cur := st.cur ++ pre } else st := by
  unfold accum
  cases hmode : st.mode <;> simp [hmode, scnOfMode] at hm <;> subst hm <;> simp [searchAccum, searchRe] at hs ⊢

end PdfVerif.Lexer
