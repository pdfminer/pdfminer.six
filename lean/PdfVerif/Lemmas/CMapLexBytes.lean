/-
C07: the bytes of a spelled object sequence (hex strings, decimal integers, names, keywords, flat
arrays of hex strings; any non-empty separator of white space and comments after each) lex — by the C14 tokenizer
model — to the tokens of the objects.  Built on the token units of C14 / C01 (`LexUnit`).
-/
import PdfVerif.Lemmas.Roundtrip
import PdfVerif.Lemmas.CMapLex
import PdfVerif.Lemmas.CIDFont

namespace PdfVerif.CIDFontLemmas
open PdfVerif PdfVerif.CIDFont PdfVerif.Lexer PdfVerif.Roundtrip PdfVerif.Gen.LexTables

def hexDigit (n : Nat) : UInt8 := if n < 10 then UInt8.ofNat (48 + n) else UInt8.ofNat (87 + n)

def hexOf : Bytes → Bytes
  | [] => []
  | c :: r => hexDigit (c.toNat / 16) :: hexDigit (c.toNat % 16) :: hexOf r

/-- The sixteen digits `0`…`9`, `a`…`f`: each is a hexadecimal digit of the tokenizer, not white space, and has
its own value. -/
theorem hexDigit_spec : ∀ n, n < 16 →
    isHEX (hexDigit n) = true ∧ isSPC (hexDigit n) = false ∧ hexCharVal (hexDigit n) = n := by
  decide +kernel

theorem hexOf_spec : ∀ (b : Bytes),
    (∀ c ∈ hexOf b, isHEX c = true ∧ isSPC c = false) ∧ (hexOf b).length = 2 * b.length ∧ pairUp (hexOf b) = b
  | [] => ⟨nofun, rfl, rfl⟩
  | c :: r => by
    obtain ⟨i1, i2, i3⟩ := hexOf_spec r
    obtain ⟨h1, h2, h3⟩ := hexDigit_spec (c.toNat / 16) (Nat.div_lt_of_lt_mul c.toNat_lt)
    obtain ⟨l1, l2, l3⟩ := hexDigit_spec (c.toNat % 16) (Nat.mod_lt _ (by decide))
    refine ⟨List.forall_mem_cons.mpr ⟨⟨h1, h2⟩, List.forall_mem_cons.mpr ⟨⟨l1, l2⟩, i1⟩⟩, ?_, ?_⟩
    · simp only [hexOf, List.length_cons, i2, Nat.mul_add]
    · simp only [hexOf, pairUp, h3, l3, i3, Nat.div_add_mod', UInt8.ofNat_toNat]

def hexSpell (b : Bytes) : Bytes := 60 :: (hexOf b ++ [62])

theorem unit_hexSpell (b : Bytes) (g : List SepItem) (hg : sepOK g) :
    LexUnit (hexSpell b ++ renderSep g) [Token.str b] false := by
  obtain ⟨h1, h2, h3⟩ := hexOf_spec b
  have hd : hexDigitsOf (hexOf b) = hexOf b :=
    List.filter_eq_self.mpr (fun c hc => by rw [(h1 c hc).2]; rfl)
  have hu := unit_hex (hexOf b) b.length (fun c hc => Or.inl (h1 c hc).1) (by rw [hd, h2])
  rw [hd, h3] at hu
  exact free_sep hu g hg

inductive STok where
  | hex (b : Bytes)
  | int (ds : Bytes)
  | name (b : Bytes)
  | kw (b : Bytes)
  | arr (ds : List Bytes)

def STok.ok : STok → Bool
  | .hex _ => true
  | .int ds => !ds.isEmpty && ds.all isDigit && decide (ds.length ≤ 4300)
  | .name b => b.all nameRaw
  | .kw b => !b.isEmpty && b.all isAlpha && b != kwTrue && b != kwFalse
  | .arr _ => true

def STok.val : STok → BTok
  | .hex b => .str b
  | .int ds => .int (decimalNat ds)
  | .name b => .name b
  | .kw b => .kw b
  | .arr ds => .arr (ds.map AElem.str)

/-- `g` = the rendered separator written after every object (and after every array element). -/
def STok.spell (g : Bytes) : STok → Bytes
  | .hex b => hexSpell b ++ g
  | .int ds => ds ++ g
  | .name b => (47 :: b) ++ g
  | .kw b => b ++ g
  | .arr ds => ([91] ++ g) ++ (ds.flatMap (fun d => hexSpell d ++ g) ++ ([93] ++ g))

theorem renderName_raw : ∀ (b : Bytes), renderName (b.map NameItem.raw) = b ∧ nameValue (b.map NameItem.raw) = b
  | [] => by simp [renderName, nameValue]
  | c :: r => by
    obtain ⟨h1, h2⟩ := renderName_raw r
    simp [renderName, nameValue, NameItem.render, NameItem.value, h1, h2]

theorem unit_hexes (g : List SepItem) (hg : sepOK g) : ∀ (ds : List Bytes),
    LexUnit (ds.flatMap (fun d => hexSpell d ++ renderSep g)) (ds.map Token.str) false
  | [] => LexUnit.nil
  | d :: r => by
    simpa using LexUnit.append_free (unit_hexSpell d g hg) (unit_hexes g hg r)

/-- A token that ends in regular characters, followed by a non-empty separator. -/
theorem tok_sep_ne {s : Bytes} {ts : List Token} (h : LexUnit s ts true) (g : List SepItem) (hg : sepOK g)
    (hne : g ≠ []) : LexUnit (s ++ renderSep g) ts false := by
  have hu := tok_sep h g hg
  rwa [List.isEmpty_eq_false_iff.mpr hne] at hu

theorem unit_stok (g : List SepItem) (hg : sepOK g) (hne : g ≠ []) (t : STok) (h : t.ok = true) :
    LexUnit (t.spell (renderSep g)) t.val.flat false := by
  cases t with
  | hex b => exact unit_hexSpell b g hg
  | int ds =>
    simp only [STok.ok, Bool.and_eq_true, Bool.not_eq_true', List.isEmpty_eq_false_iff, List.all_eq_true,
      decide_eq_true_eq] at h
    exact tok_sep_ne (unit_int [] ds (Or.inl rfl) h.1.1 h.1.2 h.2) g hg hne
  | name b =>
    simp only [STok.ok, List.all_eq_true] at h
    obtain ⟨r1, r2⟩ := renderName_raw b
    have hu := unit_name (b.map NameItem.raw) (List.forall_mem_map.mpr h)
    rw [r1, r2] at hu
    exact tok_sep_ne hu g hg hne
  | kw b =>
    cases b with
    | nil => simp [STok.ok] at h
    | cons c w =>
      simp only [STok.ok, Bool.and_eq_true, List.isEmpty_cons, Bool.not_false, true_and,
        List.all_cons, List.all_eq_true, bne_iff_ne, ne_eq] at h
      obtain ⟨⟨⟨hc, hw⟩, ht⟩, hf⟩ := h
      have hu := unit_keyword c w hc hw
      rw [beq_false_of_ne ht, beq_false_of_ne hf] at hu
      exact tok_sep_ne hu g hg hne
  | arr ds =>
    have hu := LexUnit.append_free (free_sep LexUnit.open_bracket g hg)
      (LexUnit.append_free (unit_hexes g hg ds) (free_sep LexUnit.close_bracket g hg))
    simpa [STok.spell, STok.val, BTok.flat, flatElem, List.map_map, Function.comp_def] using hu

theorem unit_stoks (g : List SepItem) (hg : sepOK g) (hne : g ≠ []) : ∀ (ts : List STok), ts.all STok.ok = true →
    LexUnit (ts.flatMap (STok.spell (renderSep g))) ((ts.map STok.val).flatMap BTok.flat) false
  | [], _ => LexUnit.nil
  | t :: r, h => by
    simp only [List.all_cons, Bool.and_eq_true] at h
    exact LexUnit.append_free (unit_stok g hg hne t h.1) (unit_stoks g hg hne r h.2)

theorem lex_stoks (g : List SepItem) (hg : sepOK g) (hne : g ≠ []) (ts : List STok) (h : ts.all STok.ok = true) :
    (specLex (ts.flatMap (STok.spell (renderSep g)))).map (·.2) = (ts.map STok.val).flatMap BTok.flat :=
  (unit_stoks g hg hne ts h).specLex

open PdfVerif.CIDFontSpec

/-- A section together with the count written before its `begin…` keyword: any digit string (the parser
discards it, so it need not be the number of entries). -/
abbrev CSec := Bytes × Sec

/-- Token list of the CMap with the written counts. -/
def renderN (ps : List CSec) : List Tok :=
  headerToks ++ ps.flatMap (fun p => renderSecN (decimalNat p.1) p.2) ++ trailerToks

theorem parse_renderN (ps : List CSec) (hok : (ps.map (·.2)).all secOk = true) :
    parseToUnicode (renderN ps) = .ok (putAll (specPairs (ps.map (·.2))) []) := by
  unfold renderN
  exact parse_sections (fun p : CSec => renderSecN (decimalNat p.1) p.2) (·.2) (fun p => ⟨decimalNat p.1, rfl⟩) ps hok

def headerS : List STok :=
  [.name [67, 73, 68, 73, 110, 105, 116],
   .name [80, 114, 111, 99, 83, 101, 116],
   .kw [102, 105, 110, 100, 114, 101, 115, 111, 117, 114, 99, 101],
   .kw [98, 101, 103, 105, 110],
   .int [49, 50],
   .kw [100, 105, 99, 116],
   .kw [98, 101, 103, 105, 110],
   .kw [98, 101, 103, 105, 110, 99, 109, 97, 112],
   .name [67, 77, 97, 112, 78, 97, 109, 101],
   .name [65, 100, 111, 98, 101, 45, 73, 100, 101, 110, 116, 105, 116, 121, 45, 85, 67, 83],
   .kw [100, 101, 102],
   .name [67, 77, 97, 112, 84, 121, 112, 101],
   .int [50],
   .kw [100, 101, 102],
   .int [49],
   .kw [98, 101, 103, 105, 110, 99, 111, 100, 101, 115, 112, 97, 99, 101, 114, 97, 110, 103, 101],
   .hex [0, 0],
   .hex [255, 255],
   .kw [101, 110, 100, 99, 111, 100, 101, 115, 112, 97, 99, 101, 114, 97, 110, 103, 101]]

def trailerS : List STok :=
  [.kw [101, 110, 100, 99, 109, 97, 112],
   .kw [67, 77, 97, 112, 78, 97, 109, 101],
   .kw [99, 117, 114, 114, 101, 110, 116, 100, 105, 99, 116],
   .name [67, 77, 97, 112],
   .kw [100, 101, 102, 105, 110, 101, 114, 101, 115, 111, 117, 114, 99, 101],
   .kw [112, 111, 112],
   .kw [101, 110, 100],
   .kw [101, 110, 100]]

def entryS (e : REntry) : List STok :=
  [.hex e.lo, .hex e.hi, match e.dst with | .inc d => .hex d | .arr ds => .arr ds]

def secS : CSec → List STok
  | (cnt, .chars es) => [.int cnt, .kw [98, 101, 103, 105, 110, 98, 102, 99, 104, 97, 114]] ++ es.flatMap (fun e => [STok.hex e.1, STok.hex e.2]) ++ [.kw [101, 110, 100, 98, 102, 99, 104, 97, 114]]
  | (cnt, .ranges es) => [.int cnt, .kw [98, 101, 103, 105, 110, 98, 102, 114, 97, 110, 103, 101]] ++ es.flatMap entryS ++ [.kw [101, 110, 100, 98, 102, 114, 97, 110, 103, 101]]

def progS (ps : List CSec) : List STok := headerS ++ ps.flatMap secS ++ trailerS

def cntOK (cnt : Bytes) : Bool := !cnt.isEmpty && cnt.all isDigit && decide (cnt.length ≤ 4300)

/-- `ts` are well-spelled objects whose values are the tokens `toks`. -/
def Spells (ts : List STok) (toks : List Tok) : Prop :=
  ts.map (fun t => t.val.toTok) = toks ∧ ts.all STok.ok = true ∧ (ts.map STok.val).all BTok.plain = true

theorem Spells.append {a b : List STok} {x y : List Tok} (h1 : Spells a x) (h2 : Spells b y) : Spells (a ++ b) (x ++ y) := by
  obtain ⟨a1, a2, a3⟩ := h1
  obtain ⟨b1, b2, b3⟩ := h2
  exact ⟨by simp [a1, b1], by simp [a2, b2], by simp [a3, b3]⟩

theorem Spells.flatMap {α : Type} (f : α → List STok) (g : α → List Tok) : ∀ (l : List α),
    (∀ a ∈ l, Spells (f a) (g a)) → Spells (l.flatMap f) (l.flatMap g)
  | [], _ => ⟨rfl, rfl, rfl⟩
  | a :: l, h => by
    simp only [List.flatMap_cons]
    exact Spells.append (h a (by simp)) (Spells.flatMap f g l (fun x hx => h x (by simp [hx])))

theorem spells_int (cnt : Bytes) (h : cntOK cnt = true) : Spells [.int cnt] [.int (decimalNat cnt)] :=
  ⟨rfl, by simpa [STok.ok, cntOK] using h, rfl⟩

theorem spells_header : Spells headerS headerToks :=
  ⟨by decide +kernel, by decide +kernel, by decide +kernel⟩
theorem spells_trailer : Spells trailerS trailerToks :=
  ⟨by decide +kernel, by decide +kernel, by decide +kernel⟩
theorem spells_beginbfchar : Spells [.kw [98, 101, 103, 105, 110, 98, 102, 99, 104, 97, 114]] [.kw "beginbfchar"] :=
  ⟨by decide +kernel, by decide +kernel, by decide +kernel⟩
theorem spells_endbfchar : Spells [.kw [101, 110, 100, 98, 102, 99, 104, 97, 114]] [.kw "endbfchar"] :=
  ⟨by decide +kernel, by decide +kernel, by decide +kernel⟩
theorem spells_beginbfrange : Spells [.kw [98, 101, 103, 105, 110, 98, 102, 114, 97, 110, 103, 101]] [.kw "beginbfrange"] :=
  ⟨by decide +kernel, by decide +kernel, by decide +kernel⟩
theorem spells_endbfrange : Spells [.kw [101, 110, 100, 98, 102, 114, 97, 110, 103, 101]] [.kw "endbfrange"] :=
  ⟨by decide +kernel, by decide +kernel, by decide +kernel⟩

theorem spells_entry (e : REntry) : Spells (entryS e) (renderREntry e) := by
  obtain ⟨lo, hi, dst⟩ := e
  cases dst <;> exact ⟨rfl, rfl, rfl⟩

theorem spells_sec (p : CSec) (hc : cntOK p.1 = true) : Spells (secS p) (renderSecN (decimalNat p.1) p.2) := by
  obtain ⟨cnt, sec⟩ := p
  cases sec with
  | chars es =>
    -- built first, with the bracketing of `Spells.append`; `secS` and `renderSecN` unfold to the same lists
    have h := Spells.append (spells_int cnt hc) (Spells.append spells_beginbfchar (Spells.append
      (Spells.flatMap (fun e : Bytes × Bytes => [STok.hex e.1, STok.hex e.2]) (fun e => [Tok.str e.1, Tok.str e.2]) es
        (fun _ _ => ⟨rfl, rfl, rfl⟩)) spells_endbfchar))
    exact h
  | ranges es =>
    have h := Spells.append (spells_int cnt hc) (Spells.append spells_beginbfrange (Spells.append
      (Spells.flatMap entryS renderREntry es (fun e _ => spells_entry e)) spells_endbfrange))
    exact h

theorem spells_prog (ps : List CSec) (hc : ps.all (fun p => cntOK p.1) = true) : Spells (progS ps) (renderN ps) := by
  unfold progS renderN
  exact Spells.append (Spells.append spells_header (Spells.flatMap secS (fun p => renderSecN (decimalNat p.1) p.2) ps
    (fun p hp => spells_sec p (List.all_eq_true.mp hc p hp)))) spells_trailer

/-- From the bytes of the file to the token list of the CMap. -/
theorem group_lex_prog (g : List SepItem) (hg : sepOK g) (hne : g ≠ []) (ps : List CSec)
    (hc : ps.all (fun p => cntOK p.1) = true) :
    groupToks ((specLex ((progS ps).flatMap (STok.spell (renderSep g)))).map (·.2)) = some (renderN ps) := by
  obtain ⟨f1, f2, f3⟩ := spells_prog ps hc
  rw [lex_stoks g hg hne _ f2, groupToks_flat _ f3, List.map_map, ← f1]
  rfl

end PdfVerif.CIDFontLemmas
