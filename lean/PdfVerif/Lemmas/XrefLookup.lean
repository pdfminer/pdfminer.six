/-
C02 — the two association-list readers of the model (`lookupNat`, `lookupOff`) are `List.lookup`;
what a list with pairwise distinct keys finds; `insertOff` as seen by `lookupOff`.
-/
import PdfVerif.Model.Xref

namespace PdfVerif.Xref

theorem lookupNat_eq_lookup {α : Type} (l : List (Nat × α)) (n : Nat) : lookupNat l n = l.lookup n := by
  induction l with
  | nil => rfl
  | cons p l ih =>
    obtain ⟨k, v⟩ := p
    rw [lookupNat, List.lookup_cons, ih, BEq.comm (a := n)]
    cases k == n <;> rfl

theorem lookupOff_eq_lookup (l : List (Int × Entry)) (n : Int) : lookupOff l n = l.lookup n := by
  induction l with
  | nil => rfl
  | cons p l ih =>
    obtain ⟨k, v⟩ := p
    rw [lookupOff, List.lookup_cons, ih, BEq.comm (a := n)]
    cases k == n <;> rfl

theorem lookupNat_append {α : Type} (a b : List (Nat × α)) (n : Nat) :
    lookupNat (a ++ b) n = (lookupNat a n).or (lookupNat b n) := by
  simp only [lookupNat_eq_lookup, List.lookup_append]

theorem mem_of_lookup {α β : Type} [BEq α] [LawfulBEq α] {l : List (α × β)} {k : α} {v : β}
    (h : l.lookup k = some v) : (k, v) ∈ l := by
  induction l with
  | nil => cases h
  | cons p l ih =>
    obtain ⟨a, b⟩ := p
    rw [List.lookup_cons] at h
    by_cases hk : k = a
    · subst hk
      rw [beq_self_eq_true] at h
      cases h
      exact List.mem_cons_self
    · rw [beq_false_of_ne hk] at h
      exact List.mem_cons_of_mem _ (ih h)

theorem lookup_of_mem {α β : Type} [BEq α] [LawfulBEq α] {l : List (α × β)}
    (hl : l.Pairwise (fun p q => p.1 ≠ q.1)) {k : α} {v : β} (h : (k, v) ∈ l) : l.lookup k = some v := by
  induction l with
  | nil => cases h
  | cons p l ih =>
    rw [List.pairwise_cons] at hl
    rcases List.mem_cons.mp h with rfl | h
    · exact List.lookup_cons_self
    · rw [List.lookup_cons, beq_false_of_ne (fun hk => hl.1 _ h hk.symm)]
      exact ih hl.2 h

theorem lookup_congr {α β : Type} [BEq α] [LawfulBEq α] {a b : List (α × β)}
    (ha : a.Pairwise (fun p q => p.1 ≠ q.1)) (hb : b.Pairwise (fun p q => p.1 ≠ q.1))
    (hab : ∀ p, p ∈ a ↔ p ∈ b) (k : α) : a.lookup k = b.lookup k := by
  cases h1 : a.lookup k with
  | some v => exact (lookup_of_mem hb ((hab _).mp (mem_of_lookup h1))).symm
  | none =>
    cases h2 : b.lookup k with
    | none => rfl
    | some v => rw [lookup_of_mem ha ((hab _).mpr (mem_of_lookup h2))] at h1; cases h1

/-! ### `self.offsets[objid] = …` -/

theorem lookupOff_eq_none_iff (l : List (Int × Entry)) (n : Int) :
    lookupOff l n = none ↔ l.any (fun p => p.1 == n) = false := by
  rw [lookupOff_eq_lookup, List.lookup_eq_none_iff, List.any_eq_false]
  simp only [bne_iff_ne, ne_eq, beq_iff_eq, eq_comm (a := n)]

theorem lookupOff_replace (offs : List (Int × Entry)) (k : Int) (e : Entry) (n : Int) :
    lookupOff (offs.map (fun p => if p.1 == k then (k, e) else p)) n =
      if k == n then (lookupOff offs k).map (fun _ => e) else lookupOff offs n := by
  induction offs with
  | nil => cases k == n <;> rfl
  | cons p rest ih =>
    obtain ⟨pk, pe⟩ := p
    rw [List.map_cons]
    by_cases hpk : pk = k
    · subst hpk
      simp only [beq_self_eq_true, if_true, lookupOff, ih]
      cases pk == n <;> rfl
    · simp only [beq_false_of_ne hpk, lookupOff, ih, Bool.false_eq_true, if_false]
      by_cases hn : pk = n
      · subst hn
        simp only [beq_self_eq_true, if_true, beq_false_of_ne (Ne.symm hpk), Bool.false_eq_true, if_false]
      · simp only [beq_false_of_ne hn, Bool.false_eq_true, if_false]

theorem lookupOff_insertOff (offs : List (Int × Entry)) (k : Int) (e : Entry) (n : Int) :
    lookupOff (insertOff offs k e) n = if k == n then some e else lookupOff offs n := by
  unfold insertOff
  cases hany : offs.any (fun p => p.1 == k) with
  | true =>
    rw [if_pos rfl, lookupOff_replace]
    cases h : lookupOff offs k with
    | none => rw [lookupOff_eq_none_iff, hany] at h; cases h
    | some e' => rfl
  | false =>
    rw [← lookupOff_eq_none_iff] at hany
    simp only [Bool.false_eq_true, if_false, lookupOff_eq_lookup, List.lookup_append, List.lookup_cons,
      List.lookup_nil, BEq.comm (a := n)] at hany ⊢
    by_cases hkn : k = n
    · subst hkn; rw [hany, beq_self_eq_true]; rfl
    · rw [beq_false_of_ne hkn]; exact Option.or_none

end PdfVerif.Xref
