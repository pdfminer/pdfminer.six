/-
Lemmas about `_create_unique_image_name` (Model/ImageName.lean): decimal rendering is injective,
candidates are pairwise different, the loop stops within `existing.length + 1` iterations and its
result is a name that does not exist yet.
-/
import PdfVerif.Model.ImageName

namespace PdfVerif.ImageNameLemmas
open PdfVerif PdfVerif.ImageName

/-- Value of little-endian ASCII digits. -/
def valRev : List UInt8 → Nat
  | [] => 0
  | d :: ds => (d.toNat - 48) + 10 * valRev ds

theorem valRev_decRev (fuel n : Nat) (h : n < fuel) : valRev (decRev fuel n) = n := by
  fun_induction decRev fuel n with
  | case1 => omega
  | case2 fuel n ih =>
    have hd : (UInt8.ofNat (48 + n % 10)).toNat - 48 = n % 10 := by
      have : n % 10 < 10 := Nat.mod_lt _ (by decide)
      rw [UInt8.toNat_ofNat', Nat.mod_eq_of_lt (by omega), Nat.add_sub_cancel_left]
    rw [valRev, hd]
    split
    · rw [valRev]; omega
    · rw [ih (by omega)]; omega

/-- Two numbers with the same digits are equal: both are the value of the digits. -/
theorem dec_injective {a b : Nat} (h : dec a = dec b) : a = b := by
  have h' : decRev (a + 1) a = decRev (b + 1) b := List.reverse_inj.mp h
  rw [← valRev_decRev (a + 1) a (by omega), h', valRev_decRev (b + 1) b (by omega)]

theorem dec_ne_nil (n : Nat) : dec n ≠ [] := by
  unfold dec decRev
  simp

theorem candidate_injective (name ext : Bytes) : ∀ {i j : Nat}, candidate name ext i = candidate name ext j → i = j
  | 0, 0, _ => rfl
  | 0, j + 1, h | j + 1, 0, h => by
    -- the lengths differ
    have := congrArg List.length h
    simp [candidate] at this
    omega
  | i + 1, j + 1, h => by
    simp only [candidate, List.append_assoc, List.append_cancel_left_eq, List.cons_append, List.nil_append,
      List.cons.injEq, true_and, List.append_cancel_right_eq] at h
    rw [dec_injective h]

theorem candidate_suffix (name ext : Bytes) (k : Nat) : ∃ stem, candidate name ext k = stem ++ ext := by
  cases k with
  | zero => exact ⟨name, rfl⟩
  | succ k => exact ⟨name ++ [46] ++ dec k, by simp [candidate]⟩

theorem candidate_prefix (name ext : Bytes) (k : Nat) : ∃ tail, candidate name ext k = name ++ tail := by
  cases k with
  | zero => exact ⟨ext, rfl⟩
  | succ k => exact ⟨[46] ++ dec k ++ ext, by simp [candidate]⟩

theorem uniqueLoop_spec (p : Bytes → Bool) (name ext : Bytes) (fuel k : Nat) (c : Bytes)
    (h : uniqueLoop p name ext fuel k = some c) :
    p c = false ∧ ∃ j, k ≤ j ∧ j < k + fuel ∧ c = candidate name ext j := by
  fun_induction uniqueLoop p name ext fuel k with
  | case1 => cases h
  | case2 fuel k _ ih =>
    obtain ⟨h1, j, hj1, hj2, hj3⟩ := ih h
    exact ⟨h1, j, by omega, by omega, hj3⟩
  | case3 fuel k hp =>
    cases h
    exact ⟨by simpa using hp, k, Nat.le_refl k, by omega, rfl⟩

theorem uniqueLoop_none (p : Bytes → Bool) (name ext : Bytes) (fuel k : Nat)
    (h : uniqueLoop p name ext fuel k = none) (j : Nat) (hj1 : k ≤ j) (hj2 : j < k + fuel) :
    p (candidate name ext j) = true := by
  fun_induction uniqueLoop p name ext fuel k with
  | case1 => omega
  | case2 fuel k hp ih =>
    by_cases hjk : j = k
    · exact hjk ▸ hp
    · exact ih h (by omega) (by omega)
  | case3 => cases h

theorem uniqueName_isSome (existing : List Bytes) (name ext : Bytes) :
    (uniqueName existing name ext).isSome = true := by
  cases h : uniqueName existing name ext with
  | some _ => rfl
  | none =>
    -- pigeonhole: `existing.length + 1` pairwise different candidates would all be in `existing`
    have hnd : ((List.range (existing.length + 1)).map (candidate name ext)).Nodup :=
      List.pairwise_map.mpr (List.nodup_range.imp fun hne heq => hne (candidate_injective name ext heq))
    have := hnd.length_le_of_subset (l₂ := existing) (fun c hc => by
      obtain ⟨j, hj, rfl⟩ := List.mem_map.mp hc
      simpa using uniqueLoop_none _ name ext _ 0 h j (Nat.zero_le _) (by simpa using hj))
    simp at this
    omega

theorem uniqueName_fresh (existing : List Bytes) (name ext c : Bytes)
    (h : uniqueName existing name ext = some c) :
    c ∉ existing ∧ ∃ j, j ≤ existing.length ∧ c = candidate name ext j := by
  obtain ⟨h1, j, _, hj2, hj3⟩ := uniqueLoop_spec _ name ext _ 0 c h
  refine ⟨by simpa using h1, j, by omega, hj3⟩

end PdfVerif.ImageNameLemmas
