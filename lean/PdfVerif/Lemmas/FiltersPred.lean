/-
The PNG and TIFF predictors against their row encoders.
-/
import PdfVerif.Spec.FilterEnc

namespace PdfVerif.Filters
open PdfVerif PdfVerif.FilterEnc

theorem pngPred_one (a b c : UInt8) : pngPred 1 a b c = a := by simp [pngPred]
theorem pngPred_zero (a b c : UInt8) : pngPred 0 a b c = 0 := by simp [pngPred]
theorem pngPred_two (a b c : UInt8) : pngPred 2 a b c = b := by simp [pngPred]
theorem pngPred_three (a b c c' : UInt8) : pngPred 3 a b c = pngPred 3 a b c' := by simp [pngPred]

@[simp] theorem pngEncRow_length (ft bpp : Nat) (prior row : Bytes) :
    (pngEncRow ft bpp prior row).length = row.length := by simp [pngEncRow]

theorem pngEncRow_getElem (ft bpp : Nat) (prior row : Bytes) (k : Nat) (h : k < (pngEncRow ft bpp prior row).length) :
    (pngEncRow ft bpp prior row)[k] =
      row.getD k 0 - pngPred ft (if k < bpp then 0 else row.getD (k - bpp) 0) (prior.getD k 0)
        (if k < bpp then 0 else prior.getD (k - bpp) 0) := by
  simp [pngEncRow]

theorem pngRowLoop_rt (ft bpp : Nat) (hft : ft = 1 ∨ ft = 3 ∨ ft = 4) (hbpp : 0 < bpp)
    (above row : Bytes) (hlen : above.length = row.length) :
    ∀ (n k : Nat), row.length - k = n → k ≤ row.length →
      pngRowLoop ft bpp above (row.take k) ((pngEncRow ft bpp above row).drop k) = .ok row := by
  intro n
  induction n with
  | zero =>
    intro k hn hk
    obtain rfl : k = row.length := by omega
    rw [List.drop_eq_nil_of_le (by simp), List.take_length]
    rfl
  | succ n ih =>
    intro k hn hk
    have hlt : k < row.length := by omega
    have hl : k < (pngEncRow ft bpp above row).length := by simpa using hlt
    rw [List.drop_eq_getElem_cons hl, pngEncRow_getElem]
    have htl : (row.take k).length = k := by simp; omega
    -- the bytes the loop looks up (left, above, upper left) are those the encoder subtracted
    have ha : (if k < bpp then (0 : UInt8) else (row.take k).getD (k - bpp) 0)
        = (if k < bpp then 0 else row.getD (k - bpp) 0) := by
      by_cases hb : k < bpp
      · simp [hb]
      · simp [hb, List.getD_eq_getElem?_getD, show k - bpp < k by omega]
    have hab : above[k]? = some (above.getD k 0) := by
      simp [List.getD_eq_getElem?_getD, List.getElem?_eq_getElem (show k < above.length by omega)]
    have hnext := ih (k + 1) (by omega) (by omega)
    have hsucc : row.take (k + 1) = row.take k ++ [row.getD k 0] := by
      rw [List.take_add_one]; simp [List.getD_eq_getElem?_getD, hlt]
    rw [hsucc] at hnext
    have hc : (if k < bpp then some (0 : UInt8) else above[k - bpp]?)
        = some (if k < bpp then 0 else above.getD (k - bpp) 0) := by
      by_cases hb : k < bpp
      · simp [hb]
      · simp [hb, List.getD_eq_getElem?_getD, List.getElem?_eq_getElem (show k - bpp < above.length by omega)]
    rw [pngRowLoop]
    simp only [htl, ha, hab, hc]
    rcases hft with rfl | rfl | rfl
    · simpa [pngPred_one] using hnext
    · rw [pngPred_three _ _ 0 (if k < bpp then 0 else above.getD (k - bpp) 0)]
      simpa using hnext
    · simpa using hnext

theorem pngRow_rt (ft bpp : Nat) (hft : ft ≤ 4) (hbpp : 0 < bpp) (above row : Bytes)
    (hlen : above.length = row.length) :
    pngRow (UInt8.ofNat ft) bpp above (pngEncRow ft bpp above row) = .ok row := by
  have h5 : ft = 0 ∨ ft = 1 ∨ ft = 2 ∨ ft = 3 ∨ ft = 4 := by omega
  have hloop := fun ft h => pngRowLoop_rt ft bpp h hbpp above row hlen row.length 0 (by omega) (by omega)
  rcases h5 with rfl | rfl | rfl | rfl | rfl
  · -- None
    have : pngEncRow 0 bpp above row = row := by
      apply List.ext_getElem (by simp)
      intro i h1 h2
      rw [pngEncRow_getElem, pngPred_zero]
      simp [List.getD_eq_getElem?_getD, h2]
    simp [pngRow, this]
  · simpa [pngRow] using hloop 1 (Or.inl rfl)
  · -- Up
    have : List.zipWith (fun u p => u + p) (pngEncRow 2 bpp above row) above = row := by
      apply List.ext_getElem (by simp [hlen])
      intro i h1 h2
      have h3 : i < above.length := by omega
      simp only [List.getElem_zipWith, pngEncRow_getElem, pngPred_two]
      simp [List.getD_eq_getElem?_getD, h2, h3]
    simp [pngRow, this]
  · simpa [pngRow] using hloop 3 (Or.inr (Or.inl rfl))
  · simpa [pngRow] using hloop 4 (Or.inr (Or.inr rfl))

theorem pngRows_rt (nbytes bpp : Nat) (hbpp : 0 < bpp) :
    ∀ (rows : List Bytes) (fts : List Nat) (prior : Bytes) (fuel : Nat),
      (∀ r ∈ rows, r.length = nbytes) → fts.length = rows.length → (∀ f ∈ fts, f ≤ 4) →
      prior.length = nbytes → (pngEncRows bpp prior fts rows).length ≤ fuel →
      pngRows nbytes bpp fuel prior (pngEncRows bpp prior fts rows) = .ok rows.flatten := by
  intro rows
  induction rows with
  | nil =>
    intro fts prior fuel _ hl _ _ _
    have : fts = [] := List.eq_nil_of_length_eq_zero hl
    subst this
    cases fuel <;> simp [pngEncRows, pngRows]
  | cons row rows ih =>
    intro fts prior fuel hrows hl hfts hprior hfuel
    cases fts with
    | nil => simp at hl
    | cons ft fts =>
      have hrow : row.length = nbytes := hrows row (by simp)
      simp only [pngEncRows] at hfuel ⊢
      cases fuel with
      | zero => simp at hfuel
      | succ fuel =>
        have htake : (pngEncRow ft bpp prior row ++ pngEncRows bpp row fts rows).take nbytes
            = pngEncRow ft bpp prior row := List.take_left' (by simp [hrow])
        have hdrop : (pngEncRow ft bpp prior row ++ pngEncRows bpp row fts rows).drop nbytes
            = pngEncRows bpp row fts rows := List.drop_left' (by simp [hrow])
        have hr := pngRow_rt ft bpp (hfts ft (by simp)) hbpp prior row (by omega)
        have hrest := ih fts row fuel (fun r hr => hrows r (by simp [hr])) (by simpa using hl)
          (fun f hf => hfts f (by simp [hf])) hrow (by simp at hfuel; omega)
        simp only [pngRows, htake, hdrop, hr, hrest, List.flatten_cons]

@[simp] theorem tiffEncRow_length (colors : Nat) (row : Bytes) :
    (tiffEncRow colors row).length = row.length := by simp [tiffEncRow]

/-- TIFF predictor 2 is the PNG filter Sub with `bpp = colors`. -/
theorem tiffEncRow_eq_sub (bpp : Nat) (prior row : Bytes) : tiffEncRow bpp row = pngEncRow 1 bpp prior row := by
  simp only [tiffEncRow, pngEncRow, pngPred_one]

theorem pngRowLoop_sub (bpp : Nat) (above raw enc : Bytes) :
    pngRowLoop 1 bpp above raw enc = .ok (tiffRow bpp raw enc) := by
  induction enc generalizing raw with
  | nil => rfl
  | cons x xs ih =>
    rw [pngRowLoop, tiffRow, if_pos (by rfl), ih, pngPred_one]
    by_cases h : raw.length < bpp
    · simp [h, Nat.not_le.mpr h]
    · simp [h, Nat.not_lt.mp h]

theorem tiffRow_rt (bpp : Nat) (hbpp : 0 < bpp) (row : Bytes) : tiffRow bpp [] (tiffEncRow bpp row) = row := by
  have := pngRowLoop_rt 1 bpp (.inl rfl) hbpp row row rfl row.length 0 (by omega) (by omega)
  rw [List.take_zero, List.drop_zero, ← tiffEncRow_eq_sub, pngRowLoop_sub] at this
  exact Except.ok.inj this

theorem tiffRows_rt (nbytes bpp : Nat) (hbpp : 0 < bpp) (hn : 0 < nbytes) :
    ∀ (rows : List Bytes) (fuel : Nat), (∀ r ∈ rows, r.length = nbytes) →
      (tiffEnc bpp rows).length ≤ fuel →
      tiffRows nbytes bpp fuel (tiffEnc bpp rows) = .ok rows.flatten := by
  intro rows
  induction rows with
  | nil => intro fuel _ _; cases fuel <;> simp [tiffEnc, tiffRows]
  | cons row rows ih =>
    intro fuel hrows hfuel
    have hrow : row.length = nbytes := hrows row (by simp)
    simp only [tiffEnc] at hfuel ⊢
    have hne : tiffEncRow bpp row ++ tiffEnc bpp rows ≠ [] := fun h => by
      have h0 := congrArg List.length h
      rw [List.length_append, tiffEncRow_length, List.length_nil] at h0
      omega
    cases fuel with
    | zero => rw [List.length_append, tiffEncRow_length] at hfuel; omega
    | succ fuel =>
      have htake : (tiffEncRow bpp row ++ tiffEnc bpp rows).take nbytes = tiffEncRow bpp row :=
        List.take_left' (by simp [hrow])
      have hdrop : (tiffEncRow bpp row ++ tiffEnc bpp rows).drop nbytes = tiffEnc bpp rows :=
        List.drop_left' (by simp [hrow])
      have hrest := ih fuel (fun r hr => hrows r (by simp [hr])) (by simp at hfuel; omega)
      have hr := tiffRow_rt bpp hbpp row
      have hlen : ¬ (tiffEncRow bpp row ++ tiffEnc bpp rows).length < nbytes := by simp; omega
      rw [tiffRows, if_neg hlen, htake, hdrop, hrest, hr]
      · rfl
      · exact hne

end PdfVerif.Filters
