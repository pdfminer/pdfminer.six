/-
C17 — the UTF-16 encoder against `decode_text`, strict mode, and the letters numeral as the one bijective
base-26 numeral of its value (`alphaLoop_isBijNumeral`, `eq_alphaLoop_of_isBijNumeral`).
-/
import PdfVerif.Spec.LabelsExtra

namespace PdfVerif.Lemmas.LabelsExtra
open PdfVerif PdfVerif.Labels PdfVerif.Spec.Labels PdfVerif.Spec.LabelsExtra

theorem units_unitBytes : ∀ (us : List Nat), (∀ u ∈ us, u < 65536) → units (us.flatMap unitBytes) = us
  | [], _ => rfl
  | u :: rest, h => by
    have hu : u < 65536 := h u (by simp)
    have hr := units_unitBytes rest (fun x hx => h x (by simp [hx]))
    simp only [List.flatMap_cons, unitBytes, List.cons_append, List.nil_append, units, hr]
    congr 1
    have h1 : u / 256 < 256 := Nat.div_lt_of_lt_mul hu
    have h2 : u % 256 < 256 := Nat.mod_lt _ (by decide)
    simp only [UInt8.toNat_ofNat', Nat.mod_eq_of_lt h1, Nat.mod_eq_of_lt h2]
    exact Nat.div_add_mod' u 256

theorem decodeAux_scalars : ∀ (cs : List Nat), (∀ c ∈ cs, isScalar c = true) →
    decodeAux none (cs.flatMap unitsOfScalar) = cs
  | [], _ => rfl
  | c :: rest, h => by
    have hc : isScalar c = true := h c (by simp)
    have hr := decodeAux_scalars rest (fun x hx => h x (by simp [hx]))
    simp only [isScalar, Bool.and_eq_true, decide_eq_true_eq, Bool.not_eq_true', Bool.and_eq_false_iff,
      decide_eq_false_iff_not] at hc
    simp only [List.flatMap_cons, unitsOfScalar]
    by_cases hb : c < 0x10000
    · have hs : isHigh c = false ∧ isLow c = false := by simp [isHigh, isLow]; omega
      simp [hb, decodeAux, hs.1, hs.2, hr]
    · have h1 : isHigh (0xD800 + (c - 0x10000) / 0x400) = true := by simp [isHigh]; omega
      have h2 : isLow (0xDC00 + (c - 0x10000) % 0x400) = true := by simp [isLow]; omega
      have h3 : pair (0xD800 + (c - 0x10000) / 0x400) (0xDC00 + (c - 0x10000) % 0x400) = c := by
        unfold pair; omega
      simp only [hb, if_false, List.cons_append, List.nil_append, decodeAux, h1, if_true, h2, h3, hr]

theorem nonDecreasingFrom_of_ascendingFrom : ∀ (a : Int) (l : List Int), ascendingFrom a l = true → nonDecreasingFrom a l = true
  | _, [], _ => rfl
  | a, b :: tl, h => by
    simp only [ascendingFrom, Bool.and_eq_true, decide_eq_true_eq] at h
    simp only [nonDecreasingFrom, Bool.and_eq_true, decide_eq_true_eq]
    exact ⟨Int.le_of_lt h.1, nonDecreasingFrom_of_ascendingFrom b tl h.2⟩

theorem nonDecreasing_of_ascending (l : List Int) (h : ascending l = true) : nonDecreasing l = true := by
  cases l with
  | nil => rfl
  | cons a tl => exact nonDecreasingFrom_of_ascendingFrom a tl h

theorem alphaLoop_zero (f : Nat) (acc : Text) : alphaLoop f 0 acc = acc := by
  cases f <;> rfl

theorem alphaLoop_succ (f v : Nat) (acc : Text) (hv : v ≠ 0) :
    alphaLoop (f + 1) v acc = alphaLoop f ((v - 1) / 26) ((97 + (v - 1) % 26) :: acc) := by
  rw [alphaLoop, if_neg hv]

/-- The value left after a pass fits the fuel left: `value` passes always suffice. -/
theorem alphaStep_le {v f : Nat} (h : v ≤ f + 1) : (v - 1) / 26 ≤ f :=
  Nat.le_trans (Nat.div_le_self _ _) (Nat.sub_le_of_le_add h)

theorem formatIntAlpha_nat (n : Nat) (h : 0 < n) : formatIntAlpha (n : Int) = .ok (alphaLoop n n []) := by
  rw [formatIntAlpha, if_pos (Int.natCast_pos.mpr h), Int.toNat_natCast]

theorem formatIntAlpha_le_26 (m : Nat) (hm : m < 26) : formatIntAlpha ((m + 1 : Nat) : Int) = .ok [97 + m] := by
  rw [formatIntAlpha_nat _ (Nat.succ_pos m), alphaLoop_succ _ _ _ (Nat.succ_ne_zero m), Nat.succ_sub_one,
    Nat.div_eq_of_lt hm, Nat.mod_eq_of_lt hm, alphaLoop_zero]

theorem alpha_le_26 (m : Nat) (hm : m < 26) : alpha (m + 1) = some [97 + m] := by
  rw [alpha, if_pos (Nat.succ_pos m), Nat.add_sub_cancel, Nat.div_eq_of_lt hm, Nat.mod_eq_of_lt hm]
  rfl

theorem formatIntAlpha_of_alpha (v : Int) (h1 : v ≤ 26) (r : Text)
    (h : (if 0 < v then alpha v.toNat else none) = some r) : formatIntAlpha v = .ok r := by
  by_cases h0 : 0 < v
  · obtain ⟨n, rfl⟩ := Int.eq_ofNat_of_zero_le (Int.le_of_lt h0)
    obtain ⟨m, rfl⟩ := Nat.exists_eq_add_one_of_ne_zero (Nat.pos_iff_ne_zero.mp (Int.natCast_pos.mp h0))
    have hm : m < 26 := Nat.lt_of_succ_le (Int.ofNat_le.mp h1)
    rw [if_pos h0, Int.toNat_natCast, alpha_le_26 m hm, Option.some.injEq] at h
    rw [← h]
    exact formatIntAlpha_le_26 m hm
  · rw [if_neg h0] at h
    cases h

theorem alphaLoop_of_value : ∀ (s : Text), (∀ c ∈ s, 97 ≤ c ∧ c ≤ 122) → ∀ (f : Nat) (acc : Text),
    alphaValue s.reverse ≤ f → alphaLoop f (alphaValue s.reverse) acc = s.reverse ++ acc
  | [], _, f, acc, _ => alphaLoop_zero f acc
  | c :: s, hs, f, acc, hf => by
    have hc := hs c List.mem_cons_self
    -- the letter `c` is the digit `d + 1`
    obtain ⟨d, rfl⟩ := Nat.exists_eq_add_of_le hc.1
    have hd : d < 26 := Nat.lt_succ_of_le (Nat.le_of_add_le_add_left (show 97 + d ≤ 97 + 25 from hc.2))
    have snoc : alphaValue (s.reverse ++ [97 + d]) = alphaValue s.reverse * 26 + d + 1 := by
      rw [alphaValue, List.foldl_append, List.foldl_cons, List.foldl_nil, Nat.add_comm 97 d, Nat.add_sub_assoc (by decide)]
      rfl
    rw [List.reverse_cons, snoc] at hf ⊢
    cases f with
    | zero => exact absurd hf (Nat.not_succ_le_zero _)
    | succ f' =>
      have hle : alphaValue s.reverse ≤ f' :=
        Nat.le_trans (Nat.le_mul_of_pos_right _ (by decide)) (Nat.le_trans (Nat.le_add_right _ d) (Nat.le_of_succ_le_succ hf))
      rw [alphaLoop_succ _ _ _ (Nat.succ_ne_zero _), Nat.succ_sub_one, Nat.mul_comm, Nat.mul_add_div (by decide),
        Nat.mul_add_mod, Nat.div_eq_of_lt hd, Nat.mod_eq_of_lt hd, Nat.add_zero,
        alphaLoop_of_value s (fun x hx => hs x (List.mem_cons_of_mem _ hx)) f' _ hle, List.append_assoc]
      rfl

/-- Invariant of the loop: it writes letters only, and reading the result in base 26 continues the
reading of the accumulator from the value still to be written. -/
theorem alphaLoop_spec (f v : Nat) (acc : Text) (h : v ≤ f) (hl : ∀ c ∈ acc, 97 ≤ c ∧ c ≤ 122) :
    (∀ c ∈ alphaLoop f v acc, 97 ≤ c ∧ c ≤ 122) ∧
      (alphaLoop f v acc).foldl (fun a c => a * 26 + (c - 96)) 0 = acc.foldl (fun a c => a * 26 + (c - 96)) v := by
  fun_induction alphaLoop f v acc
  case case1 => obtain rfl := Nat.le_zero.mp h; exact ⟨hl, rfl⟩
  case case2 => exact ⟨hl, rfl⟩
  case case3 f v acc hv ih =>
    have hl' : ∀ c ∈ (97 + (v - 1) % 26) :: acc, 97 ≤ c ∧ c ≤ 122 := by
      intro c hc
      rcases List.mem_cons.mp hc with rfl | hc
      · exact ⟨Nat.le_add_right 97 _, Nat.add_le_add_left (Nat.le_of_lt_succ (Nat.mod_lt _ (by decide))) 97⟩
      · exact hl c hc
    obtain ⟨h1, h2⟩ := ih (alphaStep_le h) hl'
    rw [h2, List.foldl_cons]
    refine ⟨h1, ?_⟩
    congr 1
    -- `q * 26 + (letter − 96)` with letter `97 + r` is `q * 26 + r + 1 = (v − 1) + 1`
    rw [Nat.add_comm 97, Nat.add_sub_assoc (by decide), ← Nat.add_assoc, Nat.div_add_mod']
    exact Nat.sub_add_cancel (Nat.pos_of_ne_zero hv)

theorem alphaLoop_isBijNumeral (n : Nat) : isBijNumeral (alphaLoop n n []) (n : Int) :=
  have ⟨hl, hv⟩ := alphaLoop_spec n n [] (Nat.le_refl n) (fun _ h => nomatch h)
  ⟨hl, congrArg Nat.cast hv⟩

theorem eq_alphaLoop_of_isBijNumeral (t : Text) (n : Nat) (h : isBijNumeral t (n : Int)) : t = alphaLoop n n [] := by
  obtain ⟨hl, hv⟩ := h
  have hv : alphaValue t = n := Int.ofNat_inj.mp hv
  have := alphaLoop_of_value t.reverse (by simpa using hl) n [] (by rw [List.reverse_reverse, hv]; exact Nat.le_refl n)
  rw [List.reverse_reverse, hv, List.append_nil] at this
  exact this.symm

end PdfVerif.Lemmas.LabelsExtra
