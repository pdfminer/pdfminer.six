/-
C19: the changing elements of the specification (`nextNot`, `b1Of`, `b2Of`) and the scans of
`_do_vertical` / `_do_pass` that find them; `fill`; what `_do_vertical`, `_do_horizontal` and one pixel of
`_do_uncompressed` do to the state; and the effect of the three coding modes on the line being decoded
(`Core`, `core_vert`, `core_pass`, `core_horiz`).
-/
import PdfVerif.Lemmas.CcittRun

namespace PdfVerif.Ccitt
open PdfVerif.Gen PdfVerif.Spec

theorem takeWhile_length_le {α} (p : α → Bool) (l : List α) : (l.takeWhile p).length ≤ l.length :=
  (List.takeWhile_prefix p).length_le

theorem takeWhile_get_true {α} (p : α → Bool) (l : List α) (j : Nat) (h : j < (l.takeWhile p).length) :
    ∃ x, l[j]? = some x ∧ p x = true :=
  ⟨(l.takeWhile p)[j], by rw [(List.takeWhile_prefix p).getElem h, List.getElem?_eq_getElem],
    List.all_eq_true.mp List.all_takeWhile _ (List.getElem_mem h)⟩

theorem takeWhile_get_false {α} (p : α → Bool) (l : List α) (x : α)
    (h : l[(l.takeWhile p).length]? = some x) : p x = false := by
  have hd := List.head?_dropWhile_not p l
  have e : l[(l.takeWhile p).length]? = (l.dropWhile p).head? := by
    conv => lhs; arg 1; rw [← List.takeWhile_append_dropWhile (p := p) (l := l)]
    rw [List.getElem?_append_right (Nat.le_refl _), Nat.sub_self, List.head?_eq_getElem?]
  rw [← e, h] at hd
  exact hd

theorem nextNot_ge (line : List Bool) (c : Bool) (lo : Nat) : lo ≤ T6.nextNot line c lo := by
  simp [T6.nextNot]

theorem nextNot_le (line : List Bool) (c : Bool) (lo : Nat) (h : lo ≤ line.length) :
    T6.nextNot line c lo ≤ line.length := by
  have := takeWhile_length_le (· == c) (line.drop lo)
  simp only [List.length_drop] at this
  simp only [T6.nextNot]; omega

theorem nextNot_run (line : List Bool) (c : Bool) (lo i : Nat) (h1 : lo ≤ i) (h2 : i < T6.nextNot line c lo) :
    line[i]? = some c := by
  obtain ⟨x, hx, hp⟩ := takeWhile_get_true (· == c) (line.drop lo) (i - lo) (by simp only [T6.nextNot] at h2; omega)
  rw [List.getElem?_drop] at hx
  have : lo + (i - lo) = i := by omega
  rw [this] at hx
  simp at hp
  rw [hx, hp]

theorem nextNot_stop (line : List Bool) (c : Bool) (lo : Nat) (h : T6.nextNot line c lo < line.length) :
    line[T6.nextNot line c lo]? = some (!c) := by
  obtain ⟨x, hx⟩ : ∃ x, line[T6.nextNot line c lo]? = some x := ⟨_, List.getElem?_eq_getElem h⟩
  have := takeWhile_get_false (· == c) (line.drop lo) x (by
    rw [List.getElem?_drop]; exact hx)
  rw [hx]
  cases x <;> cases c <;> simp_all

theorem lt_nextNot (cur : List Bool) (c : Bool) {a0 : Int} (hlo : -1 ≤ a0) :
    a0 < (T6.nextNot cur c (a0 + 1).toNat : Int) := by
  have := nextNot_ge cur c (a0 + 1).toNat
  omega

/-- The pixel left of position `x`, white before the line. -/
def prevPix (ref : List Bool) (x : Nat) : Bool := if x = 0 then true else ref.getD (x - 1) true

theorem withPrev_length (ref : List Bool) : (T6.withPrev ref).length = ref.length := by
  simp [T6.withPrev]

theorem withPrev_get (ref : List Bool) (i : Nat) (h : i < ref.length) :
    (T6.withPrev ref)[i]? = some (prevPix ref i, ref[i]) := by
  simp only [T6.withPrev]
  rw [List.getElem?_zip_eq_some]
  refine ⟨?_, by simp [h]⟩
  cases i with
  | zero => simp [prevPix]
  | succ k =>
    simp only [List.getElem?_cons_succ, prevPix]
    have hk : k < ref.length := by omega
    simp [List.getD, hk]

theorem withPrev_drop (ref : List Bool) (lo : Nat) :
    (T6.withPrev ref).drop lo = ((prevPix ref lo) :: ref.drop lo).zip (ref.drop lo) := by
  simp only [T6.withPrev, List.zip, List.drop_zipWith]
  cases lo with
  | zero => rfl
  | succ k =>
    rw [List.drop_succ_cons]
    by_cases h : k < ref.length
    · rw [List.drop_eq_getElem_cons h]; simp [prevPix, List.getD, h]
    · rw [List.drop_eq_nil_of_le (as := ref) (i := k + 1) (by omega)]; simp

theorem b1Of_ge (ref : List Bool) (c : Bool) (lo : Nat) : lo ≤ T6.b1Of ref c lo := by
  simp [T6.b1Of]

theorem b1Of_le (ref : List Bool) (c : Bool) (lo : Nat) (h : lo ≤ ref.length) :
    T6.b1Of ref c lo ≤ ref.length := by
  have := takeWhile_length_le (fun pr : Bool × Bool => !(pr.1 == c && pr.2 != c)) ((T6.withPrev ref).drop lo)
  simp only [List.length_drop, withPrev_length] at this
  simp only [T6.b1Of]; omega

theorem b1Of_stop (ref : List Bool) (c : Bool) (lo : Nat) (h : T6.b1Of ref c lo < ref.length) :
    ref[T6.b1Of ref c lo]? = some (!c) := by
  have hg := withPrev_get ref _ h
  have := takeWhile_get_false (fun pr : Bool × Bool => !(pr.1 == c && pr.2 != c)) ((T6.withPrev ref).drop lo)
    (prevPix ref (T6.b1Of ref c lo), ref[T6.b1Of ref c lo]) (by
      rw [List.getElem?_drop]; exact hg)
  rw [List.getElem?_eq_getElem h]
  generalize ref[T6.b1Of ref c lo] = r at this
  generalize prevPix ref (T6.b1Of ref c lo) = p at this
  cases r <;> cases c <;> cases p <;> simp_all

/-- b2 lies right of b1 (or both are the end of the line), hence right of a0. -/
theorem lt_b2Of (ref : List Bool) (c : Bool) {a0 : Int} (hlt : a0 < ref.length) :
    a0 < (T6.b2Of ref c (T6.b1Of ref c (a0 + 1).toNat) : Int) := by
  have h2 := nextNot_ge ref (!c) (T6.b1Of ref c (a0 + 1).toNat + 1)
  have h3 := b1Of_ge ref c (a0 + 1).toNat
  simp only [T6.b2Of]
  omega

/-- `scanFrom` (the scans of `_do_vertical` / `_do_pass`) when the test at column 0 is the general test with an
imaginary white pixel on the left; a proof device, compared with the specification's `takeWhile` below. -/
def scan (cond : Bool → Bool → Bool) : Bool → List Bool → Nat → Nat
  | _, [], x => x
  | prev, r :: rs, x => if cond prev r then x else scan cond r rs (x + 1)

theorem scanFrom_some (cond0 : Bool → Bool → Bool) (cond : Bool → Bool → Bool → Bool) (color : Bool) :
    ∀ (l : List Bool) (p : Bool) (x : Nat),
      scanFrom cond0 cond color (some p) l x = scan (fun p r => cond p r color) p l x := by
  intro l
  induction l with
  | nil => intro p x; rfl
  | cons r rs ih => intro p x; simp only [scanFrom, scan, ih]

theorem scanFrom_eq_scan (cond0 : Bool → Bool → Bool) (cond : Bool → Bool → Bool → Bool) (color : Bool)
    (h0 : ∀ r, cond0 r color = cond true r color) (ref : List Bool) (x1 : Nat) :
    scanFrom cond0 cond color (prevOpt ref x1) (ref.drop x1) x1 =
      scan (fun p r => cond p r color) (prevPix ref x1) (ref.drop x1) x1 := by
  by_cases hx : x1 = 0
  · subst hx
    simp only [prevOpt, prevPix, if_true, List.drop_zero]
    cases ref with
    | nil => rfl
    | cons r rs => simp only [scanFrom, scan, h0, scanFrom_some]
  · simp only [prevOpt, prevPix, hx, if_false, scanFrom_some]

theorem scan_eq_takeWhile (cond : Bool → Bool → Bool) (l : List Bool) (prev : Bool) (x : Nat) :
    scan cond prev l x = x + (((prev :: l).zip l).takeWhile (fun pr => !cond pr.1 pr.2)).length := by
  fun_induction scan cond prev l x with
  | case1 prev x => rfl
  | case2 prev r rs x hc => simp only [List.zip_cons_cons, List.takeWhile_cons, hc, Bool.not_true]; rfl
  | case3 prev r rs x hc ih =>
    simp only [List.zip_cons_cons, List.takeWhile_cons, hc, Bool.not_false, if_true, List.length_cons, ih]
    omega

theorem findB1_eq (ref : List Bool) (c : Bool) (lo : Nat) : findB1 ref c lo = T6.b1Of ref c lo := by
  unfold findB1
  rw [scanFrom_eq_scan _ _ _ (by intro r; cases r <;> cases c <;> rfl)]
  simp only [CcittCode.vertCond, T6.b1Of, scan_eq_takeWhile, withPrev_drop]

theorem findB1p_eq (ref : List Bool) (c : Bool) (lo : Nat) : findB1p ref c lo = T6.b1Of ref c lo := by
  unfold findB1p
  rw [scanFrom_eq_scan _ _ _ (by intro r; cases r <;> cases c <;> rfl)]
  simp only [CcittCode.passB1Cond, T6.b1Of, scan_eq_takeWhile, withPrev_drop]

theorem scan_b2 (c : Bool) (l : List Bool) (prev : Bool) (x : Nat) (hp : prev = (!c)) :
    scan (fun p r => p != c && r == c) prev l x = x + (l.takeWhile (· == !c)).length := by
  fun_induction scan (fun p r => p != c && r == c) prev l x with
  | case1 prev x => rfl
  | case2 prev r rs x hc =>
    subst hp
    have : r = c := by cases r <;> cases c <;> simp_all
    subst this
    cases r <;> rfl
  | case3 prev r rs x hc ih =>
    subst hp
    have : r = !c := by cases r <;> cases c <;> simp_all
    subst this
    simp only [List.takeWhile_cons, beq_self_eq_true, if_true, List.length_cons, ih rfl]
    omega

theorem findB2_eq (ref : List Bool) (c : Bool) (b1 : Nat) (hle : b1 ≤ ref.length)
    (hstop : b1 < ref.length → ref[b1]? = some (!c)) :
    findB2 ref c b1 = T6.b2Of ref c b1 := by
  unfold findB2
  rw [scanFrom_eq_scan _ _ _ (by intro r; cases r <;> cases c <;> rfl)]
  simp only [CcittCode.passB2Cond, T6.b2Of, T6.nextNot]
  by_cases h : b1 < ref.length
  · have hb := hstop h
    have hd : ref.drop b1 = (!c) :: ref.drop (b1 + 1) := by
      rw [List.drop_eq_getElem_cons h]
      congr 1
      rw [List.getElem?_eq_getElem h] at hb
      simpa using hb
    rw [hd]
    simp only [scan]
    have : (prevPix ref b1 != c && (!c) == c) = false := by cases c <;> simp
    simp only [this, Bool.false_eq_true, if_false]
    rw [scan_b2 c _ _ _ rfl]
    have := takeWhile_length_le (· == !c) (ref.drop (b1 + 1))
    simp only [List.length_drop] at this
    omega
  · have : b1 = ref.length := by omega
    subst this
    simp [scan]
    omega

theorem fill_length (l : List Bool) (lo hi : Nat) (c : Bool) : (fill l lo hi c).length = l.length := by
  simp [fill]

theorem fill_get_in (l : List Bool) (lo hi : Nat) (c : Bool) (i : Nat) (h1 : lo ≤ i) (h2 : i < hi)
    (h3 : i < l.length) : (fill l lo hi c)[i]? = some c := by
  simp [fill, h1, h2, h3]

theorem fill_get_out (l : List Bool) (lo hi : Nat) (c : Bool) (i : Nat) (h : i < lo ∨ hi ≤ i) :
    (fill l lo hi c)[i]? = l[i]? := by
  simp only [fill, List.getElem?_mapIdx]
  have : ¬ (lo ≤ i ∧ i < hi) := by omega
  simp only [this, if_false]
  cases l[i]? <;> rfl

theorem fill_empty (l : List Bool) (lo hi : Nat) (c : Bool) (h : hi ≤ lo) : fill l lo hi c = l := by
  apply List.ext_getElem?
  intro i
  exact fill_get_out l lo hi c i (by omega)

theorem doVertical_eq (st : St) (d : Int) (a1 : Nat)
    (hb : (findB1 st.refline st.color (st.curpos + 1).toNat : Int) + d = a1)
    (h1 : a1 ≤ st.width) (h2 : max 0 st.curpos ≤ (a1 : Int)) :
    doVertical st d = { st with curline := fill st.curline (max 0 st.curpos).toNat a1 st.color,
                                curpos := (a1 : Int), color := !st.color } := by
  simp only [doVertical, CcittCode.vertStart, CcittCode.vertTarget, CcittCode.vertX0, CcittCode.vertClamp,
    CcittCode.vertBackward, CcittCode.vertForward, CcittCode.vertNewColor, decide_eq_true_eq, hb]
  have hx : max 0 (min (st.width : Int) (a1 : Int)) = (a1 : Int) := by omega
  rw [hx]
  have hn : ¬ ((a1 : Int) < max 0 st.curpos) := by omega
  simp only [hn, if_false, Int.toNat_natCast]
  by_cases hlt : max 0 st.curpos < (a1 : Int)
  · simp only [hlt, if_true]
  · simp only [hlt, if_false]
    rw [fill_empty _ _ _ _ (by omega)]

theorem runEnd_le (len : Int) (n : Nat) (x : Int) :
    runEnd (fun len x => decide (len ≤ x)) len n x = min (x + n) (max x len) := by
  fun_induction runEnd (fun len x => decide (len ≤ x)) len n x with
  | case1 x => omega
  | case2 n x h => simp only [decide_eq_true_eq] at h; omega
  | case3 n x h ih => simp only [decide_eq_true_eq] at h; rw [ih]; omega

theorem doHorizontal_eq (st : St) (x n1 n2 : Nat) (hx : max 0 st.curpos = (x : Int))
    (h : x + n1 + n2 ≤ st.curline.length) :
    doHorizontal st n1 n2 =
      { st with curline := fill (fill st.curline x (x + n1) st.color) (x + n1) (x + n1 + n2) (!st.color),
                curpos := ((x + n1 + n2 : Nat) : Int) } := by
  have hx' : (if CcittCode.horizNeg st.curpos = true then CcittCode.horizZero else st.curpos) = (x : Int) := by
    simp only [CcittCode.horizNeg, CcittCode.horizZero, decide_eq_true_eq]; split <;> omega
  have hs1 : CcittCode.horizStop1 = fun len x => decide (len ≤ x) := rfl
  have hs2 : CcittCode.horizStop2 = fun len x => decide (len ≤ x) := rfl
  simp only [doHorizontal, hx', hs1, hs2, runEnd_le, CcittCode.horizColor1, CcittCode.horizColor2]
  rw [show min ((x : Int) + (n1 : Int)) (max (x : Int) (st.curline.length : Int)) = ((x + n1 : Nat) : Int) by omega,
    show min (((x + n1 : Nat) : Int) + (n2 : Int)) (max ((x + n1 : Nat) : Int) (st.curline.length : Int))
      = ((x + n1 + n2 : Nat) : Int) by omega]
  simp only [Int.toNat_natCast]

/-- One pixel of `_do_uncompressed`: `curline[curpos] = bit` (index -1 is the last pixel), `curpos += 1`. -/
def putPixel (st : St) (c : Bool) : St :=
  let k : Nat := if st.curpos < 0 then st.curline.length - 1 else st.curpos.toNat
  { st with curline := fill st.curline k (k + 1) c, curpos := CcittCode.uncStep st.curpos }

theorem doUncompressed_cons (st : St) (c : Bool) (cs : List Bool) :
    doUncompressed st (c :: cs) =
      if (flushLine (putPixel st c)).2 then ((flushLine (putPixel st c)).1, true)
      else doUncompressed (flushLine (putPixel st c)).1 cs := rfl

/-- The decoder is in the middle of (or at the end of) line `cur` with reference line `ref`:
everything left of a0 is already right, and the pixel at a0 has the current colour. -/
structure Core (w : Nat) (al rv : Bool) (ref cur : List Bool) (buf : List UInt8) (st : St) (a0 : Int)
    (color : Bool) : Prop where
  wd : st.width = w
  ba : st.bytealign = al
  rvs : st.reversed = rv
  rf : st.refline = ref
  bf : st.buf = buf
  curlen : st.curline.length = w
  cp : st.curpos = a0
  col : st.color = color
  lo : -1 ≤ a0
  hi : a0 ≤ w
  pre : ∀ i : Nat, (i : Int) < a0 → st.curline[i]? = cur[i]?
  at0 : 0 ≤ a0 → a0 < w → cur[a0.toNat]? = some color

theorem Core.ignore {w al rv ref cur buf st a0 color} (h : Core w al rv ref cur buf st a0 color)
    (n1 n2 : Nat) (acc : Acc) (node : Trie) :
    Core w al rv ref cur buf { st with n1 := n1, n2 := n2, acc := acc, node := node } a0 color :=
  ⟨h.wd, h.ba, h.rvs, h.rf, h.bf, h.curlen, h.cp, h.col, h.lo, h.hi, h.pre, h.at0⟩

section steps
variable {w : Nat} {al rv : Bool} {ref cur : List Bool} {buf : List UInt8} {st : St} {a0 : Int} {color : Bool}

/-- Painting `[a0, hi)` in the current colour, for any `hi` up to a1, makes the line right up to `hi`.
`l` is the line painted on: `st.curline`, or what `_do_pass` makes of it on a fresh line. -/
theorem Core.fill_run (h : Core w al rv ref cur buf st a0 color) (hlt : a0 < w) (hcur : cur.length = w)
    {l : List Bool} (hl : l.length = w) (hpre : ∀ i : Nat, (i : Int) < a0 → l[i]? = cur[i]?)
    {hi : Nat} (hhi : hi ≤ T6.nextNot cur color (a0 + 1).toNat) (i : Nat) (hi' : i < hi) :
    (fill l a0.toNat hi color)[i]? = cur[i]? := by
  have hlo := h.lo
  have ha1 : T6.nextNot cur color (a0 + 1).toNat ≤ w := hcur ▸ nextNot_le _ _ _ (by omega)
  by_cases hia : (i : Int) < a0
  · rw [fill_get_out l a0.toNat hi color i (by omega)]; exact hpre i hia
  · rw [fill_get_in l a0.toNat hi color i (by omega) hi' (by omega)]
    by_cases hie : (i : Int) = a0
    · have := h.at0 (by omega) hlt
      rw [show a0.toNat = i by omega] at this
      exact this.symm
    · exact (nextNot_run cur color (a0 + 1).toNat i (by omega) (by omega)).symm

/-- Vertical mode V(a1 - b1) puts a0 on a1 and flips the colour. -/
theorem core_vert (h : Core w al rv ref cur buf st a0 color) (hlt : a0 < w) (hcur : cur.length = w) :
    Core w al rv ref cur buf
      (doVertical st ((T6.nextNot cur color (a0 + 1).toNat : Int) - (T6.b1Of ref color (a0 + 1).toNat : Int)))
      (T6.nextNot cur color (a0 + 1).toNat : Int) (!color) := by
  have hlo := h.lo
  have h1 : (a0 + 1).toNat ≤ T6.nextNot cur color (a0 + 1).toNat := nextNot_ge _ _ _
  have h2 : T6.nextNot cur color (a0 + 1).toNat ≤ w := hcur ▸ nextNot_le _ _ _ (by omega)
  have hpre := h.fill_run hlt hcur h.curlen h.pre (Nat.le_refl _)
  have hstop := nextNot_stop cur color (a0 + 1).toNat
  generalize T6.nextNot cur color (a0 + 1).toNat = a1 at *
  have hx : (max 0 st.curpos).toNat = a0.toNat := by rw [h.cp]; omega
  rw [doVertical_eq st _ a1 (by rw [h.rf, h.col, h.cp, findB1_eq]; omega)
    (by rw [h.wd]; exact h2) (by rw [h.cp]; omega), hx, h.col]
  refine ⟨h.wd, h.ba, h.rvs, h.rf, h.bf, by simp only [fill_length, h.curlen], rfl, rfl,
    by omega, by omega, fun i hi => hpre i (by omega), ?_⟩
  intro _ hw
  exact hstop (by omega)

/-- Pass mode puts a0 under b2 and keeps the colour. -/
theorem core_pass (h : Core w al rv ref cur buf st a0 color) (hlt : a0 < w) (hcur : cur.length = w)
    (href : ref.length = w)
    (hp : T6.b2Of ref color (T6.b1Of ref color (a0 + 1).toNat) < T6.nextNot cur color (a0 + 1).toNat) :
    Core w al rv ref cur buf (doPass st)
      (T6.b2Of ref color (T6.b1Of ref color (a0 + 1).toNat) : Int) color := by
  have hlo := h.lo
  have h2 : T6.nextNot cur color (a0 + 1).toNat ≤ w := hcur ▸ nextNot_le _ _ _ (by omega)
  have hb1 : (a0 + 1).toNat ≤ T6.b1Of ref color (a0 + 1).toNat := b1Of_ge _ _ _
  have hb1' : T6.b1Of ref color (a0 + 1).toNat ≤ ref.length := b1Of_le _ _ _ (by omega)
  have hb2 := lt_b2Of ref color (a0 := a0) (by omega)
  have hdp : doPass st = { st with
      curline := fill (if a0 < 0 then fill st.curline (w - 1) w color else st.curline) a0.toNat
        (T6.b2Of ref color (T6.b1Of ref color (a0 + 1).toNat)) color,
      curpos := (T6.b2Of ref color (T6.b1Of ref color (a0 + 1).toNat) : Int) } := by
    simp only [doPass, CcittCode.passStart, h.rf, h.col, h.cp, h.wd, findB1p_eq,
      findB2_eq ref color _ hb1' (b1Of_stop ref color (a0 + 1).toNat)]
  -- on a fresh line the first pass also paints the last pixel, which `fill_run` never looks at
  have hl : (if a0 < 0 then fill st.curline (w - 1) w color else st.curline).length = w := by
    split <;> simp only [fill_length, h.curlen]
  have hlpre : ∀ i : Nat, (i : Int) < a0 →
      (if a0 < 0 then fill st.curline (w - 1) w color else st.curline)[i]? = cur[i]? := by
    intro i hi
    rw [if_neg (by omega)]
    exact h.pre i hi
  have hpre := h.fill_run hlt hcur hl hlpre (Nat.le_of_lt hp)
  have hat := nextNot_run cur color (a0 + 1).toNat _ (by omega) hp
  generalize T6.b2Of ref color (T6.b1Of ref color (a0 + 1).toNat) = b2 at *
  rw [hdp]
  exact ⟨h.wd, h.ba, h.rvs, h.rf, h.bf, by simp only [fill_length, hl], rfl, h.col, by omega, by omega,
    fun i hi => hpre i (by omega), fun _ _ => hat⟩

/-- Horizontal mode with run lengths a0a1, a1a2 puts a0 on a2 and keeps the colour. -/
theorem core_horiz (h : Core w al rv ref cur buf st a0 color) (hlt : a0 < w) (hcur : cur.length = w) :
    Core w al rv ref cur buf
      (doHorizontal st (T6.nextNot cur color (a0 + 1).toNat - a0.toNat)
        (T6.nextNot cur (!color) (T6.nextNot cur color (a0 + 1).toNat) - T6.nextNot cur color (a0 + 1).toNat))
      (T6.nextNot cur (!color) (T6.nextNot cur color (a0 + 1).toNat) : Int) color := by
  have hlo := h.lo
  have h1 : (a0 + 1).toNat ≤ T6.nextNot cur color (a0 + 1).toNat := nextNot_ge _ _ _
  have h2 : T6.nextNot cur color (a0 + 1).toNat ≤ w := hcur ▸ nextNot_le _ _ _ (by omega)
  have hpre := h.fill_run hlt hcur h.curlen h.pre (Nat.le_refl _)
  generalize T6.nextNot cur color (a0 + 1).toNat = a1 at *
  have h3 : a1 ≤ T6.nextNot cur (!color) a1 := nextNot_ge _ _ _
  have h4 : T6.nextNot cur (!color) a1 ≤ w := hcur ▸ nextNot_le _ _ _ (by omega)
  have hrun2 := nextNot_run cur (!color) a1
  have hstop2 := nextNot_stop cur (!color) a1
  generalize T6.nextNot cur (!color) a1 = a2 at *
  rw [doHorizontal_eq st a0.toNat _ _ (by rw [h.cp]; omega) (by rw [h.curlen]; omega), h.col,
    show a0.toNat + (a1 - a0.toNat) = a1 by omega, show a1 + (a2 - a1) = a2 by omega]
  refine ⟨h.wd, h.ba, h.rvs, h.rf, h.bf, by simp only [fill_length, h.curlen], rfl, rfl,
    by omega, by omega, ?_, ?_⟩
  · intro i hi
    by_cases hi1 : i < a1
    · rw [fill_get_out _ _ _ _ _ (Or.inl hi1)]; exact hpre i hi1
    · rw [fill_get_in _ _ _ _ _ (by omega) (by omega) (by simp only [fill_length, h.curlen]; omega)]
      exact (hrun2 i (by omega) (by omega)).symm
  · intro _ hw
    simpa using hstop2 (by omega)

end steps

end PdfVerif.Ccitt
