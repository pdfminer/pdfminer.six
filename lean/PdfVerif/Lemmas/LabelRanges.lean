/-
C17 — `NumberTree._parse` is the in-order flattening, the stable sort leaves ascending keys alone, and the
loop of `PageLabels.labels` yields at position `j` the label of the range containing page `j` (`labelsFrom_get`).
-/
import PdfVerif.Lemmas.Labels

namespace PdfVerif.Lemmas.LabelRanges
open PdfVerif PdfVerif.Labels PdfVerif.Spec.Labels

mutual
theorem parse_eq_flatten {α : Type} : ∀ t : NumTree α, t.parse = flatten t
  | .node nums kids => by simp only [NumTree.parse, flatten, parseList_eq_flattenList kids]
theorem parseList_eq_flattenList {α : Type} : ∀ ts : List (NumTree α), NumTree.parseList ts = flattenList ts
  | [] => by simp only [NumTree.parseList, flattenList]
  | t :: ts => by simp only [NumTree.parseList, flattenList, parse_eq_flatten t, parseList_eq_flattenList ts]
end

theorem ascendingFrom_all : ∀ (a : Int) (l : List Int), ascendingFrom a l = true → ∀ b ∈ l, a < b
  | _, [], _, b, hb => by simp at hb
  | a, x :: tl, h, b, hb => by
    simp only [ascendingFrom, Bool.and_eq_true, decide_eq_true_eq] at h
    rcases List.mem_cons.mp hb with rfl | hb
    · exact h.1
    · exact Int.lt_trans h.1 (ascendingFrom_all x tl h.2 b hb)

theorem sortKeys_of_ascending {α : Type} : ∀ l : List (Int × α), ascending (l.map (·.1)) = true → sortKeys l = l
  | [], _ => rfl
  | [_], _ => rfl
  | x :: y :: ys, h => by
    obtain ⟨hxy, h⟩ := Bool.and_eq_true_iff.mp h
    rw [sortKeys, sortKeys_of_ascending (y :: ys) h, insertKey, if_pos (Int.le_of_lt (of_decide_eq_true hxy))]

theorem labelOf_ok (d : LabelDict) (v : Int) (pre num : Text) (hpre : text (d.pfx.getD []) = some pre)
    (hnum : formatPageLabel v d.style = .ok num) : labelOf d v = .ok (pre ++ num) := by
  rw [labelOf, hnum, PdfVerif.Lemmas.Labels.decodeText_of_spec _ pre hpre]
  rfl

theorem rangeLabels_get (d : LabelDict) (n j : Nat) (hj : j < n) :
    (rangeLabels d n)[j]? = some (labelOf d (firstValue d + (j : Int))) := by
  simp [rangeLabels, List.getElem?_map, List.getElem?_range hj]

theorem rangeLabels_length (d : LabelDict) (n : Nat) : (rangeLabels d n).length = n := by
  simp [rangeLabels]

theorem rangeOf_cons_le {α : Type} (s : Int) (d : α) (tl : List (Int × α)) (i : Int) (h : s ≤ i) :
    rangeOf ((s, d) :: tl) i = some ((rangeOf tl i).getD (s, d)) := by
  simp [rangeOf, h, List.getLast?_cons]

theorem rangeOf_none {α : Type} (tl : List (Int × α)) (i : Int) (h : ∀ k ∈ tl.map (·.1), i < k) :
    rangeOf tl i = none := by
  have : tl.filter (fun r => decide (r.1 ≤ i)) = [] :=
    List.filter_eq_nil_iff.mpr fun r hr => by simpa using h r.1 (List.mem_map.mpr ⟨r, hr, rfl⟩)
  simp [rangeOf, this]

theorem eq_cons_of_head_zero {α : Type} (l : List (Int × α)) (h0 : l.head?.map (·.1) = some 0) :
    ∃ d tl, l = (0, d) :: tl := by
  cases l with
  | nil => cases h0
  | cons p tl =>
    obtain ⟨k, d⟩ := p
    simp only [List.head?_cons, Option.map_some, Option.some.injEq] at h0
    exact ⟨d, tl, by rw [← h0]⟩

theorem add_sub_self_left (s x : Int) : s + x - s = x := by rw [Int.add_comm, Int.add_sub_cancel]

/-- The label at position `j` of the loop started at range `(s, d)` is the label of page index
`s + j`, computed from the range that contains it. -/
theorem labelsFrom_get : ∀ (tl : List (Int × LabelDict)) (s : Int) (d : LabelDict) (n j : Nat),
    ascendingFrom s (tl.map (·.1)) = true → j < n →
    (labelsFrom s d tl n)[j]? =
      some (let p := (rangeOf tl (s + j)).getD (s, d); labelOf p.2 (firstValue p.2 + (s + j - p.1)))
  | [], s, d, n, j, _, hj => by
    rw [labelsFrom, rangeLabels_get d n j hj]
    simp only [rangeOf, List.filter_nil, List.getLast?_nil, Option.getD_none, add_sub_self_left]
  | (e, d') :: rest, s, d, n, j, hasc, hj => by
    simp only [List.map_cons, ascendingFrom, Bool.and_eq_true, decide_eq_true_eq] at hasc
    obtain ⟨hse, hrest⟩ := hasc
    -- the first range has `k` pages
    obtain ⟨k, hk⟩ := Int.eq_ofNat_of_zero_le (Int.sub_nonneg_of_le (Int.le_of_lt hse))
    obtain rfl := Int.sub_eq_iff_eq_add'.mp hk
    have hk : (s + (k : Int) - s).toNat = k := by rw [add_sub_self_left, Int.toNat_natCast]
    rw [labelsFrom, hk]
    by_cases hlt : j < k
    · have hjm : j < min k n := Nat.lt_min.mpr ⟨hlt, hj⟩
      have hlt' : s + (j : Int) < s + k := Int.add_lt_add_left (Int.ofNat_lt.mpr hlt) s
      have hnone : rangeOf ((s + (k : Int), d') :: rest) (s + j) = none :=
        rangeOf_none _ _ fun x hx => (List.mem_cons.mp hx).elim (· ▸ hlt')
          fun hx => Int.lt_trans hlt' (ascendingFrom_all _ _ hrest x hx)
      rw [List.getElem?_append_left (by rw [rangeLabels_length]; exact hjm), rangeLabels_get d _ j hjm, hnone]
      simp only [Option.getD_none, add_sub_self_left]
    · have hle : k ≤ j := Nat.le_of_not_lt hlt
      have hidx : s + (k : Int) + ((j - k : Nat) : Int) = s + (j : Int) := by
        rw [Int.add_assoc, ← Int.natCast_add, Nat.add_sub_cancel' hle]
      rw [Nat.min_eq_left (Nat.le_trans hle (Nat.le_of_lt hj)),
        List.getElem?_append_right (by rw [rangeLabels_length]; exact hle), rangeLabels_length,
        labelsFrom_get rest _ d' (n - k) (j - k) hrest (Nat.sub_lt_sub_right hle hj), hidx,
        rangeOf_cons_le _ d' rest (s + j) (Int.add_le_add_left (Int.ofNat_le.mpr hle) s)]
      rfl

end PdfVerif.Lemmas.LabelRanges
