/-
C17 — `lookup_name` on ARBITRARY name trees (unsorted, duplicate keys, wrong or missing Limits,
nodes with both Names and Kids): what is returned is always associated with the key in the tree,
and inside one `Names` array the LAST duplicate wins.
-/
import PdfVerif.Lemmas.NameTree

namespace PdfVerif.Lemmas.NameTreeAny
open PdfVerif PdfVerif.NameTree PdfVerif.Spec.NameTree PdfVerif.Lemmas.NameTree

/-- `dict(...)` semantics: the last pair with the key wins = the first in the reversed array. -/
theorem dictGet_eq_assoc_reverse : ∀ (ns : List (Key × Int)) (key : Key), dictGet ns key = assoc ns.reverse key
  | [], _ => rfl
  | p :: tl, key => by
    rw [dictGet_cons, dictGet_eq_assoc_reverse tl key]
    simp only [assoc, List.reverse_cons, List.find?_append]
    cases hf : List.find? (fun q => q.1 == key) tl.reverse with
    | some q => simp
    | none =>
      by_cases hk : (p.1 == key) = true
      · simp [hk]
      · simp [hk]

theorem dictGet_mem (ns : List (Key × Int)) (key : Key) (v : Int) (h : dictGet ns key = some v) : (key, v) ∈ ns :=
  List.mem_reverse.mp (mem_of_assoc (dictGet_eq_assoc_reverse ns key ▸ h))

mutual
theorem lookup_sound (key : Key) : ∀ (t : Node) (v : Int), lookup key t = .found v → (key, v) ∈ flatten t
  | .node limits names kids, v, h => by
    unfold lookup at h
    split at h
    · cases h
    · cases names with
      | none => exact List.mem_append_right _ (lookupKids_sound key kids v h)
      | some ns =>
        apply List.mem_append_left
        cases hd : dictGet ns key with
        | none => simp only [hd] at h; cases h
        | some w => simp only [hd] at h; cases h; exact dictGet_mem ns key v hd
theorem lookupKids_sound (key : Key) : ∀ (cs : List Node) (v : Int), lookupKids key cs = .found v →
    (key, v) ∈ flattenKids cs
  | [], v, h => by cases h
  | c :: cs, v, h => by
    unfold lookupKids at h
    simp only [flattenKids, List.mem_append]
    cases hc : lookup key c with
    | found w =>
      simp only [hc] at h
      split at h
      · cases h; exact .inl (lookup_sound key c v hc)
      · exact .inr (lookupKids_sound key cs v h)
    | none_ => simp only [hc] at h; exact .inr (lookupKids_sound key cs v h)
    | keyError => simp only [hc] at h; cases h
end

end PdfVerif.Lemmas.NameTreeAny
