/- The alphabet of the number formatters: digits, `-`, `.` and the `,` that joins them.  None of these
characters needs escaping, so every formatted number is `Plain`. -/
import PdfVerif.Lemmas.XmlDoc
import PdfVerif.Gen.ConvertFmt

namespace PdfVerif.Xml
open PdfVerif.Convert

def numChar (c : Char) : Bool := ('0' ≤ c && c ≤ '9') || c = '-' || c = '.' || c = ','

theorem numChar_plain {c : Char} (h : numChar c = true) : plainChar c = true := by
  -- all of `,` `-` `.` `0`..`9` lie in the code point range 44..57, the characters `plainChar` excludes do not
  have hr : 44 ≤ c.toNat ∧ c.toNat ≤ 57 := by
    simp only [numChar, Bool.or_eq_true, Bool.and_eq_true, decide_eq_true_eq] at h
    rcases h with ((⟨h1, h2⟩ | rfl) | rfl) | rfl
    · exact ⟨Nat.le_trans (by decide) h1, h2⟩
    all_goals decide
  have ne : ∀ d : Char, (d.toNat < 44 ∨ 57 < d.toNat) → c ≠ d := by
    rintro d hd rfl; omega
  simp only [plainChar, isXmlChar, Bool.and_eq_true, Bool.or_eq_true, decide_eq_true_eq, bne_iff_ne, ne_eq]
  refine ⟨⟨⟨⟨⟨⟨?_, ?_⟩, ?_⟩, ?_⟩, ?_⟩, ?_⟩, ?_⟩
  · omega
  all_goals exact ne _ (by decide)

def NumStr (s : Str) : Prop := ∀ c ∈ s, numChar c = true

theorem NumStr.plain {s : Str} (h : NumStr s) : Plain s := fun c hc => numChar_plain (h c hc)

theorem NumStr.nil : NumStr [] := fun _ hc => nomatch hc

theorem NumStr.cons {c : Char} {s : Str} (hc : numChar c = true) (hs : NumStr s) : NumStr (c :: s) :=
  List.forall_mem_cons.mpr ⟨hc, hs⟩

theorem NumStr.append {a b : Str} (ha : NumStr a) (hb : NumStr b) : NumStr (a ++ b) :=
  fun c hc => (List.mem_append.mp hc).elim (ha c) (hb c)

theorem NumStr.comma : NumStr [','] := .cons (by decide) .nil

theorem digitChar_num (d : Nat) : numChar (digitChar d) = true := by
  have h : ∀ k, k < 10 → numChar (Char.ofNat (48 + k)) = true := by decide
  exact h (d % 10) (Nat.mod_lt _ (by decide))

theorem natDigits_num (n : Nat) : NumStr (natDigits n) := by
  fun_induction natDigits n with
  | case1 n _ => exact .cons (digitChar_num n) .nil
  | case2 n _ ih => exact ih.append (.cons (digitChar_num _) .nil)

theorem NumStr.sign (b : Bool) : NumStr (if b then ['-'] else []) := by
  cases b
  · exact .nil
  · exact .cons (by decide) .nil

theorem fmtF3_num (x : SRat) : NumStr (fmtF3 x) :=
  (((NumStr.sign _).append (natDigits_num _)).append (.cons (by decide) .nil)).append
    (.cons (digitChar_num _) (.cons (digitChar_num _) (.cons (digitChar_num _) .nil)))

theorem fmtD_num (x : SRat) : NumStr (fmtD x) := (NumStr.sign _).append (natDigits_num _)

theorem bbox2str_num (x0 y0 x1 y1 : SRat) : NumStr (Gen.ConvertFmt.bbox2str x0 y0 x1 y1) :=
  ((((((fmtF3_num x0).append .comma).append (fmtF3_num y0)).append .comma).append (fmtF3_num x1)).append
    .comma).append (fmtF3_num y1)

theorem strJoin_num (sep : Str) (hs : NumStr sep) (parts : List Str) (hp : ∀ x ∈ parts, NumStr x) :
    NumStr (strJoin sep parts) := by
  fun_induction strJoin sep parts with
  | case1 => exact .nil
  | case2 x => exact hp x (.head _)
  | case3 x y r ih =>
    obtain ⟨hx, hr⟩ := List.forall_mem_cons.mp hp
    exact (hx.append hs).append (ih hr)

theorem get_pts_num (pts : List (SRat × SRat)) : NumStr (Gen.ConvertFmt.get_pts pts) := by
  refine strJoin_num _ .comma _ fun x hx => ?_
  obtain ⟨p, _, rfl⟩ := List.mem_map.mp hx
  exact ((fmtF3_num p.1).append .comma).append (fmtF3_num p.2)

end PdfVerif.Xml
