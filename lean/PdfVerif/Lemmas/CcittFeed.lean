/-
C19: a flat (bit list) view of `feedbytes`, and what happens when the bits
of one code word are fed to the parser.
-/
import PdfVerif.Lemmas.CcittTables

namespace PdfVerif.Ccitt
open PdfVerif.Gen PdfVerif.Spec

/-- `feedbytes` seen on the flat bit sequence: `pos` = number of bits consumed so far (so that
`pos % 8` is the place in the current byte), `skip` = bits still to be discarded after a
`ByteSkip`. -/
def feedFlat (st : St) : Nat → Nat → List Bool → Except Err St
  | _, _, [] => .ok st
  | pos, skip + 1, _ :: bs => feedFlat st (pos + 1) skip bs
  | pos, 0, b :: bs =>
    match stepBit st b with
    | .error e => .error e
    | .ok (st', .cont) => feedFlat st' (pos + 1) 0 bs
    | .ok (st', .byteSkip) => feedFlat st' (pos + 1) (7 - pos % 8) bs
    | .ok (st', .eofb) => .ok st'

theorem feedFlat_skip : ∀ (bs : List Bool) (st : St) (pos : Nat) (rest : List Bool),
    feedFlat st pos bs.length (bs ++ rest) = feedFlat st (pos + bs.length) 0 rest := by
  intro bs
  induction bs with
  | nil => intro st pos rest; simp
  | cons b bs ih =>
    intro st pos rest
    simp only [List.length_cons, List.cons_append, feedFlat]
    rw [ih]
    congr 1
    omega

theorem feedFlat_skip_all : ∀ (bs : List Bool) (st : St) (pos k : Nat), bs.length ≤ k →
    feedFlat st pos k bs = .ok st := by
  intro bs
  induction bs with
  | nil => intro st pos k _; cases k <;> rfl
  | cons b bs ih =>
    intro st pos k h
    cases k with
    | zero => simp at h
    | succ k => simp only [feedFlat]; apply ih; simp at h; omega

/-- What the rest of `feedFlat` does with the result of an `_accept` call made at the bit before
position `pos`. -/
def afterAccept (r : Except Err (St × Sig)) (pos : Nat) (rest : List Bool) : Except Err St :=
  match r with
  | .error e => .error e
  | .ok (st', .cont) => feedFlat st' pos 0 rest
  | .ok (st', .byteSkip) => feedFlat st' pos (7 - (pos - 1) % 8) rest
  | .ok (st', .eofb) => .ok st'

-- The first `fun_induction` over `feedBits` / `feedBytes` stands here, below every other file that has one: two
-- files that derived the induction principle independently of each other could not be imported together.
theorem feedBits_flat (bs : List Bool) (st : St) (pos : Nat) (rest : List Bool)
    (h1 : (pos + bs.length) % 8 = 0) (h2 : bs.length + pos % 8 ≤ 8) :
    feedFlat st pos 0 (bs ++ rest) =
      match feedBits st bs with
      | .error e => .error e
      | .ok (st', .eofb) => .ok st'
      | .ok (st', _) => feedFlat st' (pos + bs.length) 0 rest := by
  fun_induction feedBits st bs generalizing pos with
  | case1 st => rfl
  | case2 st b bs e hr => simp only [List.cons_append, feedFlat, hr]
  | case3 st b bs st' hr ih =>
    simp only [List.length_cons] at h1 h2 ⊢
    simp only [List.cons_append, feedFlat, hr]
    rw [ih (pos + 1) (by omega) (by omega), show pos + 1 + bs.length = pos + (bs.length + 1) by omega]
  | case4 st b bs st' s hne hr =>
    simp only [List.length_cons] at h1 h2 ⊢
    simp only [List.cons_append, feedFlat, hr]
    cases s with
    | cont => exact (hne rfl).elim
    | eofb => rfl
    | byteSkip =>
      simp only []
      rw [show 7 - pos % 8 = bs.length by omega, feedFlat_skip, show pos + 1 + bs.length = pos + (bs.length + 1) by omega]
theorem bitsOfByte_length (b : UInt8) : (bitsOfByte b).length = 8 := by simp [bitsOfByte, CcittCode.feedMasks]

theorem feedBytes_flat (bytes : List UInt8) (st : St) (pos : Nat) (hp : pos % 8 = 0) :
    feedBytes st bytes = feedFlat st pos 0 (bytes.flatMap bitsOfByte) := by
  have hflat (st : St) (b : UInt8) {pos : Nat} (hp : pos % 8 = 0) (rest : List Bool) :=
    feedBits_flat (bitsOfByte b) st pos rest (by rw [bitsOfByte_length]; omega) (by rw [bitsOfByte_length]; omega)
  fun_induction feedBytes st bytes generalizing pos with
  | case1 st => rfl
  | case2 st b bs e hr => rw [List.flatMap_cons, hflat _ _ hp, hr]
  | case3 st b bs st' hr => rw [List.flatMap_cons, hflat _ _ hp, hr]
  | case4 st b bs st' s hne hr ih =>
    rw [List.flatMap_cons, hflat _ _ hp, hr]
    cases s with
    | eofb => exact (hne rfl).elim
    | cont | byteSkip => exact ih _ (by rw [bitsOfByte_length]; omega)

/-- What `feedFlat` goes on with once the bits of a code word have led to the node `t` of the current
table: an inner node is just the new `_state`; a leaf or an empty slot is handed to `_accept`. -/
def afterCode (st : St) (t : Trie) (pos : Nat) (rest : List Bool) : Except Err St :=
  match t with
  | .node a c => feedFlat { st with node := .node a c } pos 0 rest
  | .leaf s => afterAccept (accept { st with node := .empty } (some s)) pos rest
  | .empty => afterAccept (accept { st with node := .empty } none) pos rest

theorem feedFlat_cons_node {st : St} {l r : Trie} (hn : st.node = .node l r) (b : Bool) (pos : Nat)
    (rest : List Bool) : feedFlat st pos 0 (b :: rest) = afterCode st (if b then r else l) (pos + 1) rest := by
  simp only [feedFlat, stepBit, hn]
  cases (if b then r else l) with
  | node a c => rfl
  | leaf s => simp only [afterCode, afterAccept, Nat.add_sub_cancel]
  | empty => simp only [afterCode, afterAccept, Nat.add_sub_cancel]

theorem afterCode_node (st : St) (n t : Trie) (pos : Nat) (rest : List Bool) :
    afterCode { st with node := n } t pos rest = afterCode st t pos rest := by
  cases t <;> rfl

theorem feed_follow : ∀ (code : List Bool) (st : St) (pos : Nat) (rest : List Bool) (t : Trie),
    code ≠ [] → Trie.follow st.node code = some t →
    feedFlat st pos 0 (code ++ rest) = afterCode st t (pos + code.length) rest := by
  intro code
  induction code with
  | nil => intro st pos rest t h; exact absurd rfl h
  | cons b bs ih =>
    intro st pos rest t _ h
    obtain ⟨l, r, hn, hf⟩ := Trie.follow_cons h
    rw [List.cons_append, feedFlat_cons_node hn]
    cases bs with
    | nil => cases hf; rfl
    | cons b' bs' =>
      obtain ⟨a, c, hc, _⟩ := Trie.follow_cons hf
      rw [hc] at hf ⊢
      have hlen : pos + 1 + (b' :: bs').length = pos + (b :: b' :: bs').length := by
        simp only [List.length_cons]; omega
      rw [← hlen, ← afterCode_node st (.node a c) t]
      exact ih { st with node := .node a c } (pos + 1) rest t (List.cons_ne_nil _ _) hf

theorem feed_follow_node (code : List Bool) (st : St) (pos : Nat) (rest : List Bool) (a c : Trie)
    (h : Trie.follow st.node code = some (.node a c)) :
    feedFlat st pos 0 (code ++ rest) = feedFlat { st with node := .node a c } (pos + code.length) 0 rest := by
  cases code with
  | nil =>
    simp only [Trie.follow, Option.some.injEq] at h
    rw [← h]; rfl
  | cons b bs => exact feed_follow _ st pos rest _ (List.cons_ne_nil _ _) h

theorem feed_follow_leaf (code : List Bool) (st : St) (pos : Nat) (rest : List Bool) (s : Sym)
    (hne : code ≠ []) (h : Trie.follow st.node code = some (.leaf s)) :
    feedFlat st pos 0 (code ++ rest) =
      afterAccept (accept { st with node := .empty } (some s)) (pos + code.length) rest :=
  feed_follow code st pos rest _ hne h

theorem accept_none (st : St) : accept st none = .error .invalidData := by
  cases ha : st.acc <;> simp only [accept, ha, parseMode, parseHoriz1, parseHoriz2, parseUncompressed] <;> rfl

theorem feed_follow_empty (code : List Bool) (st : St) (pos : Nat) (rest : List Bool)
    (hne : code ≠ []) (h : Trie.follow st.node code = some .empty) :
    feedFlat st pos 0 (code ++ rest) = .error .invalidData := by
  rw [feed_follow code st pos rest _ hne h]
  simp only [afterCode, accept_none, afterAccept]

end PdfVerif.Ccitt
