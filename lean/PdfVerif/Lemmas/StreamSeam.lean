/-
The seam between the tokenizer (C14 / C01) and C03's model of the `stream` branch of
`PDFParser.do_keyword` (`Filters.streamRead`): the position at which the tokenizer reports the keyword `stream` is the
position from which `streamRead` takes the payload, and where `streamRead` stops the tokenizer finds
`endstream endobj` (for `Props/C01.C01_stream_object_partial`).

The last part (`Swallow` … `unit_complete`) is about any `LexUnit`, not about streams: a unit that may be
followed by anything leaves the scanner in a `Complete` state.  `C01_stream_object_spelled` uses it for
the bytes in front of `stream`, `C01_tree_complete` for a spelled tree.
-/
import PdfVerif.Lemmas.LexCompose
import PdfVerif.Lemmas.FiltersCodec
import PdfVerif.Lemmas.StackParser
import PdfVerif.Model.ObjParser
import PdfVerif.Lemmas.Roundtrip

namespace PdfVerif.StreamSeam
open PdfVerif PdfVerif.Lexer PdfVerif.Gen.LexTables PdfVerif.Filters PdfVerif.Gen.Filters PdfVerif.StackParser

theorem kwStream_noeol : ∀ c ∈ kwStream, c ≠ 10 ∧ c ≠ 13 := by decide

theorem lex_stream_line (eol0 R : Bytes) (h : eol0 = [10] ∨ eol0 = [13, 10]) :
    specLex (kwStream ++ eol0 ++ R) = (0, Token.kwd kwStream) :: shiftToks (6 + eol0.length) (specLex R) := by
  have hw := specLex_word 115 [116, 114, 101, 97, 109] (by decide)
  have hk : specLex kwStream = [(0, Token.kwd kwStream)] := hw.2
  have hne : eol0 ≠ [] := by rcases h with h | h <;> simp [h]
  have hws : ∀ c ∈ eol0, isSPC c = true := by
    rcases h with h | h <;> subst h <;> simp [isSPC_eq]
  rw [specLex_append_ws kwStream eol0 R hw.1 hne hws, hk]
  rfl

theorem lex_to_stream (pre ws eol0 R : Bytes) (hc : Complete (foldBytes St.init pre 0).1.mode = true)
    (hne : ws ≠ []) (hws : ∀ c ∈ ws, isSPC c = true) (h : eol0 = [10] ∨ eol0 = [13, 10]) :
    specLex ((pre ++ ws) ++ kwStream ++ eol0 ++ R) =
      specLex pre ++ ((pre ++ ws).length, Token.kwd kwStream) ::
        shiftToks (6 + eol0.length + (pre ++ ws).length) (specLex R) := by
  rw [show (pre ++ ws) ++ kwStream ++ eol0 ++ R = pre ++ ws ++ (kwStream ++ eol0 ++ R) by simp,
    specLex_append_ws pre ws _ hc hne hws, lex_stream_line eol0 R h]
  simp [shiftToks, Nat.add_assoc]

theorem lex_after_stream (eol rest : Bytes) (heol : EolOk eol rest) :
    specLex (ENDSTREAM_MARK ++ [32] ++ (kwEndobj ++ eol ++ rest)) =
      (0, Token.kwd ENDSTREAM_MARK) :: (10, Token.kwd kwEndobj) :: shiftToks (6 + eol.length + 10) (specLex rest) := by
  have hw1 := specLex_word 101 [110, 100, 115, 116, 114, 101, 97, 109] (by decide)
  have hk1 : specLex ENDSTREAM_MARK = [(0, Token.kwd ENDSTREAM_MARK)] := hw1.2
  have hw2 := specLex_word 101 [110, 100, 111, 98, 106] (by decide)
  have hk2 : specLex kwEndobj = [(0, Token.kwd kwEndobj)] := hw2.2
  have hne : eol ≠ [] := by
    rcases heol with h | h | ⟨h, _⟩ <;> simp [h]
  have hws : ∀ c ∈ eol, isSPC c = true := by
    rcases heol with h | h | ⟨h, _⟩ <;> subst h <;> simp [isSPC_eq]
  rw [specLex_append_ws ENDSTREAM_MARK [32] _ hw1.1 (by simp) (by simp [isSPC_eq]), hk1,
    specLex_append_ws kwEndobj eol rest hw2.1 hne hws, hk2]
  have hl : ENDSTREAM_MARK.length = 9 := by decide
  have hl2 : kwEndobj.length = 6 := by decide
  simp [shiftToks, hl, hl2, Nat.add_assoc]

/-- PDFParser fed with the keyword `stream` (outside `ObjParser`): an error, whatever the state. -/
theorem feed_stream_err (st : PState) : (feedWith objDialect st (Token.kwd kwStream)).error ≠ none := by
  cases herr : st.error with
  | some e => simp [feedWith, herr]
  | none =>
    rw [feedWith_kwd st kwStream herr (by decide)]
    simp +decide [endIter, objDialect, doKeywordP]

theorem no_stream_of_ok : ∀ (a : List Token) (st : PState), (feedAllWith objDialect st a).error = none →
    ∀ t ∈ a, t ≠ Token.kwd kwStream
  | [], _, _ => by simp
  | x :: r, st, h => by
    intro t ht
    rcases List.mem_cons.mp ht with rfl | hr
    · exact fun hx => feed_stream_err st (feedAllWith_error_none r _ (hx ▸ h))
    · exact no_stream_of_ok r (feedWith objDialect st x) h t hr

theorem splitAtStream_append : ∀ (A : List PTok) (P : Nat) (X : List PTok), (∀ t ∈ A, t.2 ≠ Token.kwd kwStream) →
    ObjParser.splitAtStream (A ++ (P, Token.kwd kwStream) :: X) = some (A, P)
  | [], P, X, _ => by simp [ObjParser.splitAtStream]
  | (p, t) :: r, P, X, h => by
    have ht : (t == Token.kwd kwStream) = false := by
      have := h (p, t) (by simp)
      simpa using this
    have ih := splitAtStream_append r P X (fun x hx => h x (by simp [hx]))
    simp [ObjParser.splitAtStream, ht, ih]

/-- `getobj` on a stream object, given what the tokenizer yields for the bytes in front of the `stream` keyword and
    behind the payload, and what `streamRead` makes of the bytes between -/
theorem getobjS_stream (b : Nat) (objid gen : Int) (data : Bytes) (before after ts2 : List PTok) (P q : Nat)
    (v : PObj) (es : List (Bytes × SObj)) (d : Bytes) (more : List Token)
    (hrun : run b data = some (before ++ (P, Token.kwd kwStream) :: after))
    (hbefore : before.map (·.2) = Token.int objid :: Token.int gen :: Token.kwd kwObj :: ser v)
    (hclean : clean v) (hdict : norm v = .dict es) (hlen : ObjParser.lookupLength es = some (.int d.length))
    (hread : streamRead false data P (some (d.length : Int)) = .ok (d, q))
    (hrun2 : run b (data.drop q) = some ts2)
    (hafter : ts2.map (·.2) = Token.kwd ENDSTREAM_MARK :: Token.kwd kwEndobj :: more) :
    ObjParser.getobjS b objid data = .ok (.stream es d) := by
  obtain ⟨hf, hpre0⟩ := nextobjectP_ser v hclean []
  have hnext : nextobjectP {} (ser v) = none := by
    rw [List.append_nil] at hpre0
    rw [hpre0]; rfl
  have hnos : ∀ t ∈ before, t.2 ≠ Token.kwd kwStream := by
    intro t ht
    have hm : t.2 ∈ before.map (·.2) := List.mem_map.mpr ⟨t, ht, rfl⟩
    simp only [hbefore, List.mem_cons] at hm
    rcases hm with h | h | h | hm
    · rw [h]; nofun
    · rw [h]; nofun
    · rw [h]; decide
    · exact no_stream_of_ok (ser v) {} (by rw [hf]; rfl) _ hm
  have hneg : ¬ ((d.length : Int) < 0) := by omega
  have s1 : feedWith objDialect { curstack := [SObj.stream es d] } (Token.kwd ENDSTREAM_MARK) =
      { curstack := [SObj.stream es d, .kwd ENDSTREAM_MARK] } := by
    rw [feedWith_kwd _ ENDSTREAM_MARK rfl (by decide)]
    simp +decide [endIter, push, objDialect, doKeywordP]
  have s2 : feedWith objDialect { curstack := [SObj.stream es d, .kwd ENDSTREAM_MARK] } (Token.kwd kwEndobj) =
      { results := [SObj.stream es d, .kwd ENDSTREAM_MARK] } := by
    rw [feedWith_kwd _ kwEndobj rfl (by decide)]
    simp +decide [endIter, objDialect, doKeywordP, popToResults]
  simp only [ObjParser.getobjS, hrun, splitAtStream_append before P after hnos, hbefore, bne_self_eq_false,
    Bool.false_eq_true, if_false, hnext, hf, hdict, push, List.nil_append, List.isEmpty_nil, Bool.not_true,
    List.reverse_cons, List.reverse_nil, hlen, hneg, hread, hrun2, hafter]
  rw [nextobjectP_step _ _ _ rfl rfl, s1, nextobjectP_step _ _ _ rfl rfl, s2, nextobjectP_done _ _ (by simp)]
  simp [ObjParser.resultOf]

open PdfVerif.Roundtrip in
/-- the bytes in front of the `stream` keyword: `objid gen obj` and the spelled body, with their separators -/
def headBytes (o : ObjSpelling) : Bytes :=
  (o.ds ++ renderSep o.g1) ++ ((o.gs ++ renderSep o.g2) ++ ((kwObj ++ renderSep o.g3) ++ bytesOf o.body))

open PdfVerif.Roundtrip in
theorem lex_head (o : ObjSpelling) (h : o.wf) :
    LexUnit (headBytes o)
      ([Token.int (intValue [] o.ds), Token.int (intValue [] o.gs), Token.kwd kwObj] ++ ser (valueOf o.body)) false :=
  lex_obj_head o h

open PdfVerif.Roundtrip in
theorem head_tokens (o : ObjSpelling) (h : o.wf) :
    tokVals (specLex (headBytes o)) =
      Token.int (intValue [] o.ds) :: Token.int (intValue [] o.gs) :: Token.kwd kwObj :: ser (valueOf o.body) :=
  (lex_head o h).specLex

/-- the scanners that swallow ` 1 ` / ` 2 ` without a token -/
def Swallow : Mode → Bool
  | .comment | .string | .hexstring | .dead => true
  | _ => false

theorem swallow_modes {m : Mode} (h : Swallow m = true) :
    m = .comment ∨ m = .string ∨ m = .hexstring ∨ m = .dead := by
  cases m <;> first | exact Bool.noConfusion h | simp

/-- a byte outside the END class of a searching scanner is accumulated: no token, same scanner -/
theorem step_stays (s : St) (c : UInt8) (p : Nat) (cls : UInt8 → Bool) (hs : searchClass s.mode = some cls)
    (hc : cls c = false) : (stepByte s c p).2 = [] ∧ (stepByte s c p).1.mode = s.mode := by
  rw [step_nonmatch s c p cls hs hc]
  exact ⟨rfl, accum_mode _ _⟩

theorem blank_swallow (s : St) (p : Nat) (h : Complete s.mode = false) : Swallow (stepByte s 32 p).1.mode = true := by
  have f1 : isEOL 32 = false := by rw [isEOL_eq]; rfl
  have f2 : isEND_STRING 32 = false := by rw [isEND_STRING_eq]; rfl
  have f3 : isEND_HEX_STRING 32 = false := by rw [isEND_HEX_STRING_eq]; rfl
  have f4 : isOCT_STRING 32 = false := by rw [isOCT_STRING_eq]; rfl
  have f5 : escLookup 32 = none := by decide +kernel
  have stays : ∀ cls, searchClass s.mode = some cls → cls 32 = false → Swallow s.mode = true →
      Swallow (stepByte s 32 p).1.mode = true := fun cls hs hc hsw => by rw [(step_stays s 32 p cls hs hc).2]; exact hsw
  cases hm : s.mode <;> rw [hm] at h <;> try cases h
  · exact stays isEOL (by rw [hm]; rfl) f1 (by rw [hm]; rfl)
  · exact stays isEND_STRING (by rw [hm]; rfl) f2 (by rw [hm]; rfl)
  · -- behind a backslash: the blank is consumed (ending an octal escape first, if one is pending)
    rw [step_hit s 32 p (.inl (by rw [hm]; rfl))]
    by_cases ho : s.oct = []
    · simp [atHit, hm, parseString1Hit, f4, f5, ho, Swallow]
    · cases hp : pyIntBase 8 s.oct <;>
        simp [atHit, hm, parseString1Hit, raise, f4, ho, hp, stepByte, stepN, searchClass, accum, f2, Swallow]
  · -- behind backslash-CR, and behind a lone `<`: the blank goes back to the string / hexstring scanner
    rw [step_hit s 32 p (.inl (by rw [hm]; rfl))]
    simp [atHit, hm, parseString2Hit, stepByte, stepN, searchClass, accum, f2, Swallow]
  · rw [step_hit s 32 p (.inl (by rw [hm]; rfl))]
    simp [atHit, hm, parseWopenHit, stepByte, stepN, searchClass, accum, f3, Swallow]
  · exact stays isEND_HEX_STRING (by rw [hm]; rfl) f3 (by rw [hm]; rfl)
  · rw [step_hit s 32 p (.inl (by rw [hm]; rfl))]
    simp [atHit, hm, Swallow]

theorem swallow_step (s : St) (c : UInt8) (p : Nat) (h : Swallow s.mode = true)
    (f1 : isEOL c = false) (f2 : isEND_STRING c = false) (f3 : isEND_HEX_STRING c = false) :
    (stepByte s c p).2 = [] ∧ Swallow (stepByte s c p).1.mode = true := by
  have stays : ∀ cls, searchClass s.mode = some cls → cls c = false →
      (stepByte s c p).2 = [] ∧ Swallow (stepByte s c p).1.mode = true := fun cls hs hc => by
    rw [(step_stays s c p cls hs hc).2]; exact ⟨(step_stays s c p cls hs hc).1, h⟩
  rcases swallow_modes h with hm | hm | hm | hm
  · exact stays isEOL (by rw [hm]; rfl) f1
  · exact stays isEND_STRING (by rw [hm]; rfl) f2
  · exact stays isEND_HEX_STRING (by rw [hm]; rfl) f3
  · rw [step_hit s c p (.inl (by rw [hm]; rfl))]
    simp [atHit, hm, Swallow]

theorem swallow_nl (s : St) (p : Nat) (h : Swallow s.mode = true) : (stepByte s 10 p).2 = [] := by
  rcases swallow_modes h with hm | hm | hm | hm
  · -- the newline ends the comment and is handed to the main scanner, which skips it
    have e4 : isEOL 10 = true := by rw [isEOL_eq]; rfl
    have n1 : isNONSPC 10 = false := by rw [isNONSPC_eq]; rfl
    rw [step_hit s 10 p (.inr ⟨isEOL, by rw [hm]; rfl, e4⟩)]
    simp only [atHit, hm, parseCommentHit, Bool.false_eq_true, if_false, List.nil_append]
    rw [step_nonmatch _ 10 _ isNONSPC rfl n1]
  · exact (step_stays s 10 p isEND_STRING (by rw [hm]; rfl) (by rw [isEND_STRING_eq]; rfl)).1
  · exact (step_stays s 10 p isEND_HEX_STRING (by rw [hm]; rfl) (by rw [isEND_HEX_STRING_eq]; rfl)).1
  · rw [step_hit s 10 p (.inl (by rw [hm]; rfl))]
    simp [atHit, hm]

theorem swallow_digit (s : St) (c : UInt8) (p : Nat) (h : Swallow s.mode = true) (hc : c = 49 ∨ c = 50) :
    (foldBytes s [c, 32, 10] p).2 = [] := by
  have a1 := swallow_step s c p h (by rw [isEOL_eq]; rcases hc with rfl | rfl <;> rfl)
    (by rw [isEND_STRING_eq]; rcases hc with rfl | rfl <;> rfl) (by rw [isEND_HEX_STRING_eq]; rcases hc with rfl | rfl <;> rfl)
  have a2 := swallow_step (stepByte s c p).1 32 (p + 1) a1.2 (by rw [isEOL_eq]; rfl) (by rw [isEND_STRING_eq]; rfl)
    (by rw [isEND_HEX_STRING_eq]; rfl)
  have a3 := swallow_nl (stepByte (stepByte s c p).1 32 (p + 1)).1 (p + 1 + 1) a2.2
  simp [foldBytes, a1.1, a2.1, a3]

/-- `LexUnit s ts false` speaks about token VALUES for every continuation.  That is enough to pin the scanner
    state after `s` down to a `Complete` one: from a scanner that is inside a string, a hexadecimal string or a
    comment (or behind a lone `<`, or dead) the continuations ` 1 ` and ` 2 ` yield the SAME tokens (none but
    what the first blank yields), whereas the unit says they yield `ts ++ [1]` and `ts ++ [2]`. -/
theorem unit_complete (s : Bytes) (ts : List Token) (hu : LexUnit s ts false) :
    Complete (foldBytes St.init s 0).1.mode = true := by
  cases hC : Complete (foldBytes St.init s 0).1.mode with
  | true => rfl
  | false =>
    exfalso
    have side : ∀ c : UInt8, c = 49 ∨ c = 50 →
        ts ++ tokVals (foldBytes St.init [32, c, 32, 10] 0).2 =
          tokVals (foldBytes St.init s 0).2 ++ tokVals (stepByte (foldBytes St.init s 0).1 32 (0 + s.length)).2 := by
      intro c hc
      obtain ⟨st', hHO, hh⟩ := hu St.init 32 [c, 32, 10] 0 (Or.inl rfl) (fun hx => by cases hx)
      rw [handover_fresh st' hHO 32 [c, 32, 10] _ (by decide)] at hh
      have hcons : ∀ S q, (foldBytes S (32 :: [c, 32, 10]) q).2 =
          (stepByte S 32 q).2 ++ (foldBytes (stepByte S 32 q).1 [c, 32, 10] (q + 1)).2 := fun _ _ => rfl
      rw [← hh, foldBytes_append, hcons, swallow_digit _ c _ (blank_swallow _ (0 + s.length) hC) hc]
      simp [tokVals]
    have h1 := side 49 (Or.inl rfl)
    have h2 := side 50 (Or.inr rfl)
    have v1 : tokVals (foldBytes St.init [32, 49, 32, 10] 0).2 = [Token.int 1] := by decide +kernel
    have v2 : tokVals (foldBytes St.init [32, 50, 32, 10] 0).2 = [Token.int 2] := by decide +kernel
    rw [v1] at h1
    rw [v2] at h2
    have := h1.trans h2.symm
    have := List.append_cancel_left this
    simp at this

end PdfVerif.StreamSeam
