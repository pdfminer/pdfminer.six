/-
C06: a WRITER of clear-text Type 1 headers (`writeHeader`) with every spelling freedom of the tokeniser
theorems (C01): integer keys with sign / leading zeros, names with `#xx` escapes, white space of every
kind and comments between the tokens (nothing between key and `/name`), inert keywords (`dict`, `begin`,
`readonly`, `def`, `array`, `for`, `eexec` ...) and stray numbers between the `put` lines - and the lemmas
behind the round-trip theorem `Props.C06.t1_roundtrip`: reading the written bytes with the tokeniser
and `Type1FontHeaderParser`'s stack machine gives back exactly the written `put` pairs.

Executable (no Mathlib): the driver renders headers with `writeHeader` (op `t1write`) and the harness feeds
those bytes to the real `Type1FontHeaderParser`.
-/
import PdfVerif.Lemmas.Roundtrip
import PdfVerif.Model.Type1Header

namespace PdfVerif.SimpleFont
open PdfVerif PdfVerif.Lexer PdfVerif.StackParser PdfVerif.Gen.LexTables PdfVerif.Roundtrip PdfVerif.Gen.FontCode

def kwDup : Bytes := [100, 117, 112]

/-- One `dup <key> /<name> put` line as it is spelled: `g1 … g4` are what stands after `dup`, after the key,
after the name and after `put`. -/
structure PutSpelling where
  sign : Bytes
  digits : Bytes
  name : List NameItem
  g1 : List SepItem
  g2 : List SepItem
  g3 : List SepItem
  g4 : List SepItem

inductive HeaderItem where
  | put (p : PutSpelling)
  | word (c : UInt8) (w : Bytes) (g : List SepItem)       -- a keyword other than `put`, `true`, `false`
  | num (sign digits : Bytes) (g : List SepItem)          -- a stray integer (stays on the operand stack)

def PutSpelling.render (p : PutSpelling) : Bytes :=
  (kwDup ++ renderSep p.g1) ++ (((p.sign ++ p.digits) ++ renderSep p.g2) ++
    ((47 :: renderName p.name ++ renderSep p.g3) ++ (kwPut ++ renderSep p.g4)))

def PutSpelling.key (p : PutSpelling) : Int := intValue p.sign p.digits

def PutSpelling.tokens (p : PutSpelling) : List Token :=
  [Token.kwd kwDup] ++ ([Token.int p.key] ++ ([Token.lit (nameValue p.name)] ++ [Token.kwd kwPut]))

def PutSpelling.ok (p : PutSpelling) : Prop :=
  signOK p.sign ∧ digitsOK p.digits ∧ (∀ i ∈ p.name, i.ok) ∧ sepOK p.g1 ∧ p.g1 ≠ [] ∧ sepOK p.g2 ∧
    sepOK p.g3 ∧ p.g3 ≠ [] ∧ sepOK p.g4 ∧ p.g4 ≠ []

def HeaderItem.render : HeaderItem → Bytes
  | .put p => p.render
  | .word c w g => (c :: w) ++ renderSep g
  | .num s d g => (s ++ d) ++ renderSep g

def HeaderItem.tokens : HeaderItem → List Token
  | .put p => p.tokens
  | .word c w _ => [Token.kwd (c :: w)]
  | .num s d _ => [Token.int (intValue s d)]

/-- The `(key, name bytes)` pair an item is meant to add. -/
def HeaderItem.results : HeaderItem → List (Int × Bytes)
  | .put p => [(p.key, nameValue p.name)]
  | _ => []

def HeaderItem.ok : HeaderItem → Prop
  | .put p => p.ok
  | .word c w g => isAlpha c = true ∧ (∀ x ∈ w, isAlpha x = true) ∧ (c :: w) ≠ kwTrue ∧ (c :: w) ≠ kwFalse ∧
      (c :: w) ≠ kwPut ∧ sepOK g ∧ g ≠ []
  | .num s d g => signOK s ∧ digitsOK d ∧ sepOK g ∧ g ≠ []

def renderItems : List HeaderItem → Bytes
  | [] => []
  | i :: r => i.render ++ renderItems r

def itemTokens : List HeaderItem → List Token
  | [] => []
  | i :: r => i.tokens ++ itemTokens r

def itemResults : List HeaderItem → List (Int × Bytes)
  | [] => []
  | i :: r => i.results ++ itemResults r

/-- The bytes of a header: leading white space / comments (the `%!PS-AdobeFont` line), then the items. -/
def writeHeader (pad : List SepItem) (items : List HeaderItem) : Bytes := renderSep pad ++ renderItems items

theorem unit_word (c : UInt8) (w : Bytes) (hc : isAlpha c = true) (hw : ∀ x ∈ w, isAlpha x = true)
    (ht : (c :: w) ≠ kwTrue) (hf : (c :: w) ≠ kwFalse) : LexUnit (c :: w) [Token.kwd (c :: w)] true := by
  have h := unit_keyword c w hc hw
  have e1 : ((c :: w) == kwTrue) = false := by simpa using ht
  have e2 : ((c :: w) == kwFalse) = false := by simpa using hf
  simpa [e1, e2] using h

theorem unit_dup : LexUnit kwDup [Token.kwd kwDup] true :=
  unit_word 100 [117, 112] (by decide) (by decide) (by decide) (by decide)

theorem unit_put : LexUnit kwPut [Token.kwd kwPut] true :=
  unit_word 112 [117, 116] (by decide) (by decide) (by decide) (by decide)

/-- After a non-empty separator the next token may start with any byte. -/
theorem tok_sep_ne {s : Bytes} {ts : List Token} (h : LexUnit s ts true) {g : List SepItem} (hg : sepOK g)
    (hne : g ≠ []) : LexUnit (s ++ renderSep g) ts false :=
  List.isEmpty_eq_false_iff.mpr hne ▸ tok_sep h g hg

theorem lex_put (p : PutSpelling) (h : p.ok) : LexUnit p.render p.tokens false := by
  obtain ⟨hs, hd, hn, h1, n1, h2, h3, n3, h4, n4⟩ := h
  have uB := tok_sep (unit_int p.sign p.digits hs hd.1 hd.2.1 hd.2.2) p.g2 h2
  have uCD := LexUnit.append_free (tok_sep_ne (unit_name p.name hn) h3 n3) (tok_sep_ne unit_put h4 n4)
  -- nothing is needed between the key and `/name`: `/` ends the number
  exact LexUnit.append_free (tok_sep_ne unit_dup h1 n1) (LexUnit.append uB uCD (fun _ d _ => by simp [isDW]))

theorem lex_item (i : HeaderItem) (h : i.ok) : LexUnit i.render i.tokens false := by
  cases i with
  | put p => exact lex_put p h
  | word c w g =>
    obtain ⟨hc, hw, ht, hf, _, hg, ng⟩ := h
    exact tok_sep_ne (unit_word c w hc hw ht hf) hg ng
  | num s d g =>
    obtain ⟨hs, hd, hg, ng⟩ := h
    exact tok_sep_ne (unit_int s d hs hd.1 hd.2.1 hd.2.2) hg ng

theorem lex_items : ∀ (items : List HeaderItem), (∀ i ∈ items, i.ok) →
    LexUnit (renderItems items) (itemTokens items) false
  | [], _ => LexUnit.nil
  | i :: r, h =>
    LexUnit.append_free (lex_item i (h i (by simp))) (lex_items r (fun j hj => h j (by simp [hj])))

theorem header_tokens (pad : List SepItem) (hpad : sepOK pad) (items : List HeaderItem)
    (h : ∀ i ∈ items, i.ok) :
    (specLex (writeHeader pad items)).map (·.2) = itemTokens items :=
  (LexUnit.append_free (LexUnit.sep pad hpad) (lex_items items h)).specLex

theorem feed_ok (st : T1State) (he : st.error = none) (tok : Token) :
    t1Feed st tok = (match tok with
      | .int v => t1Push st (.int v)
      | .real t => t1Push st (.real t)
      | .bool b => t1Push st (.bool b)
      | .str s => t1Push st (.str s)
      | .lit n => t1Push st (.lit n)
      | .err k => { st with error := some k }
      | .kwd name => t1Feed st (.kwd name)) := by
  cases tok <;> simp [t1Feed, he]

/-- A keyword that starts with a letter is none of `[ ] << >> { }`: it goes to `do_keyword`. -/
theorem feed_alpha (st : T1State) (he : st.error = none) (c : UInt8) (w : Bytes) (hc : isAlpha c = true) :
    t1Feed st (.kwd (c :: w)) = t1Keyword st (c :: w) := by
  have hb : ∀ (a : UInt8) (l : Bytes), isAlpha a = false → ((c :: w) == a :: l) = false := by
    intro a l ha
    have : c ≠ a := fun e => by rw [e, ha] at hc; cases hc
    simp [this]
  simp only [t1Feed, he, Option.isSome_none, Bool.false_eq_true, if_false, hb 91 _ (by decide), hb 93 _ (by decide),
    hb 60 _ (by decide), hb 62 _ (by decide), hb 123 _ (by decide), hb 125 _ (by decide)]

theorem feed_word (st : T1State) (he : st.error = none) (c : UInt8) (w : Bytes) (hc : isAlpha c = true)
    (hp : (c :: w) ≠ kwPut) : t1Feed st (.kwd (c :: w)) = st := by
  rw [feed_alpha st he c w hc, t1Keyword, if_neg (by simpa using hp)]

theorem feed_put_line (st : T1State) (he : st.error = none) (k : Int) (nm : Bytes) :
    [Token.kwd kwDup, Token.int k, Token.lit nm, Token.kwd kwPut].foldl t1Feed st =
      { st with results := st.results ++ [(k, nm)] } := by
  have h1 : t1Feed st (.kwd kwDup) = st := feed_word st he 100 [117, 112] (by decide) (by decide)
  have h2 : t1Feed (t1Feed st (.int k)) (.lit nm) = { st with curstack := st.curstack ++ [.int k, .lit nm] } := by
    simp [t1Feed, t1Push, he]
  have hn : (st.curstack ++ [SObj.int k, SObj.lit nm]).length - T1_PUT_ARITY = st.curstack.length := by
    simp [T1_PUT_ARITY]
  simp only [List.foldl_cons, List.foldl_nil, h1, h2]
  refine (feed_alpha _ (by exact he) 112 [117, 116] (by decide)).trans ?_
  simp only [t1Keyword, hn, List.take_left, List.drop_left]
  rw [if_pos (by decide), if_neg (by simp [T1_PUT_ARITY])]

/-- Feeding the tokens of the items: no exception, and the results grow by exactly the items' pairs
(whatever is on the operand stack, in whatever array / procedure context). -/
theorem feed_items : ∀ (items : List HeaderItem) (st : T1State), st.error = none → (∀ i ∈ items, i.ok) →
    ((itemTokens items).foldl t1Feed st).error = none ∧
    ((itemTokens items).foldl t1Feed st).results = st.results ++ itemResults items
  | [], st, he, _ => by simp [itemTokens, itemResults, he]
  | i :: r, st, he, h => by
    have hi := h i (by simp)
    have hr : ∀ j ∈ r, j.ok := fun j hj => h j (by simp [hj])
    simp only [itemTokens, itemResults, List.foldl_append]
    cases i with
    | put p =>
      have e : p.tokens = [Token.kwd kwDup, Token.int p.key, Token.lit (nameValue p.name), Token.kwd kwPut] := rfl
      simp only [HeaderItem.tokens, HeaderItem.results, e, feed_put_line st he]
      obtain ⟨a, b⟩ := feed_items r { st with results := st.results ++ [(p.key, nameValue p.name)] } he hr
      exact ⟨a, by rw [b]; simp⟩
    | word c w g =>
      obtain ⟨hc, _, _, _, hp, _, _⟩ := hi
      simp only [HeaderItem.tokens, HeaderItem.results, List.foldl_cons, List.foldl_nil,
        feed_word st he c w hc hp, List.nil_append]
      exact feed_items r st he hr
    | num s d g =>
      have e : t1Feed st (.int (intValue s d)) = t1Push st (.int (intValue s d)) := feed_ok st he _
      simp only [HeaderItem.tokens, HeaderItem.results, List.foldl_cons, List.foldl_nil, e, List.nil_append]
      exact feed_items r (t1Push st (.int (intValue s d))) he hr

theorem itemResults_puts (puts : List PutSpelling) :
    itemResults (puts.map HeaderItem.put) = puts.map (fun p => (p.key, nameValue p.name)) := by
  induction puts with
  | nil => rfl
  | cons p r ih => exact congrArg _ ih

end PdfVerif.SimpleFont
