/-
C17 — the translated code of `Gen/LabelCode.lean` equals the hand models of `Model/Labels.lean`, for every
input: the loop bodies of `format_int_roman` / `format_int_alpha`, the style dispatch of `format_page_label`
(`genFormatPageLabel_eq`) and the labels of one range (`genRangeLabels_eq`).
-/
import PdfVerif.Model.LabelsGen
import PdfVerif.Lemmas.LabelsFinite
import PdfVerif.Lemmas.Roman

namespace PdfVerif.Lemmas.LabelsGen
open PdfVerif PdfVerif.Labels PdfVerif.LabelsPy PdfVerif.Gen.LabelCode PdfVerif.Gen.LabelTables
open PdfVerif.LabelsGen PdfVerif.Lemmas.LabelsFinite

theorem pyIndex_cast {α : Type} (l : List α) (i : Nat) :
    pyIndex l (i : Int) = match l[i]? with | some x => .ok x | none => .error .index := by
  unfold pyIndex
  rw [if_neg (Int.not_lt.mpr (Int.natCast_nonneg i)), Int.toNat_natCast]
  cases l[i]? <;> rfl

theorem liftErr_pyIndex (l : List Text) (i : Nat) : liftErr (pyIndex l (i : Int)) = listGet l i := by
  rw [pyIndex_cast, listGet]
  cases l[i]? <;> rfl

theorem liftErr_ok {α : Type} (x : α) : liftErr (Except.ok x : Except PyErr α) = .ok x := rfl

theorem liftErr_bind {α β : Type} (x : Except PyErr α) (f : α → Except PyErr β) :
    liftErr (x.bind f) = (liftErr x).bind (fun a => liftErr (f a)) := by
  cases x with
  | ok a => rfl
  | error e => cases e; rfl

theorem pyRepeat_eq (s : Text) (z : Int) : pyRepeat s z = rep s z.toNat :=
  (PdfVerif.Lemmas.Roman.rep_eq_replicate s _).symm

theorem pyInsert_zero {α : Type} (l : List α) (x : α) : pyInsert l 0 x = x :: l := by
  simp [pyInsert]

theorem fdiv_nat (n k : Nat) : pyDiv (n : Int) (k : Int) = ((n / k : Nat) : Int) := by
  unfold pyDiv
  rw [Int.fdiv_eq_ediv_of_nonneg _ (Int.natCast_nonneg k)]
  rfl

theorem fmod_nat (n k : Nat) : pyMod (n : Int) (k : Int) = ((n % k : Nat) : Int) := by
  unfold pyMod
  rw [Int.fmod_eq_emod_of_nonneg _ (Int.natCast_nonneg k)]
  rfl

/-- `liftErr` is pushed through the binds, which leaves the same program over `listGet` on both sides. -/
theorem roman_body_eq (n i : Nat) (r : List Text) :
    liftErr (format_int_roman_body (n : Int) (i : Int) r) =
      (romanStep i (n % 10) r).map (fun r' => (((n / 10 : Nat) : Int), (i : Int) + 1, r')) := by
  have hd : pyDiv (n : Int) 10 = ((n / 10 : Nat) : Int) := fdiv_nat n 10
  have hm : pyMod (n : Int) 10 = ((n % 10 : Nat) : Int) := fmod_nat n 10
  have hi : (i : Int) + 1 = ((i + 1 : Nat) : Int) := rfl
  have c9 : (((n % 10 : Nat) : Int) = 9) = (n % 10 = 9) := propext Int.natCast_inj
  have c4 : (((n % 10 : Nat) : Int) = 4) = (n % 10 = 4) := propext Int.natCast_inj
  have c5 : (((n % 10 : Nat) : Int) ≥ 5) = (n % 10 ≥ 5) := propext Int.ofNat_le
  have s5 : (((n % 10 : Nat) : Int) - 5).toNat = n % 10 - 5 := Int.toNat_sub _ 5
  unfold format_int_roman_body
  simp only [hd, hm, hi, c9, c4, c5, s5, pyInsert_zero, pyRepeat_eq, decide_eq_true_eq, Int.toNat_natCast,
    apply_ite liftErr, liftErr_bind, liftErr_pyIndex, liftErr_ok]
  fun_cases romanStep i (n % 10) r
  case case1 h9 =>
    rw [if_pos h9]
    cases listGet ROMAN_ONES i <;> cases listGet ROMAN_ONES (i + 1) <;> rfl
  case case2 h9 h4 =>
    rw [if_neg h9, if_pos h4]
    cases listGet ROMAN_ONES i <;> cases listGet ROMAN_FIVES i <;> rfl
  case case3 h9 h4 h5 =>
    simp only [if_neg h9, if_neg h4, if_pos h5]
    cases listGet ROMAN_ONES i <;> cases listGet ROMAN_FIVES i <;> rfl
  case case4 h9 h4 h5 =>
    simp only [if_neg h9, if_neg h4, if_neg h5]
    cases listGet ROMAN_ONES i <;> rfl

theorem roman_cond_nat (n : Nat) : (format_int_roman_cond (n : Int) = true) = ¬ n = 0 := by
  simp [format_int_roman_cond]

theorem romanWhile_eq : ∀ (f n i : Nat) (r : List Text),
    romanWhile f (n : Int) (i : Int) r = romanLoop f n i r
  | 0, n, i, r => by simp only [romanWhile, romanLoop, roman_cond_nat, ite_not]
  | f + 1, n, i, r => by
    simp only [romanWhile, romanLoop, roman_cond_nat, ite_not, roman_body_eq]
    cases romanStep i (n % 10) r with
    | error e => rfl
    | ok r' => exact congrArg (ite _ _) (romanWhile_eq f (n / 10) (i + 1) r')

theorem roman_init_eq (n : Nat) :
    format_int_roman_init (n : Int) = .ok (((n / 1000 : Nat) : Int), ((n % 1000 : Nat) : Int), 0, []) := by
  have h1 : pyDiv (n : Int) 1000 = ((n / 1000 : Nat) : Int) := fdiv_nat n 1000
  have h2 : pyMod (n : Int) 1000 = ((n % 1000 : Nat) : Int) := fmod_nat n 1000
  rw [format_int_roman_init, h1, h2]

theorem roman_post_eq (k : Nat) (r : List Text) :
    liftErr (format_int_roman_post (k : Int) r) =
      (listGet ROMAN_ONES 3).bind (fun m => .ok ((rep m k :: r).flatten)) := by
  have h3 : pyIndex ROMAN_ONES 3 = pyIndex ROMAN_ONES ((3 : Nat) : Int) := rfl
  simp only [format_int_roman_post, h3, liftErr_bind, liftErr_pyIndex, liftErr_ok, pyRepeat_eq, pyInsert_zero,
    Int.toNat_natCast]

theorem genFormatIntRoman_eq (v : Int) : genFormatIntRoman v = formatIntRoman v := by
  have hpre : (format_int_roman_pre v = true) = (0 < v ∧ v < ROMAN_MAX) := by simp [format_int_roman_pre]
  simp only [genFormatIntRoman, formatIntRoman, hpre]
  by_cases h : 0 < v ∧ v < ROMAN_MAX
  · obtain ⟨n, rfl⟩ := Int.eq_ofNat_of_zero_le (Int.le_of_lt h.1)
    rw [if_pos h, if_pos h, roman_init_eq, liftErr_ok, Int.toNat_natCast]
    have hw := romanWhile_eq 3 (n % 1000) 0 []
    simp only [Int.natCast_zero] at hw
    simp only [hw, roman_post_eq]
    cases romanLoop 3 (n % 1000) 0 [] <;> rfl
  · rw [if_neg h, if_neg h]

theorem pyStrIndex_letters (m : Nat) (h : m < 26) : pyStrIndex ascii_lowercase (m : Int) = .ok [97 + m] := by
  have table : ∀ m : Nat, m < 26 → ascii_lowercase[m]? = some (97 + m) := by decide
  rw [pyStrIndex, pyIndex_cast, table m h]

theorem alpha_body_eq (n : Nat) (h : 0 < n) (r : List Text) :
    liftErr (format_int_alpha_body (n : Int) r) =
      .ok ((((n - 1) / 26 : Nat) : Int), r ++ [[97 + (n - 1) % 26]]) := by
  have h1 : ((n : Int) - 1) = ((n - 1 : Nat) : Int) := (Int.natCast_sub h).symm
  unfold format_int_alpha_body
  have hlen : (ascii_lowercase.length : Int) = ((26 : Nat) : Int) := by decide
  simp only [hlen, h1, fdiv_nat, fmod_nat]
  rw [pyStrIndex_letters _ (Nat.mod_lt _ (by decide))]
  rfl

/-- `result.reverse(); "".join(result)` -/
def alphaPost (r : List Text) : Text := r.reverse.flatten

theorem alpha_post_eq (r : List Text) : format_int_alpha_post r = .ok (alphaPost r) := rfl

theorem alphaWhile_eq : ∀ (f n : Nat) (r : List Text),
    ∃ r', alphaWhile f (n : Int) r = .ok r' ∧ alphaPost r' = alphaLoop f n (alphaPost r)
  | 0, n, r => ⟨r, rfl, rfl⟩
  | f + 1, n, r => by
    have hc : (format_int_alpha_cond (n : Int) = true) = ¬ n = 0 := by simp [format_int_alpha_cond]
    simp only [alphaWhile, alphaLoop, hc, ite_not]
    by_cases h : n = 0
    · exact ⟨r, by rw [if_pos h], by rw [if_pos h]⟩
    · obtain ⟨r', hw, hp⟩ := alphaWhile_eq f ((n - 1) / 26) (r ++ [[97 + (n - 1) % 26]])
      rw [if_neg h, if_neg h, alpha_body_eq n (Nat.pos_of_ne_zero h) r]
      exact ⟨r', hw, hp.trans (by simp [alphaPost])⟩

theorem genFormatIntAlpha_eq (v : Int) : genFormatIntAlpha v = formatIntAlpha v := by
  have hpre : (format_int_alpha_pre v = true) = (0 < v) := by simp [format_int_alpha_pre]
  simp only [genFormatIntAlpha, formatIntAlpha, hpre]
  by_cases h : 0 < v
  · obtain ⟨n, rfl⟩ := Int.eq_ofNat_of_zero_le (Int.le_of_lt h)
    obtain ⟨r', hw, hp⟩ := alphaWhile_eq n n []
    rw [if_pos h, if_pos h, Int.toNat_natCast]
    simp only [format_int_alpha_init, liftErr, Int.toNat_natCast, hw, alpha_post_eq, hp]
    rfl
  · rw [if_neg h, if_neg h]

theorem map_ite_false {ε α : Type} (g : α → α) (x : Except ε α) :
    x.map (fun t => if false = true then g t else t) = x := by cases x <;> rfl

/-- For each of the five known styles both sides compute to the same call; for any other style the
chain has no entry. -/
theorem genFormatPageLabel_eq (v : Int) (style : Option Bytes) :
    genFormatPageLabel v style = formatPageLabel v style := by
  fun_cases formatPageLabel v style
  case case1 => rfl
  case case2 => rfl
  case case3 => exact congrArg (Except.map upper) (genFormatIntRoman_eq v)
  case case4 => exact (map_ite_false upper _).trans (genFormatIntRoman_eq v)
  case case5 => exact congrArg (Except.map upper) (genFormatIntAlpha_eq v)
  case case6 => exact (map_ite_false upper _).trans (genFormatIntAlpha_eq v)
  case case7 s hD hR hr hA ha =>
    have e : ∀ {b : Bytes}, s ≠ b → (s == b) = false := fun h => beq_eq_false_iff_ne.mpr h
    simp only [genFormatPageLabel, format_page_label_chain, List.find?, e (b := [68]) hD, e (b := [82]) hR,
      e (b := [114]) hr, e (b := [65]) hA, e (b := [97]) ha, format_page_label_else]

theorem genRangeLabels_eq (d : LabelDict) (s e : Int) :
    genRangeLabels d s e = rangeLabels d (e - s).toNat := by
  unfold genRangeLabels rangeLabels labels_values labels_range_length pyRange
  have h : d.st.getD labels_default_St + (e - s) - d.st.getD labels_default_St = e - s := by omega
  simp only [h, List.map_map]
  apply List.map_congr_left
  intro j _
  simp only [Function.comp, labelOf, firstValue, genFormatPageLabel_eq]
  rfl

end PdfVerif.Lemmas.LabelsGen
