/- C11: a sink fed piece by piece through one incremental encoder, and the escaping layer of `XMLConverter`. -/
import PdfVerif.Spec.Xml

namespace PdfVerif.Convert

variable {σ : Type}

theorem encodePiece_append (c : Codec σ) (ig : Bool) (st : σ) (a b : Str) :
    c.encodePiece ig st (a ++ b) =
      match c.encodePiece ig st a with
      | some (st', x) =>
        match c.encodePiece ig st' b with
        | some (st'', y) => some (st'', x ++ y)
        | none => none
      | none => none := by
  induction a generalizing st with
  | nil =>
    simp only [List.nil_append, Codec.encodePiece]
    rcases c.encodePiece ig st b with _ | ⟨st1, y⟩ <;> rfl
  | cons ch rest ih =>
    simp only [List.cons_append, Codec.encodePiece, ih]
    rcases c.step st ch with _ | ⟨st1, x1⟩
    · cases ig <;> rfl
    dsimp only
    rcases c.encodePiece ig st1 rest with _ | ⟨st2, x2⟩
    · rfl
    dsimp only
    rcases c.encodePiece ig st2 b with _ | ⟨st3, y⟩
    · rfl
    · simp only [List.append_assoc]

theorem sinkBinaryFrom_eq (c : Codec σ) (ig : Bool) (st : σ) (ws : List Str) :
    sinkBinaryFrom c ig st ws = (c.encodePiece ig st ws.flatten).map (·.2) := by
  induction ws generalizing st with
  | nil => rfl
  | cons w ws ih =>
    simp only [sinkBinaryFrom, List.flatten_cons, encodePiece_append, ih]
    rcases c.encodePiece ig st w with _ | ⟨st1, bs1⟩
    · rfl
    dsimp only
    rcases c.encodePiece ig st1 ws.flatten with _ | ⟨st2, bs2⟩ <;> rfl

theorem encodePiece_ignore (c : Codec σ) (st : σ) (s : Str) (r : σ × Bytes)
    (h : c.encodePiece false st s = some r) : c.encodePiece true st s = some r := by
  fun_induction Codec.encodePiece c false st s generalizing r with
  | case1 => exact h
  | case2 st ch rest st1 bs1 hs st2 bs2 h2 ih => simp only [Codec.encodePiece, hs, ih _ h2]; exact h
  | case3 | case5 => cases h
  | case4 _ _ _ _ hf => cases hf

theorem sinkText_flatMap {α : Type} {f : α → List Str} {g : α → Str} (h : ∀ a, (f a).flatten = g a)
    (as : List α) : sinkText (as.flatMap f) = as.flatMap g := by
  induction as with
  | nil => rfl
  | cons a as ih => rw [List.flatMap_cons, List.flatMap_cons, ← h a, ← ih, sinkText, sinkText, List.flatten_append]

theorem readBack_flatMap {β : Type} (g : List β → Option Str) (hg : g [] = some []) (f : Char → List β) (s : Str)
    (h : ∀ c ∈ s, ∀ rest, g (f c ++ rest) = (g rest).map (c :: ·)) : g (s.flatMap f) = some s := by
  induction s with
  | nil => exact hg
  | cons c s ih =>
    obtain ⟨hc, hs⟩ := List.forall_mem_cons.mp h
    rw [List.flatMap_cons, hc, ih hs]; rfl

end PdfVerif.Convert

/-! ### escaping

Every source character is written either as itself, when it is harmless where it stands, or as a reference
`&e;` that a reader decodes to it (`encChar_cases`, `attrChar_cases`, `textChar_cases`).  Both what the
output cannot contain and that it reads back as the source follow from this. -/

namespace PdfVerif.Xml
open PdfVerif.Convert

/-- What `attr` / `writeText` make of one source character.  The code applies `enc` and then the `.replace`
calls to the whole string; character by character is how the proofs read the output back (`attr_eq`,
`writeText_eq`). -/
def attrChar (c : Char) : Str := (encChar c).flatMap wspRef
def textChar (c : Char) : Str := (encChar c).flatMap crRef

theorem attr_eq (strip : Bool) (s : Str) : attr strip s = (maybeStrip strip s).flatMap attrChar :=
  List.flatMap_assoc ..

theorem writeText_eq (strip : Bool) (s : Str) : writeText strip s = (maybeStrip strip s).flatMap textChar :=
  List.flatMap_assoc ..

def IsRef (w : Str) (c : Char) : Prop :=
  ∃ e, w = '&' :: (e ++ [';']) ∧ (∀ d ∈ e, (d.isAlphanum || d = '#') = true) ∧ decodeEntity e = some c

theorem IsRef.safe {w : Str} {c : Char} (h : IsRef w c) :
    ∀ d ∈ w, d ≠ '<' ∧ d ≠ '>' ∧ d ≠ '"' ∧ d ≠ '\'' ∧ d ≠ '\t' ∧ d ≠ '\n' ∧ d ≠ '\r' := by
  obtain ⟨e, rfl, he, -⟩ := h
  have body : ∀ x : Char, (x.isAlphanum || x = '#') = true →
      x ≠ '<' ∧ x ≠ '>' ∧ x ≠ '"' ∧ x ≠ '\'' ∧ x ≠ '\t' ∧ x ≠ '\n' ∧ x ≠ '\r' := by
    intro x hx
    refine ⟨?_, ?_, ?_, ?_, ?_, ?_, ?_⟩ <;> (rintro rfl; exact absurd hx (by decide))
  intro d hd
  rcases List.mem_cons.mp hd with rfl | hd
  · decide
  rcases List.mem_append.mp hd with hd | hd
  · exact body d (he d hd)
  · obtain rfl := List.mem_singleton.mp hd; decide

theorem encChar_cases (c : Char) :
    (encChar c = [c] ∧ c ≠ '&' ∧ c ≠ '<' ∧ c ≠ '>' ∧ c ≠ '"' ∧ c ≠ '\'') ∨ IsRef (encChar c) c := by
  fun_cases encChar c with
  | case1 h => subst h; exact .inr ⟨['a', 'm', 'p'], rfl, by decide +kernel, rfl⟩
  | case2 _ h => subst h; exact .inr ⟨['l', 't'], rfl, by decide +kernel, rfl⟩
  | case3 _ _ h => subst h; exact .inr ⟨['g', 't'], rfl, by decide +kernel, rfl⟩
  | case4 _ _ _ h => subst h; exact .inr ⟨['q', 'u', 'o', 't'], rfl, by decide +kernel, rfl⟩
  | case5 _ _ _ _ h => subst h; exact .inr ⟨['#', 'x', '2', '7'], rfl, by decide +kernel, rfl⟩
  | case6 h1 h2 h3 h4 h5 => exact .inl ⟨rfl, h1, h2, h3, h4, h5⟩

theorem flatMap_eq_self {f : Char → Str} {w : Str} (h : ∀ d ∈ w, f d = [d]) : w.flatMap f = w := by
  induction w with
  | nil => rfl
  | cons d w ih =>
    obtain ⟨hd, hw⟩ := List.forall_mem_cons.mp h
    rw [List.flatMap_cons, hd, ih hw]; rfl

theorem attrChar_cases (c : Char) :
    (attrChar c = [c] ∧ c ≠ '&' ∧ c ≠ '<' ∧ c ≠ '"' ∧ c ≠ '\t' ∧ c ≠ '\n' ∧ c ≠ '\r') ∨ IsRef (attrChar c) c := by
  rcases encChar_cases c with ⟨h, h1, h2, -, h4, -⟩ | h
  · rw [attrChar, h, List.flatMap_singleton]
    fun_cases wspRef c with
    | case1 h6 => subst h6; exact .inr ⟨['#', '9'], rfl, by decide +kernel, rfl⟩
    | case2 _ h7 => subst h7; exact .inr ⟨['#', '1', '0'], rfl, by decide +kernel, rfl⟩
    | case3 _ _ h8 => subst h8; exact .inr ⟨['#', '1', '3'], rfl, by decide +kernel, rfl⟩
    | case4 h6 h7 h8 => exact .inl ⟨rfl, h1, h2, h4, h6, h7, h8⟩
  · have : attrChar c = encChar c := flatMap_eq_self fun d hd => by
      obtain ⟨-, -, -, -, h6, h7, h8⟩ := h.safe d hd
      simp only [wspRef, if_neg h6, if_neg h7, if_neg h8]
    exact .inr (this ▸ h)

theorem textChar_cases (c : Char) :
    (textChar c = [c] ∧ c ≠ '&' ∧ c ≠ '<' ∧ c ≠ '\r') ∨ IsRef (textChar c) c := by
  rcases encChar_cases c with ⟨h, h1, h2, -⟩ | h
  · rw [textChar, h, List.flatMap_singleton]
    fun_cases crRef c with
    | case1 h8 => subst h8; exact .inr ⟨['#', '1', '3'], rfl, by decide +kernel, rfl⟩
    | case2 h8 => exact .inl ⟨rfl, h1, h2, h8⟩
  · have : textChar c = encChar c := flatMap_eq_self fun d hd => by
      simp only [crRef, if_neg (h.safe d hd).2.2.2.2.2.2]
    exact .inr (this ▸ h)

theorem enc_safe (s : Str) (c : Char) (h : c ∈ enc s) : c ≠ '<' ∧ c ≠ '>' ∧ c ≠ '"' ∧ c ≠ '\'' := by
  obtain ⟨a, -, hc⟩ := List.mem_flatMap.mp h
  rcases encChar_cases a with ⟨e, -, h2, h3, h4, h5⟩ | hr
  · obtain rfl := List.mem_singleton.mp (e ▸ hc); exact ⟨h2, h3, h4, h5⟩
  · have := hr.safe c hc; exact ⟨this.1, this.2.1, this.2.2.1, this.2.2.2.1⟩

theorem attr_safe (strip : Bool) (s : Str) (c : Char) (h : c ∈ attr strip s) :
    c ≠ '<' ∧ c ≠ '"' ∧ c ≠ '\t' ∧ c ≠ '\n' ∧ c ≠ '\r' := by
  obtain ⟨a, -, hc⟩ := List.mem_flatMap.mp (attr_eq strip s ▸ h)
  rcases attrChar_cases a with ⟨e, -, h2, h4, h6, h7, h8⟩ | hr
  · obtain rfl := List.mem_singleton.mp (e ▸ hc); exact ⟨h2, h4, h6, h7, h8⟩
  · have := hr.safe c hc; exact ⟨this.1, this.2.2.1, this.2.2.2.2⟩

theorem writeText_safe (strip : Bool) (s : Str) (c : Char) (h : c ∈ writeText strip s) : c ≠ '<' ∧ c ≠ '\r' := by
  obtain ⟨a, -, hc⟩ := List.mem_flatMap.mp (writeText_eq strip s ▸ h)
  rcases textChar_cases a with ⟨e, -, h2, h8⟩ | hr
  · obtain rfl := List.mem_singleton.mp (e ▸ hc); exact ⟨h2, h8⟩
  · have := hr.safe c hc; exact ⟨this.1, this.2.2.2.2.2.2⟩

/-- A reader that after `&` collects characters up to `;` and decodes what it collected (both `unescGo` and
`unescAnyGo` do) reads a reference as the character it stands for. -/
theorem read_ref {R : Option Str → Str → Option Str} (amp : ∀ cs, R none ('&' :: cs) = R (some []) cs)
    (body : ∀ acc d cs, R (some acc) (d :: cs) =
      if d = ';' then (decodeEntity acc).bind fun ch => (R none cs).map (ch :: ·) else R (some (acc ++ [d])) cs)
    {w : Str} {c : Char} (h : IsRef w c) (rest : Str) : R none (w ++ rest) = (R none rest).map (c :: ·) := by
  obtain ⟨e, rfl, he, hd⟩ := h
  have collect : ∀ acc, R (some acc) (e ++ ';' :: rest) =
      (decodeEntity (acc ++ e)).bind fun ch => (R none rest).map (ch :: ·) := by
    clear hd
    induction e with
    | nil => intro acc; rw [List.nil_append, List.append_nil, body, if_pos rfl]
    | cons d e ih =>
      intro acc
      obtain ⟨hd, he⟩ := List.forall_mem_cons.mp he
      have hne : d ≠ ';' := by rintro rfl; exact absurd hd (by decide)
      rw [List.cons_append, body, if_neg hne, ih he, List.append_assoc]; rfl
  rw [List.cons_append, List.append_assoc, List.singleton_append, amp, collect, List.nil_append, hd]; rfl

theorem unescGo_ref (a : Bool) {w : Str} {c : Char} (h : IsRef w c) (rest : Str) :
    unescGo a none (w ++ rest) = (unescGo a none rest).map (c :: ·) :=
  read_ref (fun _ => by rw [unescGo, if_pos rfl]) (fun _ _ _ => by rw [unescGo]) h rest

theorem unescAnyGo_ref {w : Str} {c : Char} (h : IsRef w c) (rest : Str) :
    unescAnyGo none (w ++ rest) = (unescAnyGo none rest).map (c :: ·) :=
  read_ref (fun _ => by rw [unescAnyGo, if_pos rfl]) (fun _ _ _ => by rw [unescAnyGo]) h rest

theorem unescGo_lit (a : Bool) {c : Char} (hx : isXmlChar c = true) (h1 : c ≠ '&') (h2 : c ≠ '<') (rest : Str) :
    unescGo a none (c :: rest) = (unescGo a none rest).map (normLiteral a c :: ·) := by
  rw [unescGo, if_neg h1, if_neg (by simp [h2, hx])]

theorem unesc_attrChar (c : Char) (hc : isXmlChar c = true) (rest : Str) :
    unescGo true none (attrChar c ++ rest) = (unescGo true none rest).map (c :: ·) := by
  rcases attrChar_cases c with ⟨h, h1, h2, -, h6, h7, h8⟩ | h
  · rw [h, List.singleton_append, unescGo_lit true hc h1 h2]; simp [normLiteral, h6, h7, h8]
  · exact unescGo_ref true h rest

theorem unesc_textChar (c : Char) (hc : isXmlChar c = true) (rest : Str) :
    unescGo false none (textChar c ++ rest) = (unescGo false none rest).map (c :: ·) := by
  rcases textChar_cases c with ⟨h, h1, h2, h8⟩ | h
  · rw [h, List.singleton_append, unescGo_lit false hc h1 h2]; simp [normLiteral, h8]
  · exact unescGo_ref false h rest

theorem unesc_encChar (c : Char) (hc : isXmlChar c = true) (h8 : c ≠ '\r') (rest : Str) :
    unescGo false none (encChar c ++ rest) = (unescGo false none rest).map (c :: ·) := by
  rcases encChar_cases c with ⟨h, h1, h2, -⟩ | h
  · rw [h, List.singleton_append, unescGo_lit false hc h1 h2]; simp [normLiteral, h8]
  · exact unescGo_ref false h rest

/-! the escaping layer alone is invertible on EVERY string (no `isXmlChar` hypothesis) -/

theorem unescAny_attrChar (c : Char) (rest : Str) :
    unescAnyGo none (attrChar c ++ rest) = (unescAnyGo none rest).map (c :: ·) := by
  rcases attrChar_cases c with ⟨h, h1, -⟩ | h
  · rw [h, List.singleton_append, unescAnyGo, if_neg h1]
  · exact unescAnyGo_ref h rest

theorem unescAny_textChar (c : Char) (rest : Str) :
    unescAnyGo none (textChar c ++ rest) = (unescAnyGo none rest).map (c :: ·) := by
  rcases textChar_cases c with ⟨h, h1, -⟩ | h
  · rw [h, List.singleton_append, unescAnyGo, if_neg h1]
  · exact unescAnyGo_ref h rest

theorem unescAny_encChar (c : Char) (rest : Str) :
    unescAnyGo none (encChar c ++ rest) = (unescAnyGo none rest).map (c :: ·) := by
  rcases encChar_cases c with ⟨h, h1, -⟩ | h
  · rw [h, List.singleton_append, unescAnyGo, if_neg h1]
  · exact unescAnyGo_ref h rest

theorem unescape_attr (strip : Bool) (s : Str) (hs : ∀ c ∈ maybeStrip strip s, isXmlChar c = true) :
    unescape true (attr strip s) = some (maybeStrip strip s) :=
  attr_eq strip s ▸ readBack_flatMap (unescGo true none) rfl attrChar _ fun c hc => unesc_attrChar c (hs c hc)

theorem unescape_writeText (strip : Bool) (s : Str) (hs : ∀ c ∈ maybeStrip strip s, isXmlChar c = true) :
    unescape false (writeText strip s) = some (maybeStrip strip s) :=
  writeText_eq strip s ▸ readBack_flatMap (unescGo false none) rfl textChar _ fun c hc => unesc_textChar c (hs c hc)

/-- characters that need no escaping in either position and are not touched by normalisation -/
def plainChar (c : Char) : Bool :=
  isXmlChar c && c != '&' && c != '<' && c != '"' && c != '\t' && c != '\n' && c != '\r'

theorem plainChar_iff {c : Char} : plainChar c = true ↔
    isXmlChar c = true ∧ c ≠ '&' ∧ c ≠ '<' ∧ c ≠ '"' ∧ c ≠ '\t' ∧ c ≠ '\n' ∧ c ≠ '\r' := by
  simp only [plainChar, Bool.and_eq_true, bne_iff_ne, ne_eq, and_assoc]

theorem unescGo_literal (a : Bool) (s : Str)
    (h : ∀ c ∈ s, isXmlChar c = true ∧ c ≠ '&' ∧ c ≠ '<' ∧ normLiteral a c = c) : unescGo a none s = some s := by
  induction s with
  | nil => rfl
  | cons c s ih =>
    obtain ⟨⟨hx, h1, h2, hn⟩, hs⟩ := List.forall_mem_cons.mp h
    rw [unescGo_lit a hx h1 h2, ih hs, hn]; rfl

theorem unesc_plain (a : Bool) (s : Str) (hs : ∀ c ∈ s, plainChar c = true) : unescGo a none s = some s := by
  refine unescGo_literal a s fun c hc => ?_
  obtain ⟨hx, h1, h2, -, h6, h7, h8⟩ := plainChar_iff.mp (hs c hc)
  exact ⟨hx, h1, h2, by cases a <;> simp [normLiteral, h6, h7, h8]⟩

end PdfVerif.Xml
