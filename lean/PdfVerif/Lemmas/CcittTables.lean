/-
C19: pdfminer's code tables and the tries `BitParser.add` builds from them.  That a trie stores its table
(`Trie.Stores`) is evaluated per table; what follows from it is proved for any trie and table.  The tables
are then compared with the specification's (`white_eq`, `black_eq`, `mode_is_T6`): this is where the trie
lookups of the specification's code words come from (`runCode_follow`, `modeSpec_follow`).
-/
import PdfVerif.Model.Ccitt
import PdfVerif.Spec.T6

namespace PdfVerif.Ccitt
open PdfVerif.Gen PdfVerif.Spec

def Trie.follow : Trie → List Bool → Option Trie
  | t, [] => some t
  | .node l r, b :: bs => Trie.follow (if b then r else l) bs
  | _, _ :: _ => none

theorem Trie.follow_cons {t t' : Trie} {b : Bool} {bs : List Bool} (h : t.follow (b :: bs) = some t') :
    ∃ l r, t = .node l r ∧ Trie.follow (if b then r else l) bs = some t' := by
  cases t with
  | node l r => exact ⟨l, r, rfl, h⟩
  | empty => cases h
  | leaf s => cases h

def Trie.leaves : Trie → List (Sym × List Bool)
  | .empty => []
  | .leaf s => [(s, [])]
  | .node l r => (Trie.leaves l).map (fun e => (e.1, false :: e.2)) ++ (Trie.leaves r).map (fun e => (e.1, true :: e.2))

theorem Trie.mem_leaves_of_follow {v : Sym} {code : List Bool} {t : Trie}
    (h : t.follow code = some (.leaf v)) : (v, code) ∈ t.leaves := by
  induction code generalizing t with
  | nil => cases h; exact List.mem_singleton.mpr rfl
  | cons b bs ih =>
    obtain ⟨l, r, rfl, h⟩ := Trie.follow_cons h
    cases b
    · exact List.mem_append_left _ (List.mem_map.mpr ⟨_, ih h, rfl⟩)
    · exact List.mem_append_right _ (List.mem_map.mpr ⟨_, ih h, rfl⟩)

def Trie.size : Trie → Nat
  | .empty => 0
  | .leaf _ => 1
  | .node l r => l.size + r.size

theorem Trie.length_leaves (t : Trie) : t.leaves.length = t.size := by
  induction t with
  | empty => rfl
  | leaf s => rfl
  | node l r ihl ihr => simp only [Trie.leaves, Trie.size, List.length_append, List.length_map, ihl, ihr]

def isPrefix : List Bool → List Bool → Bool
  | [], _ => true
  | _ :: _, [] => false
  | a :: as, b :: bs => a == b && isPrefix as bs

theorem Trie.follow_prefix {v w : Sym} {c d : List Bool} {t : Trie} (hc : t.follow c = some (.leaf v))
    (hd : t.follow d = some (.leaf w)) (hp : isPrefix c d = true) : c = d := by
  induction c generalizing d t with
  | nil =>
    cases hc
    cases d with
    | nil => rfl
    | cons _ _ => cases hd
  | cons a as ih =>
    cases d with
    | nil => cases hp
    | cons b bs =>
      simp only [isPrefix, Bool.and_eq_true, beq_iff_eq] at hp
      obtain ⟨rfl, hp⟩ := hp
      obtain ⟨l, r, rfl, hc⟩ := Trie.follow_cons hc
      rw [ih hc hd hp]

def prefixFree : List (List Bool) → Bool
  | [] => true
  | c :: cs => cs.all (fun d => !isPrefix c d && !isPrefix d c) && prefixFree cs

theorem prefixFree_iff (l : List (List Bool)) :
    prefixFree l = true ↔ l.Pairwise fun c d => isPrefix c d = false ∧ isPrefix d c = false := by
  induction l with
  | nil => simp [prefixFree]
  | cons c cs ih => simp [prefixFree, List.all_eq_true, ih]

def sameEntries (a b : List (Sym × List Bool)) : Bool :=
  a.all (fun e => b.contains e) && b.all (fun e => a.contains e)

theorem subset_of_nodup_of_length_le {α : Type} [DecidableEq α] {l₁ l₂ : List α}
    (hd : l₁.Nodup) (hsub : l₁ ⊆ l₂) (hlen : l₂.length ≤ l₁.length) : l₂ ⊆ l₁ := by
  intro x hx
  by_cases hx' : x ∈ l₁
  · exact hx'
  · have := (List.nodup_cons.mpr ⟨hx', hd⟩).length_le_of_subset (List.cons_subset.mpr ⟨hx, hsub⟩)
    rw [List.length_cons] at this
    omega

def Trie.isNode : Trie → Bool
  | .node _ _ => true
  | _ => false

def modeTbl : List (Sym × List Bool) := CcittTables.MODE.map fun e => (Sym.mode e.1, e.2)
def whiteTbl : List (Sym × List Bool) := CcittTables.WHITE.map fun e => (Sym.run e.1, e.2)
def blackTbl : List (Sym × List Bool) := CcittTables.BLACK.map fun e => (Sym.run e.1, e.2)
def uncTbl : List (Sym × List Bool) := CcittTables.UNCOMPRESSED.map fun e => (Sym.unc e.1, e.2)

theorem map_map_snd {α β : Type} (f : α → β) (l : List (α × List Bool)) :
    (l.map fun e => (f e.1, e.2)).map (·.2) = l.map (·.2) := by
  rw [List.map_map]; rfl

/-- `t` is what `BitParser.add` builds from the table `tbl`; `count` says that `t` has no leaves besides
those of `follow`. -/
structure Trie.Stores (t : Trie) (tbl : List (Sym × List Bool)) : Prop where
  built : buildTrie tbl = some t
  root : t.isNode = true
  distinct : (tbl.map (·.1)).Nodup
  follow : ∀ e ∈ tbl, t.follow e.2 = some (.leaf e.1)
  count : t.size = tbl.length

/-- Everything but `distinct` is decidable by evaluation; one conjunction, so that `t` is evaluated once
for all four parts. -/
theorem Trie.Stores.of_eval {t : Trie} {tbl : List (Sym × List Bool)} (hd : (tbl.map (·.1)).Nodup)
    (h : buildTrie tbl = some t ∧ t.isNode = true ∧ (∀ e ∈ tbl, t.follow e.2 = some (.leaf e.1)) ∧
      t.size = tbl.length) : t.Stores tbl :=
  ⟨h.1, h.2.1, hd, h.2.2.1, h.2.2.2⟩

theorem Trie.Stores.code_ne_nil {t : Trie} {tbl : List (Sym × List Bool)} (h : t.Stores tbl)
    {e : Sym × List Bool} (he : e ∈ tbl) : e.2 ≠ [] := by
  intro h0
  have hf := h.follow e he
  rw [h0] at hf
  cases hf
  exact absurd h.root (by simp [Trie.isNode])

theorem Trie.Stores.codes_prefixFree {t : Trie} {tbl : List (Sym × List Bool)} (h : t.Stores tbl) :
    prefixFree (tbl.map (·.2)) = true := by
  have key : ∀ {a b : Sym × List Bool}, a ∈ tbl → b ∈ tbl → a.1 ≠ b.1 → isPrefix a.2 b.2 = false := by
    intro a b ha hb hab
    cases hp : isPrefix a.2 b.2 with
    | false => rfl
    | true =>
      have hfa := h.follow a ha
      rw [Trie.follow_prefix hfa (h.follow b hb) hp, h.follow b hb] at hfa
      exact absurd (Trie.leaf.inj (Option.some.inj hfa)).symm hab
  rw [prefixFree_iff, List.pairwise_map]
  exact (List.pairwise_map.mp h.distinct).imp_of_mem fun he he' hne => ⟨key he he' hne, key he' he (Ne.symm hne)⟩

theorem Trie.Stores.leaves_subset {t : Trie} {tbl : List (Sym × List Bool)} (h : t.Stores tbl) :
    t.leaves ⊆ tbl :=
  subset_of_nodup_of_length_le (List.Pairwise.of_map (·.1) (fun _ _ hab he => hab (he ▸ rfl)) h.distinct)
    (fun e he => Trie.mem_leaves_of_follow (h.follow e he)) (Nat.le_of_eq (t.length_leaves.trans h.count))

theorem Trie.Stores.leaves_same {t : Trie} {tbl : List (Sym × List Bool)} (h : t.Stores tbl) :
    sameEntries t.leaves tbl = true := by
  simp only [sameEntries, Bool.and_eq_true, List.all_eq_true, List.contains_iff_mem]
  exact ⟨h.leaves_subset, fun e he => Trie.mem_leaves_of_follow (h.follow e he)⟩

/-- The run lengths that own a code word: 0..63 (terminating), then 64, 128, …, 2560 (make-up). -/
def runKeys : List Nat := List.range 64 ++ (List.range 40).map (fun i => 64 * (i + 1))

theorem runKeys_nodup : runKeys.Nodup :=
  List.nodup_append.mpr ⟨List.nodup_range, List.nodup_range.map _ (fun a b hab h => hab (by omega)),
    fun a ha b hb => by simp only [List.mem_range, List.mem_map] at ha hb; omega⟩

theorem mem_runKeys {n : Nat} : n ∈ runKeys ↔ n < 64 ∨ (64 ≤ n ∧ n ≤ 2560 ∧ n % 64 = 0) := by
  simp only [runKeys, List.mem_append, List.mem_range, List.mem_map]
  constructor
  · rintro (h | ⟨i, hi, rfl⟩) <;> omega
  · rintro (h | h)
    · exact Or.inl h
    · exact Or.inr ⟨n / 64 - 1, by omega, by omega⟩

/-- `sameEntries` for run-length tables.  `Props.C19.tables_are_T4` compares pdfminer's tables with the
specification's through it, although the tables are equal as lists (`white_eq`, `black_eq`). -/
def sameRuns (a b : List (Nat × List Bool)) : Bool :=
  a.all (fun e => b.contains e) && b.all (fun e => a.contains e)

theorem sameRuns_refl (a : List (Nat × List Bool)) : sameRuns a a = true := by
  simp only [sameRuns, Bool.and_self, List.all_eq_true, List.contains_iff_mem]
  exact fun _ h => h

theorem white_eq : CcittTables.WHITE = T6.white := by decide +kernel
theorem black_eq : CcittTables.BLACK = T6.black := by decide +kernel

theorem spec_white_keys : T6.white.map (·.1) = runKeys := by decide +kernel
theorem spec_black_keys : T6.black.map (·.1) = runKeys := by decide +kernel

theorem runTbl_distinct {tbl : List (Nat × List Bool)} (h : tbl.map (·.1) = runKeys) :
    ((tbl.map fun e => (Sym.run e.1, e.2)).map (·.1)).Nodup := by
  have : (tbl.map fun e => (Sym.run e.1, e.2)).map (·.1) = (tbl.map (·.1)).map Sym.run := by
    rw [List.map_map, List.map_map]; rfl
  rw [this, h]
  exact runKeys_nodup.map _ fun a b hab h => hab (Sym.run.inj h)

theorem mode_stores : modeTrie.Stores modeTbl := .of_eval (by decide +kernel) (by decide +kernel)
theorem white_stores : whiteTrie.Stores whiteTbl :=
  .of_eval (runTbl_distinct (white_eq ▸ spec_white_keys)) (by decide +kernel)
theorem black_stores : blackTrie.Stores blackTbl :=
  .of_eval (runTbl_distinct (black_eq ▸ spec_black_keys)) (by decide +kernel)
theorem unc_stores : uncTrie.Stores uncTbl := .of_eval (by decide +kernel) (by decide +kernel)

theorem lookup_of_mem_keys {β : Type} {tbl : List (Nat × β)} {k : Nat} (h : k ∈ tbl.map (·.1)) :
    ∃ v, tbl.lookup k = some v ∧ (k, v) ∈ tbl := by
  induction tbl with
  | nil => cases h
  | cons e rest ih =>
    obtain ⟨k', v'⟩ := e
    by_cases hk : k = k'
    · subst hk
      exact ⟨v', by rw [List.lookup_cons, beq_self_eq_true], List.mem_cons_self ..⟩
    · obtain ⟨v, hl, hm⟩ := ih (by simpa [hk] using h)
      exact ⟨v, by rw [List.lookup_cons, beq_false_of_ne hk]; exact hl, List.mem_cons_of_mem _ hm⟩

theorem runTbl_follow {t : Trie} {tbl : List (Nat × List Bool)}
    (hs : t.Stores (tbl.map fun e => (Sym.run e.1, e.2))) {n : Nat} (h : n ∈ tbl.map (·.1)) :
    (tbl.lookup n).getD [] ≠ [] ∧ t.follow ((tbl.lookup n).getD []) = some (.leaf (.run n)) := by
  obtain ⟨code, hl, hm⟩ := lookup_of_mem_keys h
  have he : (Sym.run n, code) ∈ tbl.map fun e => (Sym.run e.1, e.2) := List.mem_map.mpr ⟨_, hm, rfl⟩
  rw [hl]
  exact ⟨hs.code_ne_nil he, hs.follow _ he⟩

theorem runCode_follow (c : Bool) {n : Nat} (h : n ∈ runKeys) :
    T6.runCode c n ≠ [] ∧ (runTrie c).follow (T6.runCode c n) = some (.leaf (.run n)) := by
  cases c
  · have hs : blackTrie.Stores (T6.black.map fun e => (Sym.run e.1, e.2)) := black_eq ▸ black_stores
    exact runTbl_follow hs (spec_black_keys ▸ h)
  · have hs : whiteTrie.Stores (T6.white.map fun e => (Sym.run e.1, e.2)) := white_eq ▸ white_stores
    exact runTbl_follow hs (spec_white_keys ▸ h)

def modeSpec : List (Mode × List Bool) :=
  [(.p, T6.codeP), (.h, T6.codeH), (.e, T6.codeEOFB), (.v 0, T6.codeV 0), (.v 1, T6.codeV 1),
   (.v (-1), T6.codeV (-1)), (.v 2, T6.codeV 2), (.v (-2), T6.codeV (-2)), (.v 3, T6.codeV 3),
   (.v (-3), T6.codeV (-3))]

theorem mode_is_T6 : modeSpec.all (fun e => CcittTables.MODE.contains e) = true := by decide +kernel

theorem modeSpec_follow {m : Mode} {code : List Bool} (h : (m, code) ∈ modeSpec) :
    modeTrie.follow code = some (.leaf (.mode m)) :=
  mode_stores.follow (.mode m, code) (List.mem_map.mpr
    ⟨(m, code), List.contains_iff_mem.mp (List.all_eq_true.mp mode_is_T6 _ h), rfl⟩)

/-- The code word of the extension `x<n>` in pdfminer's regenerated MODE table (`[]` if there is none); the
driver of C19 prints these, the lemmas about them are in `Lemmas/CcittParams.lean`. -/
def extCode (n : Nat) : List Bool := (CcittTables.MODE.lookup (.x n)).getD []

end PdfVerif.Ccitt
