/-
`group_textlines` commutes with scaling, because `Plane.find` on the scaled plane reports the scaled objects in the
same order, so that `find_neighbors` lists the same line numbers; and `analyze` commutes with scaling as soon as its
last stage (`finalBoxes`) does, which it does when `boxes_flow` is `None`.
-/
import PdfVerif.Lemmas.LayoutSpec
namespace PdfVerif.Layout
open PdfVerif PdfVerif.Gen.Layout
open PdfVerif.Plane (WfRect overlaps PObj)
open PdfVerif.Props.C20 (Reach plane_find_order plane_iter)

def scaleBox (s : Rat) (b : Box) : Box :=
  { bid := b.bid, vertical := b.vertical, lines := b.lines.map (scaleLine s), bb := scaleBB s b.bb, index := b.index }

/-- `find_neighbors` lists the neighbours in the order of the lines: `Plane.find` reports objects in insertion order
(C20 `plane_find_order`), not in the scan order of the grid. -/
theorem neighbors_sorted (ratio : Rat) (hr : 0 ≤ ratio) (pageBB : BB)
    (hp : pageBB.x0 ≤ pageBB.x1 ∧ pageBB.y0 ≤ pageBB.y1) (lines : List Line)
    (hne : ∀ l ∈ lines, l.isEmpty = false) (l : Line) (hl : l ∈ lines) :
    (neighbors ratio (mkPlane pageBB (lines.zipIdx.map fun (x : Line × Nat) => x.1.pobj x.2)) lines l).Pairwise (· < ·) := by
  have hreach := reach_lines pageBB hp lines hne
  rw [neighbors, plane_find_order hreach _ (wf_neighborQuery ratio hr l (hne l hl)), Plane.findSpec, plane_iter hreach]
  refine List.Pairwise.sublist (List.Sublist.map _ (List.filter_sublist.trans List.filter_sublist)) ?_
  rw [lines_ids]
  exact List.pairwise_lt_range'

def scP (s : Rat) (o : PObj) : PObj := ⟨o.id, s * o.x0, s * o.y0, s * o.x1, s * o.y1⟩
def scRect (s : Rat) (q : Rect) : Rect := (s * q.1, s * q.2.1, s * q.2.2.1, s * q.2.2.2)

section
variable {s : Rat} (hs : 0 < s)
include hs

theorem wfBB_scale {b : BB} (h : WfBB b) : WfBB (scaleBB s b) := by
  simpa only [WfBB, Spec.scaleBB, le_scale hs] using h

theorem overlaps_scale (o : PObj) (q : Rect) : overlaps (scP s o) (scRect s q) = overlaps o q := by
  obtain ⟨q0, q1, q2, q3⟩ := q
  simp only [overlaps, scP, scRect, le_scale hs]

theorem wfRect_scale (q : Rect) (h : WfRect q) : WfRect (scRect s q) := by
  obtain ⟨q0, q1, q2, q3⟩ := q
  simp only [WfRect, scRect, le_scale hs] at h ⊢
  exact h

theorem find_scale {p1 p2 : Plane.Plane} {L : List PObj} (h1 : Reach p1 L) (h2 : Reach p2 (L.map (scP s)))
    (q : Rect) (hq : WfRect q) : Plane.find p2 (scRect s q) = (Plane.find p1 q).map (scP s) := by
  rw [plane_find_order h2 _ (wfRect_scale hs q hq), plane_find_order h1 q hq]
  simp only [Plane.findSpec, plane_iter h1, plane_iter h2, List.filter_map, Function.comp_def, overlaps_scale hs]

omit hs in
theorem neighborQuery_scale (ratio : Rat) (l : Line) :
    neighborQuery ratio (scaleLine s l) = scRect s (neighborQuery ratio l) := by
  simp only [neighborQuery, scaleLine, neighbor_query_h, neighbor_query_v, scale_height, scale_width, scRect]
  simp only [Spec.scaleBB, mul_left_comm ratio s, ← mul_sub, ← mul_add]
  split <;> rfl

theorem isNeighbor_scale (ratio : Rat) (l : Line) (v : Bool) (o : BB) :
    isNeighbor ratio (scaleLine s l) v (scaleBB s o) = isNeighbor ratio l v o := by
  simp only [isNeighbor, scaleLine, neighbor_filter_v_scale hs, neighbor_filter_h_scale hs]

omit hs in
/-- Plane objects made from a mapped list are the mapped plane objects, when the maker commutes with the two maps. -/
theorem zipIdx_map_comm {α β : Type} (g : α → α) (f : α → Nat → β) (h : β → β) (hf : ∀ a k, f (g a) k = h (f a k))
    (l : List α) :
    ((l.map g).zipIdx.map fun (x : α × Nat) => f x.1 x.2) = (l.zipIdx.map fun (x : α × Nat) => f x.1 x.2).map h := by
  rw [List.zipIdx_map, List.map_map, List.map_map]
  exact List.map_congr_left fun x _ => hf x.1 x.2

omit hs in
theorem lines_pobj_scale (lines : List Line) :
    ((lines.map (scaleLine s)).zipIdx.map fun (x : Line × Nat) => x.1.pobj x.2)
      = (lines.zipIdx.map fun (x : Line × Nat) => x.1.pobj x.2).map (scP s) :=
  zipIdx_map_comm (scaleLine s) (fun l k => l.pobj k) (scP s) (fun _ _ => rfl) lines

/-- `Plane.find` on the scaled plane returns the scaled objects in the same order (`find_scale`), and the filter of
`find_neighbors` is homogeneous. -/
theorem neighbors_scale_eq (ratio : Rat) (pageBB : BB)
    (hp : pageBB.x0 ≤ pageBB.x1 ∧ pageBB.y0 ≤ pageBB.y1) (lines : List Line)
    (hne : ∀ l ∈ lines, l.isEmpty = false) (l : Line) (hl : l ∈ lines) :
    neighbors ratio (mkPlane (scaleBB s pageBB)
          (((lines.map (scaleLine s)).zipIdx).map fun (x : Line × Nat) => x.1.pobj x.2))
        (lines.map (scaleLine s)) (scaleLine s l)
    = neighbors ratio (mkPlane pageBB (lines.zipIdx.map fun (x : Line × Nat) => x.1.pobj x.2)) lines l := by
  have hne' : ∀ l' ∈ lines.map (scaleLine s), l'.isEmpty = false :=
    List.forall_mem_map.mpr fun l0 hl0 => (isEmpty_scale hs l0).trans (hne l0 hl0)
  by_cases hr : 0 ≤ ratio
  · have ra := reach_lines pageBB hp lines hne
    have rb := reach_lines (scaleBB s pageBB) (wfBB_scale hs hp) _ hne'
    rw [lines_pobj_scale] at rb ⊢
    rw [neighbors, neighbors, neighborQuery_scale, find_scale hs ra rb _ (wf_neighborQuery ratio hr l (hne l hl)),
      List.filter_map, List.map_map]
    congr 1
    apply List.filter_congr
    intro o _
    simp only [Function.comp, List.getElem?_map, show (scP s o).id = o.id from rfl]
    cases lines[o.id]? with
    | none => rfl
    | some m => exact isNeighbor_scale hs ratio l m.vertical (pobjBB o)
  · -- a negative `line_margin` admits no neighbour (and makes the query rectangle improper)
    rw [neighbors_nil_of_neg ratio (not_le.mp hr) _ _ _ (hne' _ (List.mem_map_of_mem hl)),
      neighbors_nil_of_neg ratio (not_le.mp hr) _ _ _ (hne l hl)]
end

theorem bbOfList_scale {s : Rat} (hs : 0 < s) (l : List BB) : bbOfList (l.map (scaleBB s)) = scaleBB s (bbOfList l) := by
  cases l with
  | nil => simp [bbOfList, Spec.scaleBB]
  | cons b rest =>
    simp only [bbOfList, List.map_cons, List.foldl_map]
    exact List.foldl_hom (scaleBB s) (fun x y => union_scale hs x y)

theorem gtlDict_congr (f g : Nat → List Nat) (idx : List Nat) (d : BoxDict) (h : ∀ i ∈ idx, f i = g i) :
    gtlDict f d idx = gtlDict g d idx := by
  induction idx generalizing d with
  | nil => rfl
  | cons i rest ih =>
    simp only [gtlDict, h i List.mem_cons_self]
    exact ih _ (fun j hj => h j (List.mem_cons_of_mem _ hj))

theorem groupTextlines_scale {s : Rat} (hs : 0 < s) (p : LAParams) (pageBB : BB)
    (hp : pageBB.x0 ≤ pageBB.x1 ∧ pageBB.y0 ≤ pageBB.y1) (lines : List Line)
    (hne : ∀ l ∈ lines, l.isEmpty = false) :
    groupTextlines p (scaleBB s pageBB) (lines.map (scaleLine s)) = (groupTextlines p pageBB lines).map (scaleBox s) := by
  have hnb : ∀ i ∈ List.range lines.length,
      nbOfLines p (scaleBB s pageBB) (lines.map (scaleLine s)) i = nbOfLines p pageBB lines i := by
    intro i hi
    have hi' : i < lines.length := List.mem_range.mp hi
    simp only [nbOfLines, List.getElem?_map, List.getElem?_eq_getElem hi', Option.map_some]
    exact neighbors_scale_eq hs _ pageBB hp lines hne _ (List.getElem_mem hi')
  have hbox : ∀ t : TBox, mkBox (lines.map (scaleLine s)) (boxVertical (lines.map (scaleLine s)) t) t
      = scaleBox s (mkBox lines (boxVertical lines t) t) := by
    intro t
    have hv : boxVertical (lines.map (scaleLine s)) t = boxVertical lines t := by
      simp only [boxVertical, List.getElem?_map]
      cases lines[t.bid]? <;> rfl
    simp only [mkBox, scaleBox, hv, List.getElem?_map, List.map_filterMap, ← bbOfList_scale hs, Option.map_map]
    rfl
  have hemp : ∀ b : Box, (scaleBox s b).isEmpty = b.isEmpty := by
    intro b
    simp only [Box.isEmpty, scaleBox, List.isEmpty_map, BB.isEmpty, is_empty_scale hs]
  simp only [groupTextlines, List.length_map, gtlDict_congr _ _ _ [] hnb, List.filter_map, List.map_map,
    Function.comp_def, hbox, hemp]

def scaleItem (s : Rat) : Item → Item
  | .ch g => .ch (scaleGlyph s g)
  | .other i => .other i

def scaleNode (s : Rat) : Node → Node
  | .leaf b => .leaf (scaleBox s b)
  | .grp t bb l r => .grp t (scaleBB s bb) (scaleNode s l) (scaleNode s r)

def scaleChild (s : Rat) : Child → Child
  | .box b => .box (scaleBox s b)
  | .other i => .other i
  | .line l => .line (scaleLine s l)
  | .glyph g => .glyph (scaleGlyph s g)

def scaleResult (s : Rat) (r : Result) : Result :=
  { children := r.children.map (scaleChild s), groups := r.groups.map (·.map (scaleNode s)), flags := r.flags }

theorem filterMap_glyph_scale (s : Rat) (items : List Item) :
    (items.map (scaleItem s)).filterMap Item.glyph? = (items.filterMap Item.glyph?).map (scaleGlyph s) := by
  rw [List.filterMap_map, List.map_filterMap]
  congr 1
  funext it
  cases it <;> rfl

theorem filterMap_other_scale (s : Rat) (items : List Item) :
    (items.map (scaleItem s)).filterMap Item.other? = items.filterMap Item.other? := by
  rw [List.filterMap_map]
  congr 1
  funext it
  cases it <;> rfl

theorem analyze_scaleLine (s : Rat) (l : Line) : (scaleLine s l).analyze = scaleLine s l.analyze := by
  simp [Line.analyze, scaleLine, scaleElem]

theorem enumFrom_scale (s : Rat) : ∀ (bs : List Box) (k : Nat),
    enumFrom k (bs.map (scaleBox s)) = (enumFrom k bs).map (scaleBox s)
  | [], _ => rfl
  | b :: r, k => by simp [enumFrom, enumFrom_scale s r (k + 1), scaleBox]

section
variable {s : Rat} (hs : 0 < s)
include hs

theorem boxAnalyze_scale (b : Box) : (scaleBox s b).analyze = scaleBox s b.analyze := by
  simp only [Box.analyze, scaleBox, sortByKey, List.map_map]
  congr 1
  rw [show Line.analyze ∘ scaleLine s = scaleLine s ∘ Line.analyze from funext (analyze_scaleLine s), ← List.map_map]
  refine (List.map_mergeSort fun a _ c _ => ?_).symm
  by_cases hv : b.vertical = true <;>
    simp [hv, show ∀ l : Line, (scaleLine s l).bb = scaleBB s l.bb from fun _ => rfl, box_key_h, box_key_v, Spec.scaleBB,
      le_scale hs]

theorem tupleLe_scale (a b : Box) :
    tupleLe (getkey (scaleBox s a)) (getkey (scaleBox s b)) = tupleLe (getkey a) (getkey b) := by
  have e : ∀ x y : Rat, s * x ≠ s * y ↔ x ≠ y := fun x y => (mul_right_inj' hs.ne').not
  have k : ∀ c : Box, getkey (scaleBox s c) = ((getkey c).1, s * (getkey c).2.1, s * (getkey c).2.2) := by
    intro c
    simp only [getkey, scaleBox, getkey_v, getkey_h, Spec.scaleBB, ← mul_neg]
    split <;> rfl
  simp only [tupleLe, k, e, lt_scale hs, le_scale hs]

theorem finalBoxes_none_scale {le : Cmp} (p : LAParams) (hbf : p.boxes_flow = none) (B : BB) (boxes : List Box) :
    finalBoxes le p (scaleBB s B) (boxes.map (scaleBox s))
      = ((finalBoxes le p B boxes).1.map (scaleBox s), none, {}) := by
  simp only [finalBoxes, hbf, List.map_map]
  rw [show Box.analyze ∘ scaleBox s = scaleBox s ∘ Box.analyze from funext (boxAnalyze_scale hs), ← List.map_map,
    ← enumFrom_scale]
  congr 2
  exact (List.map_mergeSort (f := scaleBox s) fun a _ b _ => (tupleLe_scale hs a b).symm).symm

/-- The first two stages commute with scaling for every parameter setting; so `analyze` does as soon as the last
stage does (on the proper boxes that `group_textlines` returns). -/
theorem analyze_scale_of {le : Cmp} (p : LAParams) (B : BB) (hp : B.x0 ≤ B.x1 ∧ B.y0 ≤ B.y1) (items : List Item)
    (hfin : ∀ boxes : List Box, (∀ b ∈ boxes, WfBB b.bb) →
      finalBoxes le p (scaleBB s B) (boxes.map (scaleBox s))
        = ((finalBoxes le p B boxes).1.map (scaleBox s),
           (finalBoxes le p B boxes).2.1.map (·.map (scaleNode s)), (finalBoxes le p B boxes).2.2)) :
    analyze le p (scaleBB s B) (items.map (scaleItem s)) = scaleResult s (analyze le p B items) := by
  have hg := filterMap_glyph_scale s items
  have ho := filterMap_other_scale s items
  cases hE : (items.filterMap Item.glyph?).isEmpty with
  | true =>
    simp only [analyze, hg, List.isEmpty_map, hE, if_true, scaleResult, List.map_map, Option.map_none]
    congr 1
    exact List.map_congr_left fun it _ => by cases it <;> rfl
  | false =>
    have hne := nonEmpty_filter (groupObjects p (items.filterMap Item.glyph?))
    have hwf : ∀ b ∈ groupTextlines p B _, WfBB b.bb := fun b hb =>
      (bb_pos_of_not_empty (Bool.or_eq_false_iff.mp ((groupTextlines_spec p B hp _ hne).2.2 b hb).2.2.2).2).imp
        le_of_lt le_of_lt
    simp only [analyze, hg, ho, List.isEmpty_map, hE, Bool.false_eq_true, if_false, groupObjects_scale hs,
      List.filter_map, Function.comp_def, isEmpty_scale hs, groupTextlines_scale hs p B hp _ hne, hfin _ hwf,
      scaleResult, List.map_append, List.map_map, analyze_scaleLine, scaleChild]

theorem analyze_none_scale {le : Cmp} (p : LAParams) (hbf : p.boxes_flow = none) (B : BB)
    (hp : B.x0 ≤ B.x1 ∧ B.y0 ≤ B.y1) (items : List Item) :
    analyze le p (scaleBB s B) (items.map (scaleItem s)) = scaleResult s (analyze le p B items) := by
  refine analyze_scale_of hs p B hp items (fun boxes _ => ?_)
  rw [finalBoxes_none_scale hs p hbf]
  simp only [finalBoxes, hbf, Option.map_none]

end

end PdfVerif.Layout
