/-
`min` and `max` of rationals.  Core states its order lemmas (`Std.min_le_left`, `Std.le_min_iff`, `Std.min_le`,
`Std.min_eq_or` and their `max` twins) for a left-leaning `min` / `max`.  `min` on `Rat` has that form;
`max` on `Rat` is `if a ≤ b then b else a` and is brought under them by the instance below (scoped: it takes
effect where this namespace is open).
-/

namespace PdfVerif.RatMinMax

variable {a b : Rat}

theorem min_eq_left (h : a ≤ b) : min a b = a := by rw [Rat.min_def, if_pos h]

theorem min_eq_right (h : b ≤ a) : min a b = b := by
  rw [Rat.min_def]
  split
  · exact Rat.le_antisymm ‹a ≤ b› h
  · rfl

theorem max_eq_right (h : a ≤ b) : max a b = b := by rw [Rat.max_def, if_pos h]

theorem max_eq_left (h : b ≤ a) : max a b = a := by
  rw [Rat.max_def]
  split
  · exact Rat.le_antisymm h ‹a ≤ b›
  · rfl

scoped instance : Std.LawfulOrderLeftLeaningMax Rat where
  max_eq_left _ _ := max_eq_left
  max_eq_right _ _ h := max_eq_right (Rat.le_of_lt (Rat.not_le.mp h))

end PdfVerif.RatMinMax
