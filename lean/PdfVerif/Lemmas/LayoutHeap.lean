/-
The heap of `group_textboxes`.

The code keeps tuples `(skip_isany, d, seq1, seq2, obj1, obj2)` in a `heapq`; the model keeps a list and pops its
least element under `HEntry.le`.  `HEntry.le` is the lexicographic order of the first four components
(`HEntry.le_iff_key`), so it is total, transitive and antisymmetric; `popMin` returns an element that is below every
entry of the heap, and for an antisymmetric order that element is unique - so the result of `heapq.heappop` does
not depend on how `heapq` lays the entries out.
-/
import Mathlib.Data.Prod.Lex
import PdfVerif.Lemmas.LayoutGroups

namespace PdfVerif.Layout
open PdfVerif PdfVerif.Gen.Layout

theorem HEntry.le_iff (a b : HEntry) :
    a.le b = true ↔ (a.skip = false ∧ b.skip = true) ∨ (a.skip = b.skip ∧ (a.d < b.d ∨ (a.d = b.d ∧
      (a.id1 < b.id1 ∨ (a.id1 = b.id1 ∧ a.id2 ≤ b.id2))))) := by
  unfold HEntry.le
  by_cases h0 : a.skip = b.skip
  · by_cases h1 : a.d = b.d <;> by_cases h2 : a.id1 = b.id1 <;> simp [h0, h1, h2]
  · cases ha : a.skip <;> cases hb : b.skip <;> simp [ha, hb] at h0 ⊢

/-- The tuple that `heapq` compares, with Python's (lexicographic) tuple order. -/
def HEntry.key (a : HEntry) : Bool ×ₗ ℚ ×ₗ ℕ ×ₗ ℕ := toLex (a.skip, toLex (a.d, toLex (a.id1, a.id2)))

theorem HEntry.le_iff_key (a b : HEntry) : a.le b = true ↔ a.key ≤ b.key := by
  simp only [HEntry.le_iff, HEntry.key, Prod.Lex.toLex_le_toLex, Bool.lt_iff]

theorem HEntry.key_inj {a b : HEntry} (h : a.key = b.key) : a = b := by
  cases a; cases b; simpa [HEntry.key, Prod.ext_iff] using h

theorem HEntry.le_total (a b : HEntry) : a.le b = true ∨ b.le a = true := by
  simp only [HEntry.le_iff_key]; exact _root_.le_total _ _

theorem HEntry.le_trans (a b c : HEntry) (h1 : a.le b = true) (h2 : b.le c = true) : a.le c = true := by
  rw [HEntry.le_iff_key] at *; exact _root_.le_trans h1 h2

theorem HEntry.le_antisymm (a b : HEntry) (h1 : a.le b = true) (h2 : b.le a = true) : a = b := by
  rw [HEntry.le_iff_key] at *; exact HEntry.key_inj (_root_.le_antisymm h1 h2)

theorem popMin_least {le : Cmp} (htot : ∀ a b, le a b = true ∨ le b a = true)
    (htr : ∀ a b c, le a b = true → le b c = true → le a c = true) :
    ∀ (h : List HEntry) (m : HEntry) (r : List HEntry), popMin le h = some (m, r) → ∀ e ∈ h, le m e = true
  | [], _, _, hp => by simp [popMin] at hp
  | x :: rest, m, r, hp => by
    have refl : ∀ a, le a a = true := fun a => (htot a a).elim id id
    simp only [popMin] at hp
    split at hp
    · next hq =>
      cases hp
      rw [popMin_none.mp hq]
      simpa using refl x
    · next m' r' hq =>
      have ih := popMin_least htot htr rest m' r' hq
      by_cases hxm : le x m' = true
      · rw [if_pos hxm] at hp; cases hp
        exact List.forall_mem_cons.mpr ⟨refl _, fun e he => htr _ _ _ hxm (ih e he)⟩
      · rw [if_neg hxm] at hp; cases hp
        exact List.forall_mem_cons.mpr ⟨(htot _ _).resolve_left hxm, ih⟩

/-- For an antisymmetric comparison the least entry is unique: ANY member of the heap that is below all entries
(what `heapq.heappop` returns, whatever the internal layout of the heap) is the entry `popMin` returns. -/
theorem popMin_unique {le : Cmp} (htot : ∀ a b, le a b = true ∨ le b a = true)
    (htr : ∀ a b c, le a b = true → le b c = true → le a c = true)
    (hanti : ∀ a b, le a b = true → le b a = true → a = b)
    {h : List HEntry} {m : HEntry} {r : List HEntry} (hp : popMin le h = some (m, r))
    (m' : HEntry) (hm' : m' ∈ h) (hleast : ∀ e ∈ h, le m' e = true) : m' = m :=
  hanti _ _ (hleast m (popMin_mem hp)) (popMin_least htot htr h m r hp m' hm')

end PdfVerif.Layout
