/-
`ImageWriter.export_image` (Model/Image.lean) as "select the branch (`branchOf`), then do what the branch
does (`exportBranch`)": the branch taken under the conditions of each, and the name the file gets.
-/
import PdfVerif.Model.Image
import PdfVerif.Lemmas.ImageName

namespace PdfVerif.BmpLemmas
open PdfVerif PdfVerif.Image PdfVerif.ImageName PdfVerif.ImageNameLemmas PdfVerif.Gen.ImageGen

theorem withName_spec (existing : List Bytes) (name ext file : Bytes) :
    ∃ nm, withName existing name ext (.ok file) = .ok (nm, file) ∧ nm ∉ existing ∧ ∃ stem, nm = stem ++ ext := by
  obtain ⟨nm, hnm⟩ := Option.isSome_iff_exists.mp (uniqueName_isSome existing name ext)
  obtain ⟨hfresh, j, _, hj⟩ := uniqueName_fresh existing name ext nm hnm
  exact ⟨nm, by rw [withName, hnm], hfresh, hj ▸ candidate_suffix name ext j⟩

theorem withName_fresh {existing : List Bytes} {name ext nm file : Bytes} {c : Except Err Bytes}
    (h : withName existing name ext c = .ok (nm, file)) : nm ∉ existing := by
  revert h
  fun_cases withName existing name ext c <;> rintro ⟨⟩
  next hu => exact (uniqueName_fresh existing name ext _ hu).1

theorem exportImage_eq_exportBranch (im : ImgIn) (existing : List Bytes) :
    exportImage im existing = exportBranch (branchOf im) im existing := by
  unfold exportImage branchOf
  -- both sides are the same chain of tests: push `exportBranch · im existing` through the one of `branchOf`
  simp only [apply_ite (fun b => exportBranch b im existing)]
  rfl

/-- The data stays encoded. -/
def Encoded (im : ImgIn) : Prop :=
  im.filters.getLast? = some .dct ∨ im.filters.getLast? = some .jpx ∨ Flt.jbig2 ∈ im.filters

variable {im : ImgIn}

/-- Filters whose decoding is lossless (their decoders are C03's subject; here `data` is what
    `stream.get_data()` returns). -/
def Lossless (f : Flt) : Prop := f = .flate ∨ f = .lzw ∨ f = .a85 ∨ f = .ahx ∨ f = .rl

theorem lossless_not_encoded (hl : ∀ f ∈ im.filters, Lossless f) : ¬ Encoded im := by
  have ne : ∀ f ∈ im.filters, f ≠ .dct ∧ f ≠ .jpx ∧ f ≠ .jbig2 := fun f hf => by
    rcases hl f hf with rfl | rfl | rfl | rfl | rfl <;> decide
  rintro (h | h | h)
  · exact (ne _ (List.mem_of_getLast? h)).1 rfl
  · exact (ne _ (List.mem_of_getLast? h)).2.1 rfl
  · exact (ne _ h).2.2 rfl

theorem branchOf_undecoded (h : ¬ plausible im.w im.h im.bits = true) : branchOf im = .undecoded := by
  rw [branchOf, if_pos (by rw [Bool.eq_false_iff.mpr h]; rfl)]

theorem branchOf_jpeg (hpl : plausible im.w im.h im.bits = true) (h : im.filters.getLast? = some .dct) :
    branchOf im = .jpeg := by
  rw [branchOf, if_neg (by rw [hpl]; decide), if_pos h]

theorem branchOf_pixels (hpl : plausible im.w im.h im.bits = true) (henc : ¬ Encoded im) :
    branchOf im =
      if im.bits = 1 then .bmp1 else if im.bits = 8 ∧ isRGB im.cs then .bmp24
      else if im.bits = 8 ∧ isGray im.cs then .bmp8 else if im.filters = [.flate] then .bytes else .raw := by
  rw [branchOf, if_neg (by rw [hpl]; decide), if_neg (fun h => henc (.inl h)), if_neg (fun h => henc (.inr (.inl h))),
    if_neg (fun h => henc (.inr (.inr (List.contains_iff_mem.mp h))))]

theorem branchOf_noBitmap (hpl : plausible im.w im.h im.bits = true) (henc : ¬ Encoded im)
    (hbm : ¬ (im.bits = 1 ∨ (im.bits = 8 ∧ (isRGB im.cs = true ∨ isGray im.cs = true)))) :
    branchOf im = if im.filters = [.flate] then .bytes else .raw := by
  rw [branchOf_pixels hpl henc, if_neg (fun h => hbm (.inl h)), if_neg (fun h => hbm (.inr ⟨h.1, .inl h.2⟩)),
    if_neg (fun h => hbm (.inr ⟨h.1, .inr h.2⟩))]

/-- The regenerated `_save_bmp` arguments (depth, bytes per line) of the 1-bit branch of `export_image`; the next
two lemmas are the same for the RGB and the gray branch. -/
theorem bmpArgs_bit1 (w : Nat) :
    (bmpDepth0 (w : Int) ((1 : Nat) : Int)).toNat = 1 ∧ (bmpBpl0 (w : Int) ((1 : Nat) : Int)).toNat = (w + 7) / 8 := by
  simp only [bmpDepth0, bmpBpl0, pyDiv]
  rw [Int.fdiv_eq_ediv_of_nonneg _ (by omega)]
  omega

theorem bmpArgs_rgb (w : Nat) :
    (bmpDepth1 (w : Int) ((8 : Nat) : Int)).toNat = 24 ∧ (bmpBpl1 (w : Int) ((8 : Nat) : Int)).toNat = 3 * w := by
  simp only [bmpDepth1, bmpBpl1]
  omega

theorem bmpArgs_gray (w : Nat) :
    (bmpDepth2 (w : Int) ((8 : Nat) : Int)).toNat = 8 ∧ (bmpBpl2 (w : Int) ((8 : Nat) : Int)).toNat = w := by
  simp only [bmpDepth2, bmpBpl2]
  omega

theorem exportImage_bit1 (existing : List Bytes) (hpl : plausible im.w im.h im.bits = true)
    (henc : ¬ Encoded im) (hb : im.bits = 1) :
    exportImage im existing = withName existing im.name extBmp (saveBmp 1 im.w im.h ((im.w + 7) / 8) im.data) := by
  rw [exportImage_eq_exportBranch, branchOf_pixels hpl henc, if_pos hb, exportBranch, bmpArgsOf, hb,
    (bmpArgs_bit1 im.w).1, (bmpArgs_bit1 im.w).2]

theorem exportImage_rgb8 (existing : List Bytes) (hpl : plausible im.w im.h im.bits = true)
    (henc : ¬ Encoded im) (hb : im.bits = 8) (hc : isRGB im.cs = true) :
    exportImage im existing = withName existing im.name extBmp (saveBmp 24 im.w im.h (3 * im.w) im.data) := by
  rw [exportImage_eq_exportBranch, branchOf_pixels hpl henc, if_neg (by omega), if_pos ⟨hb, hc⟩, exportBranch, bmpArgsOf,
    hb, (bmpArgs_rgb im.w).1, (bmpArgs_rgb im.w).2]

theorem exportImage_gray8 (existing : List Bytes) (hpl : plausible im.w im.h im.bits = true)
    (henc : ¬ Encoded im) (hb : im.bits = 8) (hn : isRGB im.cs = false) (hc : isGray im.cs = true) :
    exportImage im existing = withName existing im.name extBmp (saveBmp 8 im.w im.h im.w im.data) := by
  rw [exportImage_eq_exportBranch, branchOf_pixels hpl henc, if_neg (by omega), if_neg (by rw [hn]; exact fun h => nomatch h.2),
    if_pos ⟨hb, hc⟩, exportBranch, bmpArgsOf, hb, (bmpArgs_gray im.w).1, (bmpArgs_gray im.w).2]

end PdfVerif.BmpLemmas
