/-
C02 — `Rep` derived for every output of the structural file writer (`Spec/XrefHist.lean`), given that
each loaded section answers like the entry list the writer put into it (`SecLists`; derived from the
bytes in `Lemmas/XrefLists.lean`).
-/
import PdfVerif.Lemmas.Xref
import PdfVerif.Spec.XrefHist

namespace PdfVerif.Xref

open PdfVerif.Gen.Xref

def SecLists (s : Section) (ents : List (Nat × Entry)) : Prop := ∀ n, s.getPos n = lookupNat ents n

inductive SecsList : List Section → List (List (Nat × Entry)) → Prop
  | nil : SecsList [] []
  | cons {s ss e es} : SecLists s e → SecsList ss es → SecsList (s :: ss) (e :: es)

theorem nodupNat_sound (l : List Nat) (h : nodupNat l = true) : l.Nodup := by
  induction l with
  | nil => exact List.nodup_nil
  | cons a r ih =>
    simp only [nodupNat, Bool.and_eq_true, Bool.not_eq_true', List.contains_eq_mem, decide_eq_false_iff_not] at h
    exact List.nodup_cons.mpr ⟨h.1, ih h.2⟩

theorem Rep_snoc {whole objs ss rs s r} (h : Rep whole objs ss rs) (hs : SecRep whole objs s r) :
    Rep whole objs (ss ++ [s]) (rs ++ [r]) := by
  induction h with
  | nil => exact .cons hs .nil
  | cons h1 _ ih => exact .cons h1 ih

/-! Positions strictly increase, so the store finds every record. -/

def LensPos (objs : List WObj) : Prop := ∀ o ∈ objs, ∀ gap len gen, o.place = .direct gap len gen → 0 < len

theorem placeObjs_sorted (objs : List WObj) (cur : Nat) (hl : LensPos objs) :
    (∀ rec ∈ (placeObjs cur objs).1, cur ≤ rec.1) ∧ (placeObjs cur objs).1.Pairwise (fun a b => a.1 < b.1) := by
  fun_induction placeObjs cur objs with
  | case1 => exact ⟨nofun, List.Pairwise.nil⟩
  | case2 cur o rest gap len gen hp _ ih =>
    obtain ⟨h1, h2⟩ := ih fun x hx => hl x (List.mem_cons_of_mem _ hx)
    have hle : cur ≤ cur + gap := Nat.le_add_right _ _
    have hlt : cur + gap < cur + gap + len := Nat.lt_add_of_pos_right (hl o List.mem_cons_self gap len gen hp)
    simp only [List.forall_mem_cons, List.pairwise_cons]
    exact ⟨⟨hle, fun r hr => Nat.le_trans (Nat.le_trans hle (Nat.le_of_lt hlt)) (h1 r hr)⟩,
      fun r hr => Nat.lt_of_lt_of_le hlt (h1 r hr), h2⟩
  | case3 _ _ rest _ _ _ ih => exact ih fun x hx => hl x (List.mem_cons_of_mem _ hx)

theorem placeObjs_lookup (objs : List WObj) (cur : Nat) (hl : LensPos objs) :
    ∀ rec ∈ (placeObjs cur objs).1, lookupNat (placeObjs cur objs).1 rec.1 = some rec.2 := by
  intro rec hr
  rw [lookupNat_eq_lookup]
  exact lookup_of_mem ((placeObjs_sorted objs cur hl).2.imp Nat.ne_of_lt) hr

theorem placeSub_secRep (whole : History) (store : List (Nat × Nat × Nat × Val)) (k : Nat) (objs : List WObj)
    (cur : Nat) (hstore : ∀ rec ∈ (placeObjs cur objs).1, lookupNat store rec.1 = some rec.2)
    (hmem : ∀ o ∈ objs, ∀ c idx, o.place = .member c idx → memberOK whole c idx o.val = true) (n : Nat) :
    match lookupNat (subDefs k objs) n with
    | none => lookupNat (placeSub k cur objs) n = none
    | some v => ∃ e, lookupNat (placeSub k cur objs) n = some e ∧ entryOK whole store n v e = true := by
  induction objs generalizing cur with
  | nil => rfl
  | cons o rest ih =>
    have hmem' : ∀ x ∈ rest, ∀ c idx, x.place = .member c idx → memberOK whole c idx x.val = true :=
      fun x hx => hmem x (List.mem_cons_of_mem _ hx)
    have hdefs : subDefs k (o :: rest) =
        if o.sub == k then (o.num, o.val) :: subDefs k rest else subDefs k rest := by
      rw [subDefs, List.filter_cons]
      cases o.sub == k <;> rfl
    -- the entry written for `o`, and the rest of the list from the position behind `o`
    obtain ⟨e, cur', hsub, hok, hrest⟩ : ∃ e cur', placeSub k cur (o :: rest) =
        (if o.sub == k then (o.num, e) :: placeSub k cur' rest else placeSub k cur' rest) ∧
        entryOK whole store o.num o.val e = true ∧
        ∀ rec ∈ (placeObjs cur' rest).1, lookupNat store rec.1 = some rec.2 := by
      cases hp : o.place with
      | member c idx =>
        refine ⟨⟨some c, idx, 0⟩, cur, ?_, hmem o List.mem_cons_self c idx hp, ?_⟩
        · rw [placeSub, hp]
        · simpa only [placeObjs, hp] using hstore
      | direct gap len gen =>
        simp only [placeObjs, hp, List.forall_mem_cons] at hstore
        refine ⟨⟨none, cur + gap, gen⟩, cur + gap + len, ?_, ?_, hstore.2⟩
        · rw [placeSub, hp]
        · simp only [entryOK, hstore.1, beq_self_eq_true, Bool.and_self]
    have ih' := ih cur' hrest hmem'
    rw [hdefs, hsub]
    cases o.sub == k
    · exact ih'
    · simp only [if_true, lookupNat]
      by_cases hk : o.num = n
      · subst hk
        simp only [beq_self_eq_true, if_true]
        exact ⟨e, rfl, hok⟩
      · simp only [beq_false_of_ne hk, Bool.false_eq_true, if_false]
        exact ih'

theorem subRevs_rep (whole : History) (store : List (Nat × Nat × Nat × Val)) (objs : List WObj) (start : Nat)
    (trs : List (Nat × Option Nat)) (k : Nat) (secsOld : List Section)
    (hs : SecsList secsOld (subEnts start objs k trs))
    (hstore : ∀ rec ∈ (placeObjs start objs).1, lookupNat store rec.1 = some rec.2)
    (hmem : ∀ o ∈ objs, ∀ c idx, o.place = .member c idx → memberOK whole c idx o.val = true) :
    Rep whole store secsOld.reverse (subRevs objs k trs).reverse := by
  induction trs generalizing k secsOld with
  | nil =>
    cases hs
    exact .nil
  | cons t rest ih =>
    simp only [subEnts] at hs
    cases hs with
    | cons h1 h2 =>
      simp only [List.reverse_cons, subRevs]
      refine Rep_snoc (ih _ _ h2) ?_
      intro n
      have := placeSub_secRep whole store k objs start hstore hmem n
      simp only [Revision.lookup]
      rw [h1 n]
      exact this

end PdfVerif.Xref
