/-
C17 — the regenerated `PDFDocEncoding` against ISO 32000-1 Table D.2: a comparison of two fixed tables,
evaluated by the kernel.  In a module of its own so that it is re-checked only when the table or the
specification changes.
-/
import PdfVerif.Spec.Labels

namespace PdfVerif.Lemmas.LabelsFinite
open PdfVerif PdfVerif.Labels PdfVerif.Gen.LabelTables

theorem pdfDoc_length : PDFDocEncoding.length = 256 := by decide +kernel

/-- One pass over the table with its indices (looking each code up with `getD` would walk the list
256 times). -/
theorem pdfDoc_table : ∀ p ∈ PDFDocEncoding.zipIdx, ∀ u, Spec.Labels.pdfDoc p.2 = some u → p.1 = u := by
  decide +kernel

end PdfVerif.Lemmas.LabelsFinite
