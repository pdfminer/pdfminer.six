/-
The `stream` branch of the parser: substring search (`startsWith` is the library's prefix relation),
the `endstream` scan, the Length clamp and the resolution of an indirect `Length`.
-/
import PdfVerif.Lemmas.FiltersCodec

namespace PdfVerif.Filters
open PdfVerif PdfVerif.FilterEnc PdfVerif.Gen.Filters

theorem startsWith_iff (p s : Bytes) : startsWith p s = true ↔ p <+: s := by
  rw [← List.isPrefixOf_iff_prefix]
  fun_induction startsWith p s <;> simp [List.isPrefixOf, *]

theorem startsWith_self_append (p x : Bytes) : startsWith p (p ++ x) = true :=
  (startsWith_iff ..).mpr (List.prefix_append p x)

theorem startsWith_append_true (p s x : Bytes) (h : startsWith p s = true) : startsWith p (s ++ x) = true :=
  (startsWith_iff ..).mpr (((startsWith_iff ..).mp h).trans (List.prefix_append s x))

theorem startsWith_append_false (p s x : Bytes) (h : startsWith p s = false) (hl : p.length ≤ s.length) :
    startsWith p (s ++ x) = false := by
  rw [Bool.eq_false_iff, Ne, startsWith_iff] at h ⊢
  exact fun hp => h (List.prefix_of_prefix_length_le hp (List.prefix_append s x) hl)

theorem findSub_of_startsWith {E s : Bytes} (h : startsWith E s = true) : findSub E s = some 0 := by
  cases s <;> simp [findSub, h]

theorem findSub_cons_of_not {E : Bytes} {c : UInt8} {s : Bytes} (h : startsWith E (c :: s) = false) :
    findSub E (c :: s) = (findSub E s).map (· + 1) := by
  simp only [findSub, h]
  cases findSub E s <;> rfl

/-- If the first occurrence of `E` in `d ++ E` is the final one, appending more bytes does not
create an earlier one. -/
theorem findSub_extend (E d x : Bytes) (h : findSub E (d ++ E) = some d.length) :
    findSub E (d ++ E ++ x) = some d.length := by
  induction d with
  | nil => exact findSub_of_startsWith (startsWith_self_append E x)
  | cons c d ih =>
    cases hs : startsWith E (c :: (d ++ E)) with
    | true => rw [List.cons_append, findSub_of_startsWith hs] at h; cases h
    | false =>
      have hx : startsWith E (c :: (d ++ E ++ x)) = false :=
        startsWith_append_false E (c :: (d ++ E)) x hs (by simp; omega)
      rw [List.cons_append, findSub_cons_of_not hs] at h
      obtain ⟨i, hi, hn⟩ := Option.map_eq_some_iff.mp h
      obtain rfl : i = d.length := by simpa using hn
      rw [List.cons_append, List.cons_append, findSub_cons_of_not hx, ih hi]
      rfl

/-- An occurrence found at or after `|u|` in `u ++ v`: none in `u`, and the first one in `v`. -/
theorem findSub_split (E u v : Bytes) (m : Nat) (hE : E ≠ []) (h : findSub E (u ++ v) = some (u.length + m)) :
    findSub E u = none ∧ findSub E v = some m := by
  induction u with
  | nil =>
    cases E with
    | nil => exact absurd rfl hE
    | cons e E => exact ⟨rfl, by simpa using h⟩
  | cons c u ih =>
    cases hs : startsWith E (c :: (u ++ v)) with
    | true =>
      rw [List.cons_append, findSub_of_startsWith hs, List.length_cons] at h
      exact absurd (Option.some.inj h) (by omega)
    | false =>
      rw [List.cons_append, findSub_cons_of_not hs] at h
      obtain ⟨i, hi, hn⟩ := Option.map_eq_some_iff.mp h
      obtain rfl : i = u.length + m := by simp only [List.length_cons] at hn; omega
      obtain ⟨h1, h2⟩ := ih hi
      have hcu : startsWith E (c :: u) = false := by
        rw [Bool.eq_false_iff]
        intro hcu
        have := startsWith_append_true E (c :: u) v hcu
        rw [List.cons_append, hs] at this
        cases this
      exact ⟨by rw [findSub_cons_of_not hcu, h1]; rfl, h2⟩

/-- Every byte string either has no line end or starts with a complete line: `eol` is read as the line
end whatever follows `d'`, as long as it is not an LF directly after a final CR. -/
theorem line_decomp (d : Bytes) :
    (∀ c ∈ d, c ≠ 10 ∧ c ≠ 13) ∨
    ∃ a eol d', d = a ++ eol ++ d' ∧ (∀ c ∈ a, c ≠ 10 ∧ c ≠ 13) ∧ ∀ c s, c ≠ 10 → EolOk eol (d' ++ c :: s) := by
  induction d with
  | nil => left; simp
  | cons c t ih =>
    by_cases h10 : c = 10
    · exact .inr ⟨[], [10], t, by simp [h10], by simp, fun _ _ _ => .inl rfl⟩
    by_cases h13 : c = 13
    · right
      cases t with
      | nil => exact ⟨[], [13], [], by simp [h13], by simp, fun c s hc => .inr (.inr ⟨rfl, c, s, rfl, hc⟩)⟩
      | cons x t' =>
        by_cases hx : x = 10
        · exact ⟨[], [13, 10], t', by simp [h13, hx], by simp, fun _ _ _ => .inr (.inl rfl)⟩
        · exact ⟨[], [13], x :: t', by simp [h13], by simp, fun c s _ => .inr (.inr ⟨rfl, x, t' ++ c :: s, rfl, hx⟩)⟩
    · rcases ih with h | ⟨a, eol, d', hd, ha, he⟩
      · exact .inl (List.forall_mem_cons.mpr ⟨⟨h10, h13⟩, h⟩)
      · exact .inr ⟨c :: a, eol, d', by simp [hd], List.forall_mem_cons.mpr ⟨⟨h10, h13⟩, ha⟩, he⟩

theorem mark_no_eol : ∀ c ∈ ENDSTREAM_MARK, c ≠ 10 ∧ c ≠ 13 := by decide
theorem mark_ne_nil : ENDSTREAM_MARK ≠ [] := by decide
theorem mark_head : ∃ c t, ENDSTREAM_MARK = c :: t ∧ c ≠ 10 := ⟨_, _, rfl, by decide⟩

theorem scan_delim (fuel : Nat) (d q eol rest : Bytes) (hf : d.length < fuel)
    (hd : findSub ENDSTREAM_MARK (d ++ ENDSTREAM_MARK) = some d.length)
    (hq : ∀ c ∈ q, c ≠ 10 ∧ c ≠ 13) (heol : EolOk eol rest) :
    scanEndstream fuel (d ++ ENDSTREAM_MARK ++ q ++ eol ++ rest) = d := by
  induction fuel generalizing d with
  | zero => omega
  | succ fuel ih =>
    rcases line_decomp d with hno | ⟨a, eol', d', rfl, ha, he⟩
    · -- the marker is on the first line
      have hkw : ∀ c ∈ d ++ ENDSTREAM_MARK ++ q, c ≠ 10 ∧ c ≠ 13 := by
        simp only [List.mem_append]
        rintro c ((hc | hc) | hc)
        · exact hno c hc
        · exact mark_no_eol c hc
        · exact hq c hc
      have hl := nextline_kw (d ++ ENDSTREAM_MARK ++ q) hkw eol rest heol
      have hfind := findSub_extend ENDSTREAM_MARK d (q ++ eol) hd
      rw [← List.append_assoc] at hfind
      simp only [scanEndstream, hl, hfind]
      simp
    · -- a complete line of `d` comes first; the scan goes on behind it
      have hok : EolOk eol' (d' ++ ENDSTREAM_MARK ++ q ++ eol ++ rest) := by
        obtain ⟨c, t, hm, hc⟩ := mark_head
        simpa [hm] using he c (t ++ q ++ eol ++ rest) hc
      have hl := nextline_kw a ha eol' _ hok
      have hpos : 1 ≤ eol'.length := by
        rcases hok with rfl | rfl | ⟨rfl, _⟩ <;> simp
      rw [List.append_assoc (a ++ eol'), List.length_append] at hd
      obtain ⟨hnone, hd'⟩ := findSub_split ENDSTREAM_MARK (a ++ eol') (d' ++ ENDSTREAM_MARK) _ mark_ne_nil hd
      have hrec := ih d' (by simp at hf; omega) hd'
      have e : a ++ eol' ++ d' ++ ENDSTREAM_MARK ++ q ++ eol ++ rest
          = a ++ eol' ++ (d' ++ ENDSTREAM_MARK ++ q ++ eol ++ rest) := by simp
      rw [e]
      simp only [scanEndstream, hl, hnone]
      rw [List.drop_left' rfl, hrec]

/-- Whatever `Length` says, the clamp keeps the read inside the file and never negative. -/
theorem objlen_le (fb : Bool) (len : Option Int) (fl st : Nat) :
    streamObjlen fb len fl st = min (if fb then 0 else (len.getD 0).toNat) (fl - st) := by
  simp only [streamObjlen, streamClamp, Int.ofNat_eq_natCast]
  cases fb <;> simp <;> omega

theorem objlen_fallback (len : Option Int) (fl st : Nat) : streamObjlen true len fl st = 0 := by
  rw [objlen_le, if_pos rfl, Nat.zero_min]

theorem objlen_exact (n fl st : Nat) (h : st + n ≤ fl) : streamObjlen false (some (n : Int)) fl st = n := by
  rw [objlen_le, if_neg (by decide), Option.getD_some, Int.toNat_natCast, Nat.min_eq_left (by omega)]

/-- At `pre.length` the parser reads the line `kw ++ eol`; `R` is what follows it. -/
theorem keyword_line (pre kw eol R : Bytes) (hkw : ∀ c ∈ kw, c ≠ 10 ∧ c ≠ 13) (heol : EolOk eol R) :
    nextline ((pre ++ kw ++ eol ++ R).drop pre.length) = some (kw ++ eol) ∧
    (pre ++ kw ++ eol ++ R).drop (pre.length + (kw ++ eol).length) = R := by
  constructor
  · rw [List.append_assoc, List.append_assoc, List.drop_left' rfl, ← List.append_assoc]
    exact nextline_kw kw hkw eol R heol
  · rw [List.append_assoc pre kw eol, List.drop_left' (by simp)]

theorem streamRead_core (fb : Bool) (pre kw eol0 R : Bytes) (len : Option Int)
    (hkw : ∀ c ∈ kw, c ≠ 10 ∧ c ≠ 13) (heol0 : EolOk eol0 R) :
    streamRead fb (pre ++ kw ++ eol0 ++ R) pre.length len =
      .ok (let objlen := streamObjlen fb len (pre ++ kw ++ eol0 ++ R).length (pre.length + (kw ++ eol0).length)
           let skipped := scanEndstream ((pre ++ kw ++ eol0 ++ R).length + 1) (R.drop objlen)
           (if fb then R.take objlen ++ skipped else R.take objlen,
            pre.length + (kw ++ eol0).length + objlen + skipped.length)) := by
  obtain ⟨hl, hd⟩ := keyword_line pre kw eol0 R hkw heol0
  have hd' (k : Nat) : (pre ++ kw ++ eol0 ++ R).drop (pre.length + (kw ++ eol0).length + k) = R.drop k := by
    rw [← List.drop_drop, hd]
  unfold streamRead
  rw [hl]
  simp only [hd, hd']

theorem startsWith_prefix (p w x : Bytes) (h : startsWith p (w ++ x) = true) (hl : w.length ≤ p.length) :
    w = p.take w.length :=
  List.prefix_iff_eq_take.mp
    (List.prefix_of_prefix_length_le (List.prefix_append w x) ((startsWith_iff ..).mp h) hl)

/-- `endstream` has no border: no proper non-empty prefix of it is also a suffix. -/
theorem mark_no_border : ∀ k, k < ENDSTREAM_MARK.length → 1 ≤ k →
    startsWith ENDSTREAM_MARK (ENDSTREAM_MARK.take k ++ ENDSTREAM_MARK) = false := by decide

theorem findSub_of_free (d : Bytes) (h : ∀ i, startsWith ENDSTREAM_MARK (d.drop i) = false) :
    findSub ENDSTREAM_MARK (d ++ ENDSTREAM_MARK) = some d.length := by
  induction d with
  | nil => decide
  | cons c d ih =>
    have h0 : startsWith ENDSTREAM_MARK (c :: d) = false := by simpa using h 0
    have ih' := ih (fun i => by simpa using h (i + 1))
    have hs : startsWith ENDSTREAM_MARK (c :: d ++ ENDSTREAM_MARK) = false := by
      by_cases hl : ENDSTREAM_MARK.length ≤ (c :: d).length
      · exact startsWith_append_false _ _ _ h0 hl
      · cases hs : startsWith ENDSTREAM_MARK (c :: d ++ ENDSTREAM_MARK) with
        | false => rfl
        | true =>
          have hw := startsWith_prefix ENDSTREAM_MARK (c :: d) ENDSTREAM_MARK hs (by omega)
          have hb := mark_no_border (c :: d).length (by omega) (by simp)
          rw [← hw] at hb
          rw [hb] at hs; cases hs
    rw [List.cons_append] at hs ⊢
    rw [findSub_cons_of_not hs, ih']
    rfl

theorem nextline_len (s line : Bytes) (h : nextline s = some line) : 1 ≤ line.length ∧ line.length ≤ s.length := by
  fun_induction nextline s generalizing line with
  | case1 | case3 | case7 => cases h
  | case2 | case4 | case5 => cases h; simp
  | case6 c rest _ _ l hl ih =>
    cases h
    have := ih l hl
    simp only [List.length_cons]
    omega

theorem scan_fuel_aux (f1 f2 : Nat) (s : Bytes) (h1 : s.length < f1) (h2 : s.length < f2) :
    scanEndstream f1 s = scanEndstream f2 s := by
  induction f1 generalizing f2 s with
  | zero => omega
  | succ f1 ih =>
    cases f2 with
    | zero => omega
    | succ f2 =>
      simp only [scanEndstream]
      cases hn : nextline s with
      | none => rfl
      | some line =>
        have hl := nextline_len s line hn
        simp only []
        cases hfs : findSub ENDSTREAM_MARK line with
        | some i => rfl
        | none =>
          simp only []
          rw [ih f2 (s.drop line.length) (by simp; omega) (by simp; omega)]

theorem filter_ne_length_lt (objs : List (Nat × LenObj)) (id : Nat) (p : Nat × LenObj)
    (h : objs.find? (fun p => p.1 == id) = some p) :
    (objs.filter (fun q => q.1 != id)).length < objs.length := by
  refine Nat.lt_of_le_of_ne (List.length_filter_le _ _) fun he => ?_
  have hne := List.length_filter_eq_length_iff.mp he p (List.mem_of_find?_eq_some h)
  have heq := List.find?_some h
  simp [bne, heq] at hne

theorem resolveLen_fuel (f1 f2 : Nat) (objs : List (Nat × LenObj)) (x : LenObj)
    (h1 : objs.length < f1) (h2 : objs.length < f2) : resolveLen f1 objs x = resolveLen f2 objs x := by
  induction f1 generalizing f2 objs x with
  | zero => omega
  | succ f1 ih =>
    cases f2 with
    | zero => omega
    | succ f2 =>
      cases x with
      | int n => rfl
      | other => rfl
      | ref id =>
        simp only [resolveLen]
        cases hf : objs.find? (fun p => p.1 == id) with
        | none => rfl
        | some p =>
          have := filter_ne_length_lt objs id p hf
          exact ih f2 _ p.2 (by omega) (by omega)

theorem lengthValue_indirect (objs : List (Nat × LenObj)) (id : Nat) (n : Int)
    (h : objs.find? (fun p => p.1 == id) = some (id, .int n)) :
    lengthValue objs (some (.ref id)) = some n := by
  cases objs with
  | nil => simp at h
  | cons a t => simp [lengthValue, resolveLen, h]

theorem lengthValue_missing_obj (objs : List (Nat × LenObj)) (id : Nat)
    (h : objs.find? (fun p => p.1 == id) = none) : lengthValue objs (some (.ref id)) = some 0 := by
  simp [lengthValue, resolveLen, h]

end PdfVerif.Filters
