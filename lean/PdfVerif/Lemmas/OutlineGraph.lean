/-
C17 — the outline walk on arbitrary object graphs: one visit as two optional links followed in turn
(`searchO`, `searchG_visit`), and termination by counting the store entries not yet visited.
-/
import PdfVerif.Model.OutlineGraph

namespace PdfVerif.Lemmas.OutlineGraph
open PdfVerif PdfVerif.Outline PdfVerif.OutlineGraph

def unvisited (g : Store) (vis : List Nat) : Nat := (g.filter (fun p => !vis.contains p.1)).length

theorem unvisited_lt_length (g : Store) (vis : List Nat) : unvisited g vis < g.length + 1 :=
  Nat.lt_succ_of_le (List.length_filter_le _ _)

theorem filter_length_mono {α : Type} (p q : α → Bool) (hpq : ∀ x, p x = true → q x = true) (l : List α) :
    (l.filter p).length ≤ (l.filter q).length := by
  rw [← List.countP_eq_length_filter, ← List.countP_eq_length_filter]
  exact List.countP_mono_left fun x _ => hpq x

theorem filter_length_lt {α : Type} (p q : α → Bool) (hpq : ∀ x, p x = true → q x = true) (l : List α)
    (h : ∃ a ∈ l, q a = true ∧ p a = false) : (l.filter p).length < (l.filter q).length := by
  obtain ⟨a, ha, hqa, hpa⟩ := h
  have e : l.filter p = (l.filter q).filter p := by
    rw [List.filter_filter]
    exact List.filter_congr fun x _ => by cases hp : p x <;> simp [hpq x, hp]
  rw [e]
  exact List.length_filter_lt_length_iff_exists.mpr ⟨a, List.mem_filter.mpr ⟨ha, hqa⟩, by simp [hpa]⟩

theorem unvisited_mono (g : Store) {v v' : List Nat} (h : v ⊆ v') : unvisited g v' ≤ unvisited g v := by
  unfold unvisited
  apply filter_length_mono
  intro p hp
  simp only [Bool.not_eq_true', List.contains_eq_mem, decide_eq_false_iff_not] at hp ⊢
  exact fun hm => hp (h hm)

theorem get_some_mem (g : Store) (n : Nat) (nd : GNode) (h : OutlineGraph.get g n = some nd) : (n, nd) ∈ g := by
  obtain ⟨p, hp, rfl⟩ := Option.map_eq_some_iff.mp h
  have hk := List.find?_some hp
  rw [← beq_iff_eq.mp hk]
  exact List.mem_of_find?_eq_some hp

theorem unvisited_lt (g : Store) (v : List Nat) (n : Nat) (nd : GNode)
    (hg : OutlineGraph.get g n = some nd) (hn : v.contains n = false) : unvisited g (n :: v) < unvisited g v := by
  unfold unvisited
  apply filter_length_lt
  · intro p hp
    simp only [Bool.not_eq_true', List.contains_eq_mem, decide_eq_false_iff_not, List.mem_cons, not_or] at hp ⊢
    exact hp.2
  · refine ⟨(n, nd), get_some_mem g n nd hg, ?_, ?_⟩
    · simp only [Bool.not_eq_true', hn]
    · simp

def searchO (g : Store) (fuel : Nat) (vis : List Nat) (ro : Option Nat) (level : Nat) :
    Option (List Item × List Nat) :=
  match ro with
  | none => some ([], vis)
  | some r => searchG g fuel vis r level

theorem searchG_visit (g : Store) (fuel : Nat) (vis : List Nat) (r level : Nat) (nd : GNode)
    (hc : vis.contains r = false) (hg : OutlineGraph.get g r = some nd) :
    searchG g (fuel + 1) vis r level =
      (searchO g fuel (r :: vis) (if nd.hasLast = true then nd.first else none) (level + 1)).bind fun p =>
        (searchO g fuel p.2 nd.next level).map fun q => (visible level nd.info ++ p.1 ++ q.1, q.2) := by
  unfold searchG
  simp only [hc, Bool.false_eq_true, if_false, hg]
  have next : ∀ p : List Item × List Nat,
      (match nd.next with
        | none => some (visible level nd.info ++ p.1, p.2)
        | some nx =>
          match searchG g fuel p.2 nx level with
          | none => none
          | some (rest, v3) => some (visible level nd.info ++ p.1 ++ rest, v3)) =
      (searchO g fuel p.2 nd.next level).map fun q => (visible level nd.info ++ p.1 ++ q.1, q.2) := by
    intro p
    cases nd.next with
    | none => simp [searchO]
    | some nx => simp only [searchO]; cases searchG g fuel p.2 nx level <;> rfl
  cases hf : nd.first <;> cases hl : nd.hasLast
  case some.true f =>
    simp only [if_true]
    show _ = Option.bind (searchG g fuel (r :: vis) f (level + 1)) _
    cases searchG g fuel (r :: vis) f (level + 1) with
    | none => rfl
    | some p => exact next p
  all_goals exact next ([], r :: vis)

theorem searchO_total (g : Store) : ∀ (fuel : Nat) (vis : List Nat) (ro : Option Nat) (level : Nat),
    unvisited g vis < fuel →
    ∃ items vis', searchO g fuel vis ro level = some (items, vis') ∧ vis ⊆ vis' ∧ (vis.Nodup → vis'.Nodup)
  | 0, _, _, _, h => absurd h (Nat.not_lt_zero _)
  | _ + 1, vis, none, _, _ => ⟨[], vis, rfl, List.Subset.refl _, id⟩
  | fuel + 1, vis, some ref, level, h => by
    by_cases hc : vis.contains ref = true
    · exact ⟨[], vis, by rw [searchO, searchG, if_pos hc], List.Subset.refl _, id⟩
    have hc' : vis.contains ref = false := Bool.eq_false_iff.mpr hc
    have hnd1 : vis.Nodup → (ref :: vis).Nodup := fun hn =>
      List.nodup_cons.mpr ⟨fun hm => hc (List.contains_iff_mem.mpr hm), hn⟩
    cases hg : OutlineGraph.get g ref with
    | none => exact ⟨[], ref :: vis, by rw [searchO, searchG, if_neg hc, hg], List.subset_cons_self _ _, hnd1⟩
    | some nd =>
      have hfuel : unvisited g (ref :: vis) < fuel :=
        Nat.lt_of_lt_of_le (unvisited_lt g vis ref nd hg hc') (Nat.le_of_lt_succ h)
      obtain ⟨kids, v2, hk, hsub2, hnd2⟩ := searchO_total g fuel (ref :: vis)
        (if nd.hasLast = true then nd.first else none) (level + 1) hfuel
      obtain ⟨rest, v3, hr, hsub3, hnd3⟩ := searchO_total g fuel v2 nd.next level
        (Nat.lt_of_le_of_lt (unvisited_mono g hsub2) hfuel)
      exact ⟨_, v3, by rw [searchO, searchG_visit g fuel vis ref level nd hc' hg, hk, Option.bind_some, hr]; rfl,
        fun x hx => hsub3 (hsub2 (List.mem_cons_of_mem _ hx)), fun hn => hnd3 (hnd2 (hnd1 hn))⟩

end PdfVerif.Lemmas.OutlineGraph
