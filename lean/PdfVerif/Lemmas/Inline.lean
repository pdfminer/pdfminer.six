/-
The inline-image scanner (Model/Inline.lean) for the target `EI`: the automaton runs through a body without
`EI` + white space in state ≤ 2 (`StateInv`, `scan_body`) and stops at the marker, so `getInlineDataLen` is
`finish` of the raw body (`getInlineDataLen_marker`, `_marker_eof`); `finish` strips one end of line, or cuts at
the size hint (`stripEol_*`, `finish_*`).
-/
import PdfVerif.Model.Inline

namespace PdfVerif.InlineLemmas
open PdfVerif PdfVerif.Inline

def EI : Bytes := [69, 73]

def NoMarker (l : Bytes) : Prop :=
  ∀ (pre post : Bytes) (c : UInt8), isSpace c = true → l ≠ pre ++ 69 :: 73 :: c :: post

/-- State after feeding `l` to the automaton (ignoring the stop condition). -/
def run (i : Nat) (l : Bytes) : Nat := l.foldl (step EI) i

theorem EI_length : EI.length = 2 := rfl

theorem step_zero (c : UInt8) : step EI 0 c = if c = 69 then 1 else 0 := by
  simp [step, EI, eq_comm (b := c)]

theorem step_one (c : UInt8) : step EI 1 c = if c = 73 then 2 else 0 := by
  simp [step, EI, eq_comm (b := c)]

theorem step_two (c : UInt8) : step EI 2 c = if isSpace c then 3 else 0 := by
  simp [step, EI]

def StateInv (i : Nat) (hist : Bytes) : Prop :=
  (i = 2 → ∃ pre, hist = pre ++ [69, 73]) ∧ (i = 1 → ∃ pre, hist = pre ++ [69])

theorem stateInv_zero (hist : Bytes) : StateInv 0 hist :=
  ⟨fun h => absurd h (by decide), fun h => absurd h (by decide)⟩

theorem step_inv (i : Nat) (c : UInt8) (hist : Bytes) (hi : i ≤ 2) (hinv : StateInv i hist) :
    (step EI i c ≤ 2 ∧ StateInv (step EI i c) (hist ++ [c])) ∨
    (i = 2 ∧ isSpace c = true ∧ step EI i c = 3) := by
  have h012 : i = 0 ∨ i = 1 ∨ i = 2 := by omega
  rcases h012 with rfl | rfl | rfl
  · rw [step_zero]
    split
    · next h => exact .inl ⟨by decide, nofun, fun _ => ⟨hist, by rw [h]⟩⟩
    · exact .inl ⟨by decide, stateInv_zero _⟩
  · rw [step_one]
    split
    · next h =>
      obtain ⟨pre, hpre⟩ := hinv.2 rfl
      exact .inl ⟨by decide, fun _ => ⟨pre, by simp [hpre, h]⟩, nofun⟩
    · exact .inl ⟨by decide, stateInv_zero _⟩
  · rw [step_two]
    split
    · next h => exact .inr ⟨rfl, h, rfl⟩
    · exact .inl ⟨by decide, stateInv_zero _⟩

theorem scan_prefix : ∀ (l : Bytes) (i : Nat) (hist tail : Bytes) (n : Nat), i ≤ 2 → StateInv i hist →
    NoMarker (hist ++ l) →
    scan EI i (l ++ tail) n = scan EI (run i l) tail (n + l.length) ∧ StateInv (run i l) (hist ++ l) ∧ run i l ≤ 2
  | [], i, hist, tail, n, hi, hinv, _ => by simp [run, hi, hinv]
  | c :: cs, i, hist, tail, n, hi, hinv, hno => by
    have hstep : step EI i c ≤ 2 ∧ StateInv (step EI i c) (hist ++ [c]) := by
      rcases step_inv i c hist hi hinv with h | ⟨h2, hsp, _⟩
      · exact h
      · obtain ⟨pre, hpre⟩ := hinv.1 h2
        exact absurd (by simp [hpre]) (hno pre cs c hsp)
    obtain ⟨ih1, ih2, ih3⟩ := scan_prefix cs (step EI i c) (hist ++ [c]) tail (n + 1) hstep.1 hstep.2
      (by simpa using hno)
    rw [List.append_assoc] at ih2
    refine ⟨?_, ih2, ih3⟩
    rw [List.cons_append, scan, if_neg (by rw [EI_length]; omega), ih1, List.length_cons, Nat.add_assoc,
      Nat.add_comm 1]
    rfl

theorem scan_body (body tail : Bytes) (hno : NoMarker body) :
    scan EI 0 (body ++ tail) 0 = scan EI (run 0 body) tail body.length ∧ StateInv (run 0 body) body ∧
      run 0 body ≤ 2 := by
  simpa using scan_prefix body 0 [] tail 0 (by decide) (stateInv_zero _) hno

theorem run_snoc (i : Nat) (l : Bytes) (c : UInt8) : run i (l ++ [c]) = step EI (run i l) c := by
  simp [run]

/-- State 0 is what makes an `EI` that follows recognised: the automaton does not restart on `E`. -/
theorem run_zero_of_last (body : Bytes) (hno : NoMarker body)
    (hlast : ∀ c, body.getLast? = some c → c ≠ 69 ∧ c ≠ 73) : run 0 body = 0 := by
  rcases List.eq_nil_or_concat body with rfl | ⟨init, c, hbody⟩
  · rfl
  · rw [List.concat_eq_append] at hbody
    subst hbody
    have hc := hlast c (by simp)
    obtain ⟨_, hinv, hle⟩ := scan_body init []
      (fun pre post c' hc' heq => hno pre (post ++ [c]) c' hc' (by rw [heq]; simp))
    rw [run_snoc]
    have h012 : run 0 init = 0 ∨ run 0 init = 1 ∨ run 0 init = 2 := by omega
    rcases h012 with h | h | h
    · rw [h, step_zero, if_neg hc.1]
    · rw [h, step_one, if_neg hc.2]
    · rw [h, step_two, if_neg]
      intro hs
      obtain ⟨pre, hpre⟩ := hinv.1 h
      exact hno pre [] c hs (by rw [hpre]; simp)

theorem scan_marker (c : UInt8) (rest : Bytes) (n : Nat) (hc : isSpace c = true) :
    scan EI 0 (69 :: 73 :: c :: rest) n = some (n + 3, false) := by
  simp [scan, step_zero, step_one, step_two, hc, EI_length]

theorem scan_marker_eof (n : Nat) : scan EI 0 [69, 73] n = some (n + 2, true) := by
  simp [scan, step_zero, step_one, EI_length]

theorem stripEol_lf (d : Bytes) (h : d.getLast? ≠ some 13) : stripEol (d ++ [10]) = d := by
  rcases List.eq_nil_or_concat d with rfl | ⟨init, x, rfl⟩
  · rfl
  · have hx : x ≠ 13 := fun e => h (by simp [e])
    simp [stripEol, stripEolRev, hx]

theorem stripEol_crlf (d : Bytes) : stripEol (d ++ [13, 10]) = d := by
  simp [stripEol, stripEolRev]

theorem stripEol_cr (d : Bytes) : stripEol (d ++ [13]) = d := by
  simp [stripEol, stripEolRev]

/-- The end-of-line forms a writer puts between the data and `EI`. -/
def IsEol (sep : Bytes) : Prop := sep = [10] ∨ sep = [13, 10] ∨ sep = [13]

/-- What `get_inline_data` returns once the raw body (everything before the end marker) is known. -/
def finish (L : Option Nat) (body : Bytes) (n : Nat) : Option (Bytes × Nat) :=
  match L with
  | some len =>
    if body.drop len = [10] ∨ body.drop len = [13, 10] ∨ body.drop len = [13] then some (body.take len, n)
    else some (stripEol body, n)
  | none => some (stripEol body, n)

/-- `tail`: the marker, with its white-space byte unless the input ends there. -/
theorem getInlineDataLen_of_scan (L : Option Nat) {input body tail : Bytes} {n : Nat} {eof : Bool}
    (hs : scan EI 0 input 0 = some (n, eof)) (ht : input.take n = body ++ tail)
    (hl : tail.length = 2 + if eof then 0 else 1) : getInlineDataLen EI L input = finish L body n := by
  unfold getInlineDataLen
  rw [hs]
  simp only [ht, EI_length]
  rw [show (body ++ tail).length - (2 + if eof then 0 else 1) = body.length by rw [List.length_append, hl]; omega,
    List.take_left]
  cases L <;> rfl

theorem getInlineDataLen_behind (L : Option Nat) {body tail rest : Bytes} {eof : Bool} (hno : NoMarker body)
    (hs : scan EI (run 0 body) (tail ++ rest) body.length = some (body.length + tail.length, eof))
    (hl : tail.length = 2 + if eof then 0 else 1) :
    getInlineDataLen EI L (body ++ tail ++ rest) = finish L body (body.length + tail.length) := by
  rw [← (scan_body body (tail ++ rest) hno).1, ← List.append_assoc] at hs
  refine getInlineDataLen_of_scan L hs ?_ hl
  rw [← List.length_append, List.take_left]

theorem getInlineDataLen_body (L : Option Nat) (body rest : Bytes) (ws : UInt8) (hws : isSpace ws = true)
    (hno : NoMarker body) (hz : run 0 body = 0) :
    getInlineDataLen EI L (body ++ EI ++ ws :: rest) = finish L body (body.length + 3) := by
  have := getInlineDataLen_behind L (tail := [69, 73, ws]) (rest := rest) hno
    (by rw [hz]; exact scan_marker ws rest _ hws) rfl
  simpa [EI] using this

theorem eol_last (data sep : Bytes) (hsep : IsEol sep) :
    ∀ c, (data ++ sep).getLast? = some c → c ≠ 69 ∧ c ≠ 73 := by
  intro c hc
  rcases hsep with rfl | rfl | rfl <;> simp at hc <;> subst hc <;> decide

theorem getInlineDataLen_marker (L : Option Nat) (data sep rest : Bytes) (ws : UInt8) (hsep : IsEol sep)
    (hws : isSpace ws = true) (hno : NoMarker (data ++ sep)) :
    getInlineDataLen EI L (data ++ sep ++ EI ++ ws :: rest) = finish L (data ++ sep) ((data ++ sep).length + 3) :=
  getInlineDataLen_body L _ rest ws hws hno (run_zero_of_last _ hno (eol_last data sep hsep))

theorem getInlineDataLen_marker_eof (L : Option Nat) (data sep : Bytes) (hsep : IsEol sep)
    (hno : NoMarker (data ++ sep)) :
    getInlineDataLen EI L (data ++ sep ++ EI) = finish L (data ++ sep) ((data ++ sep).length + 2) := by
  have := getInlineDataLen_behind L (tail := EI) (rest := []) hno
    (by rw [run_zero_of_last _ hno (eol_last data sep hsep)]; exact scan_marker_eof _) rfl
  rwa [List.append_nil] at this

theorem finish_exact (data sep : Bytes) (n : Nat) (hsep : IsEol sep) :
    finish (some data.length) (data ++ sep) n = some (data, n) := by
  unfold finish
  simp only [List.drop_left, List.take_left]
  exact if_pos hsep

theorem finish_none_strip (data sep : Bytes) (n : Nat) (hsep : IsEol sep)
    (hcr : ¬ (sep = [10] ∧ data.getLast? = some 13)) : finish none (data ++ sep) n = some (data, n) := by
  unfold finish
  simp only []
  congr 2
  rcases hsep with rfl | rfl | rfl
  · exact stripEol_lf data (fun h => hcr ⟨rfl, h⟩)
  · exact stripEol_crlf data
  · exact stripEol_cr data

end PdfVerif.InlineLemmas

