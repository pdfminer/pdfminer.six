/-
Nested figures: page items that may be figures with items of their own (`FItem`), the recursion of
LTLayoutContainer.analyze / LTFigure.analyze over them (`analyzeFigs`, `analyzePage`, result `FOut`), the glyphs of an
item tree and of a result tree, and how the glyphs of a list of items split into those of its own level and those
inside its figures (`glyphsL_split`).  The tree-wide conservation theorem is in Props/C08.lean.
-/
import PdfVerif.Lemmas.LayoutResult
namespace PdfVerif.Layout
open PdfVerif PdfVerif.Gen.Layout

/-- A page item with nested figures (`LTFigure` is itself a layout container). -/
inductive FItem where
  | ch (g : Glyph)
  | other (id : Nat)
  | fig (id : Nat) (bb : BB) (children : List FItem)

/-- The analysed tree: an analysed container with its analysed figures, or an untouched figure. -/
inductive FOut where
  | node (id : Nat) (r : Result) (figs : List FOut)
  | raw (id : Nat) (items : List FItem)

/-- What the container itself sees: a figure is an opaque item. -/
def FItem.flat : FItem → Item
  | .ch g => .ch g
  | .other i => .other i
  | .fig i _ _ => .other i

mutual
def FItem.glyphs : FItem → List Glyph
  | .ch g => [g]
  | .other _ => []
  | .fig _ _ ch => glyphsL ch
def glyphsL : List FItem → List Glyph
  | [] => []
  | it :: rest => it.glyphs ++ glyphsL rest
end

/-- `obj.analyze(laparams)` for the figures among the items of a container that is being analysed
(`LTFigure.analyze`: nothing happens unless `all_texts`; otherwise `LTLayoutContainer.analyze`, which first
analyses the figure's own figures). -/
def analyzeFigs (le : Cmp) (allTexts : Bool) (p : LAParams) : List FItem → List FOut
  | [] => []
  | .fig id bb ch :: rest =>
    (if allTexts then FOut.node id (analyze le p bb (ch.map FItem.flat)) (analyzeFigs le allTexts p ch)
     else FOut.raw id ch) :: analyzeFigs le allTexts p rest
  | _ :: rest => analyzeFigs le allTexts p rest

/-- `LTPage.analyze(laparams)` with everything below it. -/
def analyzePage (le : Cmp) (allTexts : Bool) (p : LAParams) (bb : BB) (items : List FItem) : FOut :=
  .node 0 (analyze le p bb (items.map FItem.flat)) (analyzeFigs le allTexts p items)

mutual
def FOut.glyphs : FOut → List Glyph
  | .node _ r figs => r.children.flatMap Child.glyphs ++ outGlyphsL figs
  | .raw _ items => glyphsL items
def outGlyphsL : List FOut → List Glyph
  | [] => []
  | o :: rest => o.glyphs ++ outGlyphsL rest
end

mutual
def FItem.WfFigs : FItem → Prop
  | .ch _ => True
  | .other _ => True
  | .fig _ bb ch => WfPage bb ∧ wfFigsL ch
def wfFigsL : List FItem → Prop
  | [] => True
  | it :: rest => it.WfFigs ∧ wfFigsL rest
end


/-- Glyphs that sit inside the figures among `items` (at any depth). -/
def figGlyphsL : List FItem → List Glyph
  | [] => []
  | .fig _ _ ch :: rest => glyphsL ch ++ figGlyphsL rest
  | _ :: rest => figGlyphsL rest

theorem glyphsL_split : ∀ items : List FItem,
    (glyphsL items).Perm ((items.map FItem.flat).filterMap Item.glyph? ++ figGlyphsL items)
  | [] => by simp [glyphsL, figGlyphsL]
  | .ch g :: rest => by
    simp only [glyphsL, FItem.glyphs, figGlyphsL, List.map_cons, FItem.flat, List.filterMap_cons, Item.glyph?]
    exact List.Perm.cons g (glyphsL_split rest)
  | .other i :: rest => by
    simp only [glyphsL, FItem.glyphs, figGlyphsL, List.map_cons, FItem.flat, List.filterMap_cons, Item.glyph?, List.nil_append]
    exact glyphsL_split rest
  | .fig i bb ch :: rest => by
    simp only [glyphsL, FItem.glyphs, figGlyphsL, List.map_cons, FItem.flat, List.filterMap_cons, Item.glyph?]
    have ih := glyphsL_split rest
    refine (List.Perm.append_left _ ih).trans ?_
    simp only [← List.append_assoc]
    exact List.Perm.append_right _ List.perm_append_comm

end PdfVerif.Layout
