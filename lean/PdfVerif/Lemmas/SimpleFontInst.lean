/-
C06: the table facts (`TablesOK`) for the tables REGENERATED from the Python source, checked by the
kernel over the 4 281-entry glyph list and the 232 ENCODING rows.  An edit of glyphlist.py / latin_enc.py
that breaks one of the facts breaks this file.

The row facts use a certificate emitted by the translator (`ENCODING_GLYPH_INDEX`: chunk and offset
of each row name in the glyph list), so the kernel walks to 232 given positions instead of doing 232 linear searches.
The lifting lemmas are stated for arbitrary tables (so that the kernel never compares the big
literals structurally); only the two `decide +kernel` facts mention the generated constants.
-/
import PdfVerif.Spec.SimpleFontTables
import PdfVerif.Lemmas.SimpleFont
import PdfVerif.Lemmas.Agl

namespace PdfVerif.SimpleFont.Inst
open PdfVerif PdfVerif.SimpleFont PdfVerif.SimpleFont.Spec PdfVerif.Gen.FontTables

abbrev SGlyph := String × List Nat
abbrev SRow := String × Option Nat × Option Nat × Option Nat × Option Nat

def liftGlyphs (gl : List SGlyph) : GlyphList := gl.map (fun e => (e.1.toList, e.2))
def liftRows (rs : List SRow) : List EncRow := rs.map (fun r => (r.1.toList, r.2))

theorem liftGlyphs_ok (gl : List SGlyph) (h : gl.all (fun e => !e.2.isEmpty) = true) :
    GlyphListOK (liftGlyphs gl) := by
  intro e he
  simp only [liftGlyphs, List.mem_map] at he
  obtain ⟨x, hx, rfl⟩ := he
  have := List.all_eq_true.mp h x hx
  simpa using this

/-! ### names compared as bytes

The kernel is slow at comparing two `String`s and slower at turning one into its characters; the bytes of a literal it
has quickly.  So the certificate is checked on UTF-8 bytes, and the two lemmas below carry the result over. -/

def bytesOf (s : String) : List UInt8 := s.toByteArray.data.toList

theorem eq_of_bytesOf {s t : String} (h : bytesOf s = bytesOf t) : s = t :=
  String.toByteArray_inj.mp (ByteArray.ext (Array.ext' h))

/-- A `.` or `_` among the characters shows as the byte 46 or 95 of the UTF-8 encoding. -/
theorem plainName_of_bytes (s : String) (h : ∀ x ∈ bytesOf s, x.toNat ≠ 46 ∧ x.toNat ≠ 95) :
    plainName s.toList = true := by
  have hb : bytesOf s = s.toList.flatMap String.utf8EncodeChar := by
    rw [bytesOf, (congrArg String.toByteArray String.ofList_toList.symm).trans String.toByteArray_ofList,
      List.utf8Encode, List.toList_data_toByteArray]
  apply List.all_eq_true.mpr
  intro c hc
  have hmem : ∀ x ∈ String.utf8EncodeChar c, x ∈ bytesOf s := fun x hx => by
    rw [hb]; exact List.mem_flatMap.mpr ⟨c, hc, hx⟩
  simp only [Bool.and_eq_true, bne_iff_ne, ne_eq]
  constructor
  · rintro rfl
    exact (h 46 (hmem 46 (by decide))).1 rfl
  · rintro rfl
    exact (h 95 (hmem 95 (by decide))).2 rfl

/-- Equal byte strings that contain neither `.` (46) nor `_` (95). -/
def samePlain : List UInt8 → List UInt8 → Bool
  | [], [] => true
  | a :: as, b :: bs => a.toNat == b.toNat && a.toNat != 46 && a.toNat != 95 && samePlain as bs
  | _, _ => false

theorem samePlain_spec (a b : List UInt8) (h : samePlain a b = true) :
    a = b ∧ ∀ x ∈ a, x.toNat ≠ 46 ∧ x.toNat ≠ 95 := by
  fun_induction samePlain a b with
  | case1 => exact ⟨rfl, fun _ hx => by cases hx⟩
  | case2 a as b bs ih =>
    simp only [Bool.and_eq_true, beq_iff_eq, bne_iff_ne, ne_eq] at h
    obtain ⟨⟨⟨hab, h46⟩, h95⟩, hr⟩ := h
    obtain ⟨e, hp⟩ := ih hr
    refine ⟨by rw [UInt8.toNat_inj.mp hab, e], ?_⟩
    intro x hx
    rcases List.mem_cons.mp hx with rfl | hx
    · exact ⟨h46, h95⟩
    · exact hp x hx
  | case3 => cases h

/-- Every row name is the name at its position `(chunk, offset)` and has no period / underscore.  One pass: `cur` is
chunk `k` from offset `j` on, and a row further on in the same chunk is reached from there (the rows are nearly in
glyph-list order); any other row starts at the head of its chunk. -/
def rowsCert (chunks : List (List SGlyph)) : List SGlyph → Nat → Nat → List SRow → List (Nat × Nat) → Bool
  | _, _, _, [], _ => true
  | _, _, _, _ :: _, [] => false
  | cur, k, j, r :: rows, (k', j') :: idx =>
    match (if k' == k && j ≤ j' then cur.drop (j' - j) else ((chunks[k']?).getD []).drop j') with
    | e :: cur' => samePlain (bytesOf r.1) (bytesOf e.1) && rowsCert chunks (e :: cur') k' j' rows idx
    | [] => false

theorem rowsCert_sound (chunks : List (List SGlyph)) (rows : List SRow) (idx : List (Nat × Nat))
    (cur : List SGlyph) (k j : Nat) (hcur : cur = ((chunks[k]?).getD []).drop j)
    (h : rowsCert chunks cur k j rows idx = true) :
    ∀ r ∈ liftRows rows, plainName r.1 = true ∧ (glLookup (liftGlyphs chunks.flatten) r.1).isSome = true := by
  fun_induction rowsCert chunks cur k j rows idx with
  | case1 => intro r hr; cases hr
  | case2 => cases h
  | case3 cur k j r0 rows k' j' idx e cur' hd ih =>
    -- either way the cursor stands at offset `j'` of chunk `k'`
    have hpos : e :: cur' = ((chunks[k']?).getD []).drop j' := by
      rw [← hd]
      split
      · next hc =>
        simp only [Bool.and_eq_true, beq_iff_eq, decide_eq_true_eq] at hc
        rw [hcur, hc.1, List.drop_drop, Nat.add_sub_cancel' hc.2]
      · rfl
    simp only [Bool.and_eq_true] at h
    intro r hr
    rcases List.mem_cons.mp hr with rfl | hr
    · obtain ⟨hbytes, hplain⟩ := samePlain_spec _ _ h.1
      refine ⟨plainName_of_bytes r0.1 hplain, ?_⟩
      have he : e ∈ (chunks[k']?).getD [] := List.mem_of_mem_drop (hpos ▸ List.mem_cons_self)
      cases hk : chunks[k']? with
      | none => rw [hk] at he; cases he
      | some ch =>
        rw [hk] at he
        show (glLookup _ r0.1.toList).isSome = true
        rw [eq_of_bytesOf hbytes]
        exact glLookup_isSome_of_mem (e := (e.1.toList, e.2))
          (List.mem_map.mpr ⟨e, List.mem_flatten.mpr ⟨ch, List.mem_of_getElem? hk, he⟩, rfl⟩)
    · exact ih hpos h.2 r hr
  | case4 => cases h

theorem glyphList_values_nonempty : glyphList.all (fun e => !e.2.isEmpty) = true := by
  rw [glyphList, List.all_flatten]
  decide +kernel

theorem rows_cert :
    rowsCert glyphList_chunks [] glyphList_chunks.length 0 ENCODING ENCODING_GLYPH_INDEX = true := by decide +kernel

theorem glyphs_ok : GlyphListOK glyphs := liftGlyphs_ok glyphList glyphList_values_nonempty

theorem rows_listed (r : EncRow) (hr : r ∈ rows) :
    plainName r.1 = true ∧ (glLookup glyphs r.1).isSome = true :=
  rowsCert_sound glyphList_chunks ENCODING ENCODING_GLYPH_INDEX _ _ _ (by simp) rows_cert r hr

theorem rows_resolve : RowsResolve glyphs rows := fun r hr =>
  (plain_listed (rows_listed r hr).1 (rows_listed r hr).2).1

theorem rows_judged : ∀ r ∈ rows, judgedName glyphs (some r.1) = true := fun r hr =>
  (plain_listed (rows_listed r hr).1 (rows_listed r hr).2).2

end PdfVerif.SimpleFont.Inst
