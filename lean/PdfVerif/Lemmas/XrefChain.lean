/-
C02 — `read_xref_from` on the trailer chain of ANY number of revisions: each revision is a plain
section (table or stream, `/Prev` to the older one) or a hybrid pair (table with `/XRefStm` and
`/Prev`); the sections come out newest first, the table of a hybrid revision before its stream.
-/
import PdfVerif.Model.Xref
import PdfVerif.Spec.XrefHist

namespace PdfVerif.Xref

open PdfVerif.Gen.Xref

/-- The chain a writer lays down, seen from an optional start position: the positions visited, in
order, and the sections (with trailers) loaded there. -/
inductive Chain (ph : Phys) : Option Nat → List Nat → List (Section × Trailer) → Prop
  | done : Chain ph none [] []
  | plain {p d s tr ps rest} :
      lookupNat ph.secs p = some d → loadSection ph d = .ok (s, tr) → tr.xrefstm = none →
      Chain ph tr.prev ps rest → Chain ph (some p) (p :: ps) ((s, tr) :: rest)
  | hybrid {p x d dx s sx tr trx ps rest} :
      lookupNat ph.secs p = some d → loadSection ph d = .ok (s, tr) → tr.xrefstm = some x →
      lookupNat ph.secs x = some dx → loadSection ph dx = .ok (sx, trx) →
      trx.xrefstm = none → trx.prev = none →
      Chain ph tr.prev ps rest → Chain ph (some p) (p :: x :: ps) ((s, tr) :: (sx, trx) :: rest)
  /-- the oldest revision's `/Prev` points at itself (circular): the chain ends there -/
  | selfPlain {p d s tr} :
      lookupNat ph.secs p = some d → loadSection ph d = .ok (s, tr) → tr.xrefstm = none → tr.prev = some p →
      Chain ph (some p) [p] [(s, tr)]
  | selfHybrid {p x d dx s sx tr trx} :
      lookupNat ph.secs p = some d → loadSection ph d = .ok (s, tr) → tr.xrefstm = some x →
      lookupNat ph.secs x = some dx → loadSection ph dx = .ok (sx, trx) →
      trx.xrefstm = none → trx.prev = none → tr.prev = some p →
      Chain ph (some p) [p, x] [(s, tr), (sx, trx)]

/-- `if "Prev" in trailer: self.read_xref_from(…)` -/
def follow (ph : Phys) (fuel : Nat) (o : Option Nat) (st : List (Section × Trailer) × List Nat) :
    Except Err (List (Section × Trailer) × List Nat) :=
  match o with
  | some p => readXrefFrom ph fuel p st
  | none => .ok st

theorem readXrefFrom_step {ph : Phys} {fuel p : Nat} {acc : List (Section × Trailer)} {visited : List Nat}
    {d : SecDesc} {s : Section} {tr : Trailer} (hv : p ∉ visited)
    (hl : lookupNat ph.secs p = some d) (hd : loadSection ph d = .ok (s, tr)) :
    readXrefFrom ph (fuel + 1) p (acc, visited) =
      (follow ph fuel tr.xrefstm (acc ++ [(s, tr)], p :: visited)).bind (fun st => follow ph fuel tr.prev st) := by
  have hc : visited.contains p = false := by simpa using hv
  have g1 : tr.get "XRefStm" = tr.xrefstm := rfl
  have g2 : tr.get "Prev" = tr.prev := rfl
  simp only [readXrefFrom, hc, hl, hd, chainOrder, List.foldlM, g1, g2, Bool.false_eq_true, ↓reduceIte, bind_pure]
  rfl

theorem readXrefFrom_visited {ph : Phys} {fuel p : Nat} {acc : List (Section × Trailer)} {visited : List Nat}
    (h : p ∈ visited) : readXrefFrom ph (fuel + 1) p (acc, visited) = .ok (acc, visited) := by
  simp [readXrefFrom, h]

theorem readXrefFrom_plain {ph : Phys} {fuel p : Nat} {acc : List (Section × Trailer)} {visited : List Nat}
    {d : SecDesc} {s : Section} {tr : Trailer} (hv : p ∉ visited)
    (hl : lookupNat ph.secs p = some d) (hd : loadSection ph d = .ok (s, tr)) (hx : tr.xrefstm = none) :
    readXrefFrom ph (fuel + 1) p (acc, visited) = follow ph fuel tr.prev (acc ++ [(s, tr)], p :: visited) := by
  rw [readXrefFrom_step hv hl hd, hx]
  rfl

theorem readXrefFrom_hybrid {ph : Phys} {fuel p x : Nat} {acc : List (Section × Trailer)} {visited : List Nat}
    {d dx : SecDesc} {s sx : Section} {tr trx : Trailer} (hv : p ∉ visited) (hxv : x ∉ p :: visited)
    (hl : lookupNat ph.secs p = some d) (hd : loadSection ph d = .ok (s, tr)) (hx : tr.xrefstm = some x)
    (hlx : lookupNat ph.secs x = some dx) (hdx : loadSection ph dx = .ok (sx, trx))
    (hxx : trx.xrefstm = none) (hxp : trx.prev = none) :
    readXrefFrom ph (fuel + 2) p (acc, visited) =
      follow ph (fuel + 1) tr.prev (acc ++ [(s, tr)] ++ [(sx, trx)], x :: p :: visited) := by
  rw [readXrefFrom_step hv hl hd, hx, follow, readXrefFrom_plain hxv hlx hdx hxx, hxp]
  rfl

theorem unvisited_tail {p : Nat} {ps visited : List Nat} (hnd : (p :: ps).Nodup)
    (hdis : ∀ q ∈ p :: ps, q ∉ visited) : ∀ q ∈ ps, q ∉ p :: visited := by
  intro q hq hmem
  rcases List.mem_cons.mp hmem with h | h
  · exact (List.nodup_cons.mp hnd).1 (h ▸ hq)
  · exact hdis q (List.mem_cons_of_mem _ hq) h

theorem follow_chain {ph : Phys} {o : Option Nat} {ps : List Nat} {L : List (Section × Trailer)}
    (h : Chain ph o ps L) : ∀ (fuel : Nat) (acc : List (Section × Trailer)) (visited : List Nat),
      ps.length < fuel → (∀ p ∈ ps, p ∉ visited) → ps.Nodup →
      follow ph fuel o (acc, visited) = .ok (acc ++ L, ps.reverse ++ visited) := by
  induction h with
  | done => intro fuel acc visited _ _ _; simp [follow]
  | @plain p d s tr ps rest hl hd hx _ ih =>
    intro fuel acc visited hf hdis hnd
    obtain ⟨f, rfl⟩ := Nat.exists_eq_add_one_of_ne_zero (Nat.ne_of_gt (Nat.zero_lt_of_lt hf))
    rw [follow, readXrefFrom_plain (hdis p List.mem_cons_self) hl hd hx,
      ih f _ _ (Nat.lt_of_succ_lt_succ hf) (unvisited_tail hnd hdis) (List.nodup_cons.mp hnd).2]
    simp
  | @hybrid p x d dx s sx tr trx ps rest hl hd hx hlx hdx hxx hxp _ ih =>
    intro fuel acc visited hf hdis hnd
    obtain ⟨f, rfl⟩ := Nat.exists_eq_add_of_le' (Nat.le_of_lt (Nat.lt_of_le_of_lt (Nat.le_add_left 2 ps.length) hf))
    have hdis' := unvisited_tail hnd hdis
    have hnd' := (List.nodup_cons.mp hnd).2
    rw [follow, readXrefFrom_hybrid (hdis p List.mem_cons_self) (hdis' x List.mem_cons_self) hl hd hx hlx hdx hxx hxp,
      ih (f + 1) _ _ (Nat.lt_of_succ_lt_succ (Nat.lt_of_succ_lt hf)) (unvisited_tail hnd' hdis')
        (List.nodup_cons.mp hnd').2]
    simp
  | @selfPlain p d s tr hl hd hx hp =>
    intro fuel acc visited hf hdis _
    obtain ⟨f, rfl⟩ := Nat.exists_eq_add_of_le' (show 2 ≤ fuel from hf)
    rw [follow, readXrefFrom_plain (hdis p List.mem_cons_self) hl hd hx, hp, follow,
      readXrefFrom_visited List.mem_cons_self]
    simp
  | @selfHybrid p x d dx s sx tr trx hl hd hx hlx hdx hxx hxp hp =>
    intro fuel acc visited hf hdis hnd
    obtain ⟨f, rfl⟩ := Nat.exists_eq_add_of_le' (show 2 ≤ fuel from Nat.le_of_lt hf)
    rw [follow, readXrefFrom_hybrid (hdis p List.mem_cons_self) (unvisited_tail hnd hdis x List.mem_cons_self)
        hl hd hx hlx hdx hxx hxp, hp, follow, readXrefFrom_visited (List.mem_cons_of_mem _ List.mem_cons_self)]
    simp

theorem chainOf_sound (ph : Phys) (fuel : Nat) : ∀ (o : Option Nat) (ps : List Nat) (L : List (Section × Trailer)),
    chainOf ph fuel o = some (ps, L) → Chain ph o ps L := by
  intro o ps L h
  -- one case per branch of `chainOf`, in its order; a branch that answers `none` contradicts `h`
  fun_induction chainOf ph fuel o generalizing ps L with
  | case1 => cases h; exact .done
  | case2 => cases h
  | case3 => cases h
  | case4 => cases h
  | case5 fuel p d hl s tr hd hx hself => cases h; exact .selfPlain hl hd hx (beq_iff_eq.mp hself)
  | case6 fuel p d hl s tr hd hx _ ih =>
    obtain ⟨r, hc, hr⟩ := Option.map_eq_some_iff.mp h
    cases hr
    exact .plain hl hd hx (ih _ _ hc)
  | case7 => cases h
  | case8 => cases h
  | case9 fuel p d hl s tr hd x hx dx hlx sx trx hdx hleaf hself =>
    rw [Bool.and_eq_true, Option.isNone_iff_eq_none, Option.isNone_iff_eq_none] at hleaf
    cases h
    exact .selfHybrid hl hd hx hlx hdx hleaf.1 hleaf.2 (beq_iff_eq.mp hself)
  | case10 fuel p d hl s tr hd x hx dx hlx sx trx hdx hleaf _ ih =>
    rw [Bool.and_eq_true, Option.isNone_iff_eq_none, Option.isNone_iff_eq_none] at hleaf
    obtain ⟨r, hc, hr⟩ := Option.map_eq_some_iff.mp h
    cases hr
    exact .hybrid hl hd hx hlx hdx hleaf.1 hleaf.2 (ih _ _ hc)
  | case11 => cases h

end PdfVerif.Xref
