/-
C16: the interpreter model run on the tokens of structured operations stays in simulation (`Sim`) with the
specification: `curpath = enc path` (flat segment list = encoding of the sub-path records), graphics state,
saved states and colour spaces equal.  An operator behind its operands is run by `exec_op` (`exec_single`
and `exec_operands` for the painting operators and the `sc` family); no operator raises (`execute_ok`).
-/
import PdfVerif.Lemmas.Paths

set_option linter.constructorNameAsVariable false

namespace PdfVerif.PathLemmas
open PdfVerif PdfVerif.Paths PdfVerif.PathSpec PdfVerif.Gen.PathsGen

theorem enc_append (p q : List SubPath) : enc (p ++ q) = enc p ++ enc q := List.flatMap_append

theorem enc_singleton (sp : SubPath) : enc [sp] = enc1 sp := by rw [enc_cons]; exact List.append_nil _

theorem enc_ne_nil (stp : Point) (ph : Bool) (p : List SubPath) (hne : p ≠ []) (h : okFrom stp ph p) :
    enc p ≠ [] := by
  cases p with
  | nil => exact absurd rfl hne
  | cons a rest =>
    -- an implicit sub-path has a segment
    have h1 := h.1
    obtain ⟨s, segs, c, imp⟩ := a
    cases imp
    · simp [enc, enc1]
    · cases segs with
      | nil => exact absurd rfl (h1 rfl).2.2
      | cons g gs => simp [enc, enc1, tail1]

theorem enc_addSeg (s : Seg) (stp : Point) (ph : Bool) (p : List SubPath) (hne : p ≠ [])
    (h : okFrom stp ph p) :
    enc (addSeg s p) = enc p ++ [s.toPSeg] ∧ okFrom stp ph (addSeg s p) := by
  fun_induction addSeg s p generalizing stp ph with
  | case1 => exact absurd rfl hne
  | case2 sp hc => exact ⟨by simp [enc, enc1, tail1], h.1, fun _ => ⟨hc, rfl, by simp⟩, trivial⟩
  | case3 sp hc =>
    exact ⟨by simp [enc, enc1, tail1, hc], fun hi => ⟨(h.1 hi).1, (h.1 hi).2.1, by simp⟩, trivial⟩
  | case4 a rest hr ih =>
    have := ih a.start a.closed hr h.2
    exact ⟨by rw [enc_cons, this.1, enc_cons a, List.append_assoc], h.1, this.2⟩

theorem enc1_getLast (sp : SubPath) : (enc1 sp).getLast? = some PSeg.h ↔ sp.closed = true := by
  obtain ⟨s, segs, c, imp⟩ := sp
  cases c
  · rcases eq_nil_or_snoc segs with rfl | ⟨L, g, rfl⟩
    · cases imp <;> simp [enc1, tail1]
    · cases g <;> simp [enc1, tail1, List.getLast?_append, Seg.toPSeg]
  · simp [enc1, tail1, List.getLast?_append]

/-- `closeLast` is `do_h` (which does nothing when the flat list already ends with `h`). -/
theorem enc_closeLast (stp : Point) (ph : Bool) (p : List SubPath) (hne : p ≠ []) (h : okFrom stp ph p) :
    enc (closeLast p) = (if (enc p).getLast? = some PSeg.h then enc p else enc p ++ [PSeg.h]) ∧
      okFrom stp ph (closeLast p) := by
  fun_induction closeLast p generalizing stp ph with
  | case1 => exact absurd rfl hne
  | case2 sp =>
    refine ⟨?_, h.1, trivial⟩
    simp only [enc_singleton, enc1_getLast]
    cases hc : sp.closed <;> simp [enc1, tail1, hc]
  | case3 a rest hr ih =>
    have := ih a.start a.closed hr h.2
    have hn : enc rest ≠ [] := enc_ne_nil _ _ _ hr h.2
    have hl : (enc1 a ++ enc rest).getLast? = (enc rest).getLast? := by
      rw [List.getLast?_append]
      cases hq : (enc rest).getLast? with
      | none => exact absurd (List.getLast?_eq_none_iff.1 hq) hn
      | some x => rfl
    refine ⟨?_, h.1, this.2⟩
    rw [enc_cons, enc_cons, this.1, hl]
    split <;> simp

theorem exec_operands (os : List Operand) (rest : List Tok) (st : IState) :
    execute (os.map Tok.operand ++ rest) st = execute rest { st with argstack := st.argstack ++ os } := by
  induction os generalizing st with
  | nil => simp
  | cons o os ih =>
    simp only [List.map_cons, List.cons_append, execute, step]
    rw [ih]
    simp [List.append_assoc]

theorem exec_single (k : OpK) (st : IState) : execute [Tok.op k] st = doOp k st := by
  simp only [execute, step]
  cases doOp k st <;> rfl

theorem pop_append (n : Nat) (st : IState) (args : List Operand) (hn : n ≠ 0) (hl : args.length = n) :
    pop n { st with argstack := st.argstack ++ args } = (args, st) := by
  unfold pop
  simp only [hn, if_false, List.length_append, hl, Nat.add_sub_cancel]
  rw [List.drop_left, List.take_left]

/-- The number of operands `execute` pops for each modelled operator (`co_argcount - 1` of its `do_` method). -/
def arity : OpK → Nat
  | .c | .cm => 6
  | .v | .y | .re | .k | .K => 4
  | .rg | .RG => 3
  | .m | .l | .d => 2
  | .w | .J | .j | .M | .i | .ri | .gs | .g | .G | .cs | .CS => 1
  | _ => 0

theorem opNargs_lookup : ∀ k ∈ OpK.all, opNargs.lookup k.name = some (arity k) := by decide +kernel

theorem doOp_nullary (k : OpK) (hk : k ∈ OpK.all) (h0 : arity k = 0) (st : IState) : doOp k st = call k [] st := by
  unfold doOp
  rw [opNargs_lookup k hk, h0]
  rfl

theorem exec_op (k : OpK) (hk : k ∈ OpK.all) (args : List Operand) (hl : args.length = arity k) (st : IState) :
    execute (args.map Tok.operand ++ [.op k]) st = call k args st := by
  rw [exec_operands, exec_single]
  by_cases h0 : arity k = 0
  · obtain rfl : args = [] := List.length_eq_zero_iff.1 (hl.trans h0)
    simp only [List.append_nil]
    exact doOp_nullary k hk h0 st
  · unfold doOp
    simp only [opNargs_lookup k hk, h0, if_false, pop_append _ st args h0 hl, hl, if_true]

theorem nums_eq (xs : List Rat) : nums xs = (xs.map Operand.num).map Tok.operand := by
  simp [nums, List.map_map, Function.comp_def]

theorem exec_nums (k : OpK) (hk : k ∈ OpK.all) (xs : List Rat) (hl : xs.length = arity k) (st : IState) :
    execute (nums xs ++ [.op k]) st = call k (xs.map .num) st := by
  rw [nums_eq]
  exact exec_op k hk _ (by rw [List.length_map, hl]) st

def devOk (cs : SpaceMap) : Prop :=
  cs.lookup "DeviceGray" = some ⟨"DeviceGray", 1⟩ ∧ cs.lookup "DeviceRGB" = some ⟨"DeviceRGB", 3⟩ ∧
  cs.lookup "DeviceCMYK" = some ⟨"DeviceCMYK", 4⟩

structure Sim (cs : SpaceMap) (st : IState) (ss : SState) : Prop where
  ctm : st.ctm = ss.g.ctm
  gs : st.gs = gsOf ss.g
  gstack : st.gstack = ss.stack.map (fun g => (g.ctm, gsOf g))
  path : st.curpath = enc ss.path
  ok : okFrom (0, 0) false ss.path
  out : (st.out.filter hasSeg).map eraseRectPts = ss.out.map eraseRectPts
  csmap : st.csmap = cs

theorem okFrom_snoc_explicit (stp : Point) (ph : Bool) (p : List SubPath) (sp : SubPath)
    (himp : sp.implicit = false) (h : okFrom stp ph p) : okFrom stp ph (p ++ [sp]) := by
  induction p generalizing stp ph with
  | nil => exact ⟨by simp [himp], trivial⟩
  | cons a rest ih => exact ⟨h.1, ih _ _ h.2⟩

variable {cs : SpaceMap} {st : IState} {ss : SState}

abbrev Simulated (cs : SpaceMap) (st : IState) (ss : SState) (op : SOp) : Prop :=
  ∃ st', execute (tokens op) st = .ok st' ∧ Sim cs st' (stepS cs ss op)

theorem Sim.setG (hs : Sim cs st ss) (g : SGState) (hc : g.ctm = ss.g.ctm) :
    Sim cs { st with gs := gsOf g } { ss with g := g } :=
  { hs with ctm := hs.ctm.trans hc.symm, gs := rfl }

theorem Sim.setPath (hs : Sim cs st ss) (p : List SubPath) (hok : okFrom (0, 0) false p) :
    Sim cs { st with curpath := enc p } { ss with path := p } :=
  { hs with path := rfl, ok := hok }

theorem Sim.pushSub (hs : Sim cs st ss) (sp : SubPath) (himp : sp.implicit = false) :
    Sim cs { st with curpath := st.curpath ++ enc1 sp } { ss with path := ss.path ++ [sp] } := by
  have h := hs.setPath _ (okFrom_snoc_explicit _ _ _ sp himp hs.ok)
  rwa [enc_append, enc_singleton, ← hs.path] at h

theorem doH_eq (st : IState) :
    doH st = { st with curpath := if st.curpath.getLast? = some PSeg.h then st.curpath else st.curpath ++ [PSeg.h] } := by
  fun_cases doH st with
  | case1 h => simp [h]
  | case2 h => simp [show ¬ st.curpath.getLast? = some PSeg.h from fun hh => h hh, pushSeg]

theorem path_ne_nil {l : List SubPath} (h : (!l.isEmpty) = true) : l ≠ [] := by
  rintro rfl; cases h

theorem Sim.close (hs : Sim cs st ss) (hne : ss.path ≠ []) :
    Sim cs (doH st) { ss with path := closeLast ss.path } := by
  have ha := enc_closeLast (0, 0) false ss.path hne hs.ok
  have h := hs.setPath _ ha.2
  rw [ha.1, ← hs.path] at h
  exact doH_eq st ▸ h

theorem sim_seg (hs : Sim cs st ss) (s : Seg) (hok : opOk cs ss (.seg s) = true) : Simulated cs st ss (.seg s) := by
  have ha := enc_addSeg s (0, 0) false ss.path (path_ne_nil hok) hs.ok
  have h := hs.setPath _ ha.2
  rw [ha.1, ← hs.path] at h
  cases s with
  | l p => exact ⟨_, exec_nums .l (by decide) _ rfl st, doSeg_l p.1 p.2 st ▸ h⟩
  | c a b d => exact ⟨_, exec_nums .c (by decide) _ rfl st, doSeg_c a.1 a.2 b.1 b.2 d.1 d.2 st ▸ h⟩
  | v a b => exact ⟨_, exec_nums .v (by decide) _ rfl st, doSeg_v a.1 a.2 b.1 b.2 st ▸ h⟩
  | y a b => exact ⟨_, exec_nums .y (by decide) _ rfl st, doSeg_y a.1 a.2 b.1 b.2 st ▸ h⟩

theorem paintOps_lookup : ∀ k ∈ OpK.all, paintOps.lookup k.name = paintFlags k := by decide +kernel

theorem call_paint (k : OpK) (cl s f e : Bool) (h : paintFlags k = some (cl, s, f, e)) (args : List Operand)
    (st : IState) :
    call k args st = .ok { st with
      out := st.out ++ paintPath st.ctm ⟨st.gs, s, f, e⟩ (if cl then doH st else st).curpath, curpath := [] } := by
  have hc : (if cl then doH st else st) = { st with curpath := (if cl then doH st else st).curpath } := by
    cases cl
    · rfl
    · rw [if_pos rfl, doH_eq]
  -- per operator, the regenerated table `paintOps` is looked up by computation
  have : call k args st = .ok (doPaint (if cl then doH st else st) s f e) := by cases k <;> cases h <;> rfl
  rw [this, doPaint, hc]

theorem doOp_paint (k : OpK) (cl s f e : Bool) (h : paintFlags k = some (cl, s, f, e)) (st : IState) :
    doOp k st = .ok { st with
      out := st.out ++ paintPath st.ctm ⟨st.gs, s, f, e⟩ (if cl then doH st else st).curpath, curpath := [] } := by
  have hk : k ∈ OpK.all ∧ arity k = 0 := by
    cases k <;> first | (cases h; done) | exact ⟨by decide, rfl⟩
  rw [doOp_nullary k hk.1 hk.2, call_paint k cl s f e h]

theorem sim_paint (hs : Sim cs st ss) (k : OpK) (close stroke fill evenodd : Bool)
    (hok : opOk cs ss (.paint k close stroke fill evenodd) = true) :
    Simulated cs st ss (.paint k close stroke fill evenodd) := by
  simp only [opOk, paintOk, Bool.and_eq_true, beq_iff_eq, Bool.or_eq_true, Bool.not_eq_true'] at hok
  obtain ⟨hflags, hclose⟩ := hok
  have h1 : Sim cs (if close then doH st else st) { ss with path := if close then closeLast ss.path else ss.path } := by
    cases close
    · exact hs
    · exact hs.close (path_ne_nil (by simpa using hclose))
  refine ⟨_, (exec_single k st).trans (doOp_paint k _ _ _ _ hflags st), ?_⟩
  have hpp := paintPath_enc ss.g stroke fill evenodd _ (0, 0) h1.ok
  exact { hs.setPath [] trivial with
          out := by
            simp only [stepS, List.filter_append, List.map_append]
            rw [hs.out, hs.ctm, hs.gs, h1.path]
            exact congrArg _ (congrArg _ hpp) }

theorem sim_noop1 (hs : Sim cs st ss) (k : OpK) (o : Operand) (hok : opOk cs ss (.noop1 k o) = true) :
    Simulated cs st ss (.noop1 k o) := by
  have hk : k ∈ OpK.all ∧ 1 = arity k ∧ call k [o] st = .ok st := by
    cases k <;> first | cases hok | exact ⟨by decide, rfl, rfl⟩
  exact ⟨st, (exec_op k hk.1 [o] hk.2.1 st).trans hk.2.2, hs⟩

theorem sim_Q (hs : Sim cs st ss) : Simulated cs st ss .Q := by
  have hQ := exec_op .Q (by decide) [] rfl st
  have hg := hs.gstack
  cases hst : ss.stack with
  | nil =>
    rw [hst] at hg
    exact ⟨st, hQ.trans (by simp only [call, hg, List.map_nil]), by simp only [stepS, hst]; exact hs⟩
  | cons g rest =>
    rw [hst] at hg
    refine ⟨{ st with ctm := g.ctm, gs := gsOf g, gstack := rest.map (fun g => (g.ctm, gsOf g)) },
      hQ.trans (by simp only [call, hg, List.map_cons]), ?_⟩
    simp only [stepS, hst]
    exact { hs with ctm := rfl, gs := rfl, gstack := rfl }

theorem allNums_nums (xs : List Rat) : allNums (xs.map Operand.num) = some xs := by
  induction xs with
  | nil => rfl
  | cons x rest ih =>
    simp only [allNums, List.map_cons, List.mapM_cons, safeFloat] at ih ⊢
    rw [ih]; rfl

theorem gsOf_setCol (g : SGState) (b : Bool) (xs : List Rat) :
    gsOf (setCol g b (.comps xs)) =
      (if b then { gsOf g with scolor := some (.comps xs) } else { gsOf g with ncolor := some (.comps xs) }) := by
  cases b <;> rfl

theorem gsOf_setSp (g : SGState) (b : Bool) (sp : Space) :
    gsOf (setSp g b sp) = (if b then { gsOf g with scs := sp.n } else { gsOf g with ncs := sp.n }) := by
  cases b <;> rfl

theorem setColour_eq (st : IState) (g : SGState) (hg : st.gs = gsOf g) (b : Bool) (xs : List Rat) :
    setColour st b xs = { st with gs := gsOf (setCol g b (.comps xs)) } := by
  rw [gsOf_setCol, setColour, hg]; cases b <;> rfl

theorem setSpace_eq (st : IState) (g : SGState) (hg : st.gs = gsOf g) (b : Bool) (sp : Space) :
    setSpace st b sp.n = { st with gs := gsOf (setSp g b sp) } := by
  rw [gsOf_setSp, setSpace, hg]; cases b <;> rfl

theorem setColourOpt_eq (st : IState) (g : SGState) (hg : st.gs = gsOf g) (b : Bool) (c : Option Colour) :
    setColourOpt st b c = { st with gs := gsOf (if b then { g with scolor := c } else { g with ncolor := c }) } := by
  rw [setColourOpt, hg]; cases b <;> rfl

theorem sim_device (hs : Sim cs st ss) (b : Bool) (xs : List Rat)
    (name : String) (sp : Space) (hcs : cs.lookup name = some sp) :
    Sim cs (doDeviceColour st b name (xs.map Operand.num))
      { ss with g := setSp (setCol ss.g b (.comps xs)) b sp } := by
  have hl : csLookup st.csmap name = some sp := by rw [hs.csmap]; exact hcs
  have e : doDeviceColour st b name (xs.map Operand.num) = setSpace (setColour st b xs) b sp.n := by
    simp only [doDeviceColour, allNums_nums, hl, Option.map_some, Option.getD_some]
  rw [e, setColour_eq st ss.g hs.gs, setSpace_eq _ _ rfl]
  exact hs.setG _ (by cases b <;> rfl)

theorem isoInit_eq (name : String) (n : Nat) : isoInit ⟨name, n⟩ =
    if n = 0 ∨ n > 32 then none
    else if name = "Pattern" then none
    else if name = "DeviceCMYK" then some (.comps [0, 0, 0, 1])
    else if name = "Separation" ∨ name = "DeviceN" then some (.comps (List.replicate n 1))
    else some (.comps (List.replicate n 0)) := by
  fun_cases isoInit ⟨name, n⟩ <;> simp_all

theorem initialColour_eq_iso (sp : Space) : initialColour sp = isoInit sp := by
  obtain ⟨name, n⟩ := sp
  rw [isoInit_eq]
  -- the Boolean tests become propositions before the regenerated constants are unfolded (their `Decidable`
  -- instances mention the constants)
  simp only [initialColour, Bool.or_eq_true, beq_iff_eq, decide_eq_true_eq, or_assoc]
  have e : (n < 1 ∨ n > 32) ↔ (n = 0 ∨ n > 32) := by omega
  simp only [initNoneFamily, initMaxComponents, initCmykFamily, initCmyk, initOneFamilies, List.contains_cons,
    List.contains_nil, Bool.or_false, Bool.or_eq_true, beq_iff_eq, e]
  by_cases h0 : n = 0 ∨ n > 32
  · rw [if_pos (.inr h0), if_pos h0]
  · rw [if_neg h0]
    by_cases hp : name = "Pattern"
    · rw [if_pos (.inl hp), if_pos hp]
    · rw [if_neg (not_or.2 ⟨hp, h0⟩), if_neg hp]
      by_cases hc : name = "DeviceCMYK"
      · rw [if_pos hc, if_pos hc]
      · rw [if_neg hc, if_neg hc]
        by_cases hs : name = "Separation" ∨ name = "DeviceN"
        · rw [if_pos hs, if_pos hs]
        · rw [if_neg hs, if_neg hs]

theorem sim_cs (hs : Sim cs st ss) (b : Bool) (name : String) (hok : opOk cs ss (.cs b name) = true) :
    Simulated cs st ss (.cs b name) := by
  obtain ⟨sp, hsp⟩ := Option.isSome_iff_exists.1 hok
  have hl : csLookup st.csmap name = some sp := by rw [hs.csmap]; exact hsp
  refine ⟨doSelectSpace st b sp, ?_, ?_⟩
  · cases b
    · exact (exec_op .cs (by decide) [.name name] rfl st).trans (by simp only [call, hl])
    · exact (exec_op .CS (by decide) [.name name] rfl st).trans (by simp only [call, hl])
  · simp only [stepS, hsp]
    rw [doSelectSpace, setSpace_eq st ss.g hs.gs, setColourOpt_eq _ _ rfl, initialColour_eq_iso]
    exact hs.setG _ (by cases b <;> rfl)

/-- `do_scn` in closed form. -/
theorem doSetColourN_eq (st : IState) (b : Bool) :
    doSetColourN st b = .ok
      (let n := if b then st.gs.scs else st.gs.ncs
       if n = 0 ∨ (pop n st).1.length ≠ n then (pop n st).2
       else match allNums (pop n st).1 with
         | some xs => setColour (pop n st).2 b xs
         | none => (pop n st).2) := by
  unfold doSetColourN
  simp only
  generalize (if b = true then st.gs.scs else st.gs.ncs) = n
  by_cases h0 : n = 0
  · subst h0; rfl
  by_cases h1 : n = 1
  · -- one component: `pop 1` yields at most one operand, so testing the head is testing all
    subst h1
    have hlen : (pop 1 st).1.length ≤ 1 := by simp [pop]; omega
    rw [if_pos rfl]
    rcases h : (pop 1 st).1 with _ | ⟨x, _ | ⟨y, r⟩⟩
    · rfl
    · cases hx : safeFloat x <;> simp [allNums, hx]
    · rw [h] at hlen; simp at hlen
  · rw [if_neg h1, if_neg h0]
    by_cases hl : (pop n st).1.length ≠ n
    · rw [if_pos hl, if_pos (.inr hl)]
    · rw [if_neg hl, if_neg (not_or.2 ⟨h0, hl⟩)]
      cases allNums (pop n st).1 <;> rfl

theorem exec_sc (hs : Sim cs st ss) (k : OpK) (b : Bool) (hk : [OpK.sc, .scn, .SC, .SCN].contains k = true)
    (hb : b = (k == .SC || k == .SCN)) (args : List Operand)
    (hn : args.length = (if b then ss.g.sspace else ss.g.nspace).n)
    (h0 : (if b then ss.g.sspace else ss.g.nspace).n ≠ 0) :
    execute (args.map Tok.operand ++ [.op k]) st =
      .ok (match allNums args with | some xs => setColour st b xs | none => st) := by
  have hlen : args.length ≠ 0 := hn ▸ h0
  have hgs : (if b then st.gs.scs else st.gs.ncs) = args.length := by
    rw [hs.gs, hn]; cases b <;> rfl
  have hd : ∀ s, doOp k s = doSetColourN s b := by
    subst hb
    have hk4 : k = .sc ∨ k = .scn ∨ k = .SC ∨ k = .SCN := by simpa using List.contains_iff_mem.1 hk
    rcases hk4 with rfl | rfl | rfl | rfl <;> exact doOp_nullary _ (by decide) rfl
  rw [exec_operands, exec_single, hd, doSetColourN_eq]
  simp only [hgs, pop_append _ st args hlen rfl, hlen, ne_eq, not_true_eq_false, or_self, if_false]

theorem allNums_snoc_name (xs : List Rat) (p : String) :
    allNums (xs.map Operand.num ++ [Operand.name p]) = none := by
  induction xs with
  | nil => rfl
  | cons x rest ih =>
    simp only [allNums, List.map_cons, List.cons_append, List.mapM_cons, safeFloat] at ih ⊢
    rw [ih]; rfl

/-- Operations the proved simulation covers: no `sc`-family operator while a Pattern colour space is
current (open finding `pattern-colour-not-recorded`). -/
def supOk (ss : SState) : SOp → Bool
  | .sc _ stroking xs pat =>
    !(if stroking then ss.g.sspace else ss.g.nspace).pattern
  | _ => true

def supported (cs : SpaceMap) : List SOp → SState → Bool
  | [], _ => true
  | op :: rest, st => supOk st op && supported cs rest (stepS cs st op)

theorem sim_sc (hs : Sim cs st ss) (k : OpK) (b : Bool) (xs : List Rat) (pat : Option String)
    (hok : opOk cs ss (.sc k b xs pat) = true) (hsup : supOk ss (.sc k b xs pat) = true) :
    Simulated cs st ss (.sc k b xs pat) := by
  have hnp : (if b then ss.g.sspace else ss.g.nspace).pattern = false := by
    simpa [supOk] using hsup
  simp only [opOk, Bool.and_eq_true, beq_iff_eq] at hok
  obtain ⟨⟨hk, hb⟩, hsc⟩ := hok
  cases pat with
  | none =>
    simp [scOk, hnp] at hsc
    have ht : tokens (.sc k b xs none) = (xs.map Operand.num).map Tok.operand ++ [.op k] := by
      simp [tokens, nums_eq]
    have he := exec_sc hs k b hk hb (xs.map Operand.num) (by simpa using hsc.2) hsc.1
    simp only [allNums_nums] at he
    exact ⟨_, ht ▸ he, setColour_eq st ss.g hs.gs b xs ▸ hs.setG _ (by cases b <;> rfl)⟩
  | some p =>
    -- a name operand outside a Pattern space: the operator is ignored by both
    simp [scOk, hnp] at hsc
    have ht : tokens (.sc k b xs (some p)) =
        (xs.map Operand.num ++ [Operand.name p]).map Tok.operand ++ [.op k] := by
      simp [tokens, nums_eq]
    have he := exec_sc hs k b hk hb (xs.map Operand.num ++ [.name p]) (by simpa using hsc.2) hsc.1
    simp only [allNums_snoc_name] at he
    exact ⟨st, ht ▸ he, by simp only [stepS, hnp, Bool.false_eq_true, if_false]; exact hs⟩

theorem sim_bad (hs : Sim cs st ss) (k : OpK) (args : List Operand) (hok : opOk cs ss (.bad k args) = true) :
    Simulated cs st ss (.bad k args) := by
  refine ⟨st, ?_, hs⟩
  simp only [opOk, badOk, Bool.and_eq_true, Option.isNone_iff_eq_none, beq_iff_eq] at hok
  obtain ⟨hbad, har⟩ := hok
  change allNums args = none at hbad
  have fixed : k ∈ OpK.all → some (arity k) = some args.length → call k args st = .ok st →
      execute (tokens (.bad k args)) st = .ok st :=
    fun hk hl hc => (exec_op k hk args (Option.some.inj hl).symm st).trans hc
  have family : [OpK.sc, .scn, .SC, .SCN].contains k = true →
      some (if (k == .SC || k == .SCN) then ss.g.sspace else ss.g.nspace).n = some args.length →
      execute (tokens (.bad k args)) st = .ok st := by
    intro hk hn
    have hlen : args.length ≠ 0 := by
      intro h0
      obtain rfl : args = [] := List.length_eq_zero_iff.1 h0
      cases hbad
    have he := exec_sc hs k _ hk rfl args (Option.some.inj hn).symm (Option.some.inj hn ▸ hlen)
    simp only [hbad] at he
    exact he
  cases k
  case m | l | c | v | y =>
    exact fixed (by decide) har (congrArg Except.ok (doSeg_bad _ args st hbad))
  case re | cm | g | G | rg | RG | k | K =>
    exact fixed (by decide) har (by simp only [call, doDeviceColour, hbad])
  case w =>
    obtain ⟨x, rfl⟩ := List.length_eq_one_iff.1 (Option.some.inj har).symm
    have hx : safeFloat x = none := by
      cases h : safeFloat x with
      | none => rfl
      | some r => simp [allNums, h] at hbad
    exact fixed (by decide) rfl (by simp [call, hx])
  case sc | scn | SC | SCN =>
    simp only [numArity] at har
    split at har
    · cases har
    · exact family (by decide) har
  all_goals cases har

/-- Where the operator's method reduces by computation, the new model state is read off `exec_op` by unification and
the relation follows from one of `Sim.pushSub`, `Sim.setPath`, `Sim.setG`, `Sim.close`. -/
theorem sim_step (hdev : devOk cs) (hs : Sim cs st ss) (op : SOp) (hok : opOk cs ss op = true)
    (hsup : supOk ss op = true) : Simulated cs st ss op := by
  cases op with
  | m p =>
    exact ⟨_, exec_nums .m (by decide) _ rfl st, doSeg_m p.1 p.2 st ▸ hs.pushSub ⟨p, [], false, false⟩ rfl⟩
  | seg s => exact sim_seg hs s hok
  | h => exact ⟨_, exec_op .h (by decide) [] rfl st, hs.close (path_ne_nil hok)⟩
  | re x y w h =>
    exact ⟨_, exec_nums .re (by decide) _ rfl st,
      hs.pushSub ⟨(x, y), [.l (x + w, y), .l (x + w, y + h), .l (x, y + h)], true, false⟩ rfl⟩
  | paint k c s f e => exact sim_paint hs k c s f e hok
  | n => exact ⟨_, exec_op .n (by decide) [] rfl st, hs.setPath [] trivial⟩
  | clip star => cases star <;> exact ⟨_, exec_op _ (by decide) [] rfl st, hs⟩
  | w r => exact ⟨_, exec_nums .w (by decide) _ rfl st, hs.gs ▸ hs.setG { ss.g with linewidth := r } rfl⟩
  | d arr ph =>
    exact ⟨_, exec_op .d (by decide) [.arr arr, .num ph] rfl st, hs.gs ▸ hs.setG { ss.g with dash := some (arr, ph) } rfl⟩
  | noop1 k o => exact sim_noop1 hs k o hok
  | gray b x => cases b <;> exact ⟨_, exec_nums _ (by decide) _ rfl st, sim_device hs _ [x] _ _ hdev.1⟩
  | rgb b r g bl =>
    cases b <;> exact ⟨_, exec_nums _ (by decide) _ rfl st, sim_device hs _ [r, g, bl] _ _ hdev.2.1⟩
  | cmyk b c m y k =>
    cases b <;> exact ⟨_, exec_nums _ (by decide) _ rfl st, sim_device hs _ [c, m, y, k] _ _ hdev.2.2⟩
  | cs b name => exact sim_cs hs b name hok
  | sc k b xs pat => exact sim_sc hs k b xs pat hok hsup
  | q =>
    exact ⟨_, exec_op .q (by decide) [] rfl st,
      { hs with gstack := by simp only [stepS, List.map_cons, hs.gstack, hs.ctm, hs.gs] }⟩
  | Q => exact sim_Q hs
  | cm a b c d e f =>
    exact ⟨_, exec_nums .cm (by decide) _ rfl st,
      { hs with ctm := congrArg (mult_matrix (a, b, c, d, e, f)) hs.ctm }⟩
  | bad k args => exact sim_bad hs k args hok

theorem execute_append (a b : List Tok) (st st' : IState) (h : execute a st = .ok st') :
    execute (a ++ b) st = execute b st' := by
  fun_induction execute a st with
  | case1 st => cases h; rfl
  | case2 st t rest s1 hs ih => simp only [List.cons_append, execute, hs]; exact ih h
  | case3 st t rest e hs => cases h

theorem sim_run (hdev : devOk cs) (prog : List SOp) (st : IState) (ss : SState)
    (hs : Sim cs st ss) (hwf : wf cs prog ss = true) (hsup : supported cs prog ss = true) :
    ∃ st', execute (progTokens prog) st = .ok st' ∧ Sim cs st' (runS cs prog ss) := by
  induction prog generalizing st ss with
  | nil => exact ⟨st, rfl, hs⟩
  | cons op rest ih =>
    simp only [wf, Bool.and_eq_true] at hwf
    simp only [supported, Bool.and_eq_true] at hsup
    obtain ⟨st1, he, hs1⟩ := sim_step hdev hs op hwf.1 hsup.1
    obtain ⟨st2, he2, hs2⟩ := ih st1 (stepS cs ss op) hs1 hwf.2 hsup.2
    exact ⟨st2, (execute_append _ (progTokens rest) _ _ he).trans he2, hs2⟩

theorem csInsert_head (k0 : String) (sp0 : CSpace) (rest0 : List (String × CSpace)) (name : String) (sp : CSpace) :
    ∃ sp' rest', csInsert ((k0, sp0) :: rest0) name sp = (k0, sp') :: rest' := by
  unfold csInsert
  split
  · simp only [List.map_cons]
    by_cases he : (k0 == name) = true
    · obtain rfl := eq_of_beq he
      simp only [he, if_true]
      exact ⟨_, _, rfl⟩
    · simp only [he, Bool.false_eq_true, if_false]
      exact ⟨_, _, rfl⟩
  · exact ⟨_, _, rfl⟩

theorem initSpaces_head (res : List (String × CsSpec)) :
    ∃ sp rest, initSpaces res = ("DeviceGray", sp) :: rest := by
  unfold initSpaces initCsmap
  have h0 : ∃ sp rest, PREDEFINED_COLORSPACE.map (fun e => (e.1, (⟨e.1, e.2⟩ : CSpace))) =
      ("DeviceGray", sp) :: rest := ⟨_, _, rfl⟩
  generalize PREDEFINED_COLORSPACE.map (fun e => (e.1, (⟨e.1, e.2⟩ : CSpace))) = m at h0
  induction res generalizing m with
  | nil => exact h0
  | cons e rest ih =>
    simp only [List.foldl_cons]
    apply ih
    obtain ⟨sp, r, rfl⟩ := h0
    obtain ⟨name, spec⟩ := e
    cases spec with
    | named base =>
      simp only
      cases PREDEFINED_COLORSPACE.lookup base with
      | none => exact ⟨_, _, rfl⟩
      | some n => exact csInsert_head _ _ _ _ _
    | _ => exact csInsert_head _ _ _ _ _

theorem sim_init (ctm : Matrix) (res : List (String × CsSpec)) (hdev : devOk (initSpaces res)) :
    Sim (initSpaces res) (initState ctm res) (initS ctm) := by
  -- the first colour space of the map is DeviceGray (`initSpaces_head`), with one component by `hdev`
  obtain ⟨sp, rest, hh⟩ := initSpaces_head res
  obtain rfl : sp = ⟨"DeviceGray", 1⟩ := by simpa [hh, List.lookup_cons] using hdev.1
  have hc : initCsmap res = ("DeviceGray", ⟨"DeviceGray", 1⟩) :: rest := hh
  exact { ctm := rfl, gs := by simp [initState, hc, initS, gsOf], gstack := rfl, path := rfl, ok := trivial,
          out := rfl, csmap := rfl }

theorem pop_gstack (n : Nat) (st : IState) : (pop n st).2.gstack = st.gstack := by
  fun_cases pop n st <;> rfl

theorem call_total (k : OpK) (args : List Operand) (st : IState) :
    ∃ st', call k args st = .ok st' ∧ (k ≠ .q → k ≠ .Q → st'.gstack = st.gstack) := by
  have hseg : ∀ k, (doSeg k args st).gstack = st.gstack := fun k => by fun_cases doSeg k args st <;> rfl
  have hdev : ∀ b n, (doDeviceColour st b n args).gstack = st.gstack := fun b n => by
    fun_cases doDeviceColour st b n args <;> cases b <;> rfl
  have hsc : ∀ b, ∃ st', doSetColourN st b = .ok st' ∧ st'.gstack = st.gstack := fun b => by
    refine ⟨_, doSetColourN_eq st b, ?_⟩
    dsimp only
    generalize (if b = true then st.gs.scs else st.gs.ncs) = n
    split
    · exact pop_gstack n st
    · split
      · cases b <;> exact pop_gstack n st
      · exact pop_gstack n st
  cases k
  case m | l | c | v | y => exact ⟨_, rfl, fun _ _ => hseg _⟩
  case g | G | rg | RG | k | K => exact ⟨_, rfl, fun _ _ => hdev _ _⟩
  case h => exact ⟨_, rfl, fun _ _ => by rw [doH_eq]⟩
  case sc | scn | SC | SCN =>
    exact (hsc _).imp fun _ h => ⟨h.1, fun _ _ => h.2⟩
  case q => exact ⟨_, rfl, fun h => absurd rfl h⟩
  case n | W | Wstar | J | j | M | i | ri | gs | other => exact ⟨_, rfl, fun _ _ => rfl⟩
  case Q =>
    simp only [call]
    split <;> exact ⟨_, rfl, fun _ h => absurd rfl h⟩
  case S | s | f | F | fstar | B | Bstar | b | bstar =>
    exact ⟨_, call_paint _ _ _ _ _ rfl args st, fun _ _ => rfl⟩
  all_goals
    simp only [call]
    repeat' split
    all_goals exact ⟨_, rfl, fun _ _ => rfl⟩

theorem doOp_total (k : OpK) (st : IState) :
    ∃ st', doOp k st = .ok st' ∧ (k ≠ .q → k ≠ .Q → st'.gstack = st.gstack) := by
  fun_cases doOp k st with
  | case1 => exact ⟨_, rfl, fun _ _ => rfl⟩
  | case2 => exact call_total _ _ _
  | case3 args st' hn h0 hp =>
    have hg' : st'.gstack = st.gstack := (congrArg (·.2.gstack) hp).symm.trans (pop_gstack _ _)
    obtain ⟨st'', h, hg⟩ := call_total k args st'
    exact ⟨st'', h, fun hq hQ => (hg hq hQ).trans hg'⟩
  | case4 n _ _ vals st' hp _ =>
    exact ⟨_, rfl, fun _ _ => (congrArg (·.2.gstack) hp).symm.trans (pop_gstack _ _)⟩

theorem execute_ok (toks : List Tok) (st : IState) : ∃ st', execute toks st = .ok st' := by
  induction toks generalizing st with
  | nil => exact ⟨st, rfl⟩
  | cons t rest ih =>
    have hs : ∃ s1, step st t = .ok s1 := by
      cases t with
      | operand o => exact ⟨_, rfl⟩
      | op k => exact (doOp_total k st).imp fun _ h => h.1
    obtain ⟨s1, h1⟩ := hs
    simp only [execute, h1]
    exact ih s1

end PdfVerif.PathLemmas
