/-
C19: the parser model on EVERY bit string.  From a well-typed state (`WT`) a bit leads to `InvalidData`,
to EOFB or to a well-typed state, so the internal `unmodelled` branches (a table handing out a symbol of
the wrong kind, a node that is not a list) are unreachable; and it appends at most six lines to the output
(six = the longest uncompressed-mode symbol; a T.6 mode code completes at most one line).
-/
import PdfVerif.Lemmas.CcittImage

namespace PdfVerif.Ccitt
open PdfVerif.Gen

def Trie.allLeaves (p : Sym → Bool) : Trie → Bool
  | .empty => true
  | .leaf s => p s
  | .node l r => Trie.allLeaves p l && Trie.allLeaves p r

/-- The kind of symbol each `_accept` callback can digest. -/
def leafOk : Acc → Sym → Bool
  | .mode, .mode _ => true
  | .horiz1, .run _ => true
  | .horiz2, .run _ => true
  | .unc, .unc u => (!u.term || !u.bits.isEmpty) && decide (u.bits.length ≤ 6)
  | _, _ => false

/-- `_state` is an inner node of the table that goes with `_accept`. -/
structure WT (st : St) : Prop where
  isNode : st.node.isNode = true
  leaves : st.node.allLeaves (leafOk st.acc) = true

theorem Trie.allLeaves_of_leaves {p : Sym → Bool} {t : Trie} (h : ∀ e ∈ t.leaves, p e.1 = true) :
    t.allLeaves p = true := by
  induction t with
  | empty => rfl
  | leaf s => exact h (s, []) (List.mem_singleton.mpr rfl)
  | node l r ihl ihr =>
    simp only [Trie.leaves, List.mem_append, List.mem_map] at h
    simp only [Trie.allLeaves, Bool.and_eq_true]
    exact ⟨ihl fun e he => h (e.1, false :: e.2) (Or.inl ⟨e, he, rfl⟩),
      ihr fun e he => h (e.1, true :: e.2) (Or.inr ⟨e, he, rfl⟩)⟩

theorem Trie.Stores.wt {t : Trie} {tbl : List (Sym × List Bool)} (h : t.Stores tbl) {st : St}
    (hn : st.node = t) (hp : ∀ e ∈ tbl, leafOk st.acc e.1 = true) : WT st :=
  ⟨hn ▸ h.root, hn ▸ Trie.allLeaves_of_leaves fun e he => hp e (h.leaves_subset he)⟩

theorem forall_mem_map_fst {α : Type} {f : α → Sym} {p : Sym → Bool} (hp : ∀ a, p (f a) = true)
    (l : List (α × List Bool)) : ∀ e ∈ l.map (fun e => (f e.1, e.2)), p e.1 = true := by
  intro e he
  obtain ⟨x, _, rfl⟩ := List.mem_map.mp he
  exact hp x.1

theorem wt_mode (st : St) (ha : st.acc = .mode) (hn : st.node = modeTrie) : WT st :=
  mode_stores.wt hn (ha ▸ forall_mem_map_fst (fun _ => rfl) _)

theorem InRun.wt {st : St} (h : InRun st) : WT st := by
  have hp : ∀ tbl : List (Nat × List Bool), ∀ e ∈ tbl.map (fun e => (Sym.run e.1, e.2)),
      leafOk st.acc e.1 = true := by
    intro tbl
    rcases h.acc with ha | ha <;> rw [ha] <;> exact forall_mem_map_fst (fun _ => rfl) tbl
  have hn := h.node
  cases hc : st.color <;> rw [hc] at hn
  · exact black_stores.wt hn (hp _)
  · exact white_stores.wt hn (hp _)

theorem uncTbl_ok : ∀ e ∈ uncTbl, leafOk .unc e.1 = true := by decide +kernel

theorem wt_unc (st : St) (ha : st.acc = .unc) (hn : st.node = uncTrie) : WT st :=
  unc_stores.wt hn (ha ▸ uncTbl_ok)

theorem WT.child {st : St} (h : WT st) {l r : Trie} (hn : st.node = .node l r) (b : Bool) :
    Trie.allLeaves (leafOk st.acc) (if b then r else l) = true := by
  have hl := h.leaves
  rw [hn] at hl
  simp only [Trie.allLeaves, Bool.and_eq_true] at hl
  cases b
  · exact hl.1
  · exact hl.2

def StepOk : Except Err (St × Sig) → Prop
  | .error e => e = .invalidData
  | .ok (_, .eofb) => True
  | .ok (st', _) => WT st'

def lineBytes (w : Nat) : Nat := (w + 7) / 8

theorem packLine_length (rv : Bool) (l : List Bool) : (packLine rv l).length = lineBytes l.length := by
  cases rv <;> simp [packLine, outLen_nat, lineBytes]

/-- The geometry `_flush_line` relies on (width `w`, a current line of that length), and at most `k` lines
of output so far.  A plain conjunction, so that it holds of `{ st with acc := _, node := _ }` as it holds of `st`. -/
def OutBound (w k : Nat) (st : St) : Prop :=
  st.width = w ∧ st.curline.length = w ∧ st.buf.length ≤ k * lineBytes w

def OutBoundR (w k : Nat) : Except Err (St × Sig) → Prop
  | .error _ => True
  | .ok (st', _) => OutBound w k st'

theorem OutBound.mono {w j k : Nat} {st : St} (h : OutBound w j st) (hjk : j ≤ k) : OutBound w k st :=
  ⟨h.1, h.2.1, Nat.le_trans h.2.2 (Nat.mul_le_mul_right _ hjk)⟩

theorem OutBound.same {w k : Nat} {st st' : St} (h : OutBound w k st) (hw : st'.width = st.width)
    (hl : st'.curline.length = st.curline.length) (hb : st'.buf = st.buf) : OutBound w k st' :=
  ⟨hw.trans h.1, hl.trans h.2.1, hb ▸ h.2.2⟩

theorem flushLine_bound {w k : Nat} {st : St} (h : OutBound w k st) : OutBound w (k + 1) (flushLine st).1 := by
  simp only [flushLine]
  split
  · refine ⟨h.1, by simp [resetLine, h.1], ?_⟩
    simp only [resetLine, List.length_append, packLine_length, h.2.1, Nat.add_mul, Nat.one_mul]
    exact Nat.add_le_add_right h.2.2 _
  · exact h.mono (Nat.le_add_right k 1)

theorem flushLine_acc (st : St) : (flushLine st).1.acc = st.acc := by
  simp only [flushLine]; split <;> rfl

theorem afterFlush_ok {st0 st : St} (hw : st.width = st0.width) (hl : st.curline.length = st0.curline.length)
    (hb : st.buf = st0.buf) :
    StepOk (.ok (afterFlush st)) ∧ ∀ w k, OutBound w k st0 → OutBoundR w (k + 6) (.ok (afterFlush st)) := by
  simp only [afterFlush]
  refine ⟨?_, fun w k g => ?_⟩
  · generalize flushLine st = r
    obtain ⟨st', skip⟩ := r
    cases skip <;> exact wt_mode _ rfl rfl
  · have := flushLine_bound (g.same hw hl hb)
    generalize flushLine st = r at this
    exact this.mono (by omega)

/-- An update of the registers `_n1`, `_n2`, `_color`, `_accept`, `_state` only. -/
theorem regs_ok {st st' : St} (hwt : WT st') (hw : st'.width = st.width)
    (hl : st'.curline.length = st.curline.length) (hb : st'.buf = st.buf) :
    StepOk (.ok (st', .cont)) ∧ ∀ w k, OutBound w k st → OutBoundR w (k + 6) (.ok (st', .cont)) :=
  ⟨hwt, fun _ _ g => (g.same hw hl hb).mono (Nat.le_add_right _ 6)⟩

theorem doVertical_length (st : St) (d : Int) : (doVertical st d).curline.length = st.curline.length := by
  simp only [doVertical]
  split
  · exact fill_length ..
  · split
    · exact fill_length ..
    · rfl

theorem doPass_length (st : St) : (doPass st).curline.length = st.curline.length := by
  simp only [doPass, fill_length]
  split
  · exact fill_length ..
  · rfl

theorem doHorizontal_length (st : St) (n1 n2 : Nat) :
    (doHorizontal st n1 n2).curline.length = st.curline.length := by
  simp only [doHorizontal, fill_length]

/-- With the regenerated indices (`bits[1]`, `bits[2:]` of `"T…"`): first bit = colour, rest = data. -/
theorem uncSplit_cons (c : Bool) (rest : List Bool) : uncSplit (c :: rest) = some (c, rest) := rfl
theorem uncSplit_nil : uncSplit [] = none := rfl

/-- Every pixel of an uncompressed-mode symbol may complete a line. -/
theorem doUncompressed_ok : ∀ (bits : List Bool) (st : St),
    (doUncompressed st bits).1.acc = st.acc ∧
      ∀ w k, OutBound w k st → OutBound w (k + bits.length) (doUncompressed st bits).1 := by
  intro bits
  induction bits with
  | nil => intro st; exact ⟨rfl, fun _ _ g => g⟩
  | cons c cs ih =>
    intro st
    rw [doUncompressed_cons]
    have hacc : (flushLine (putPixel st c)).1.acc = st.acc := flushLine_acc _
    have hf : ∀ w k, OutBound w k st → OutBound w (k + 1) (flushLine (putPixel st c)).1 := fun w k g =>
      flushLine_bound (g.same rfl (fill_length ..) rfl)
    split
    · exact ⟨hacc, fun w k g => (hf w k g).mono (by simp only [List.length_cons]; omega)⟩
    · exact ⟨(ih _).1.trans hacc, fun w k g =>
        ((ih _).2 w _ (hf w k g)).mono (by simp only [List.length_cons]; omega)⟩

theorem accept_ok (st : St) (v : Option Sym) (hv : ∀ s, v = some s → leafOk st.acc s = true) :
    StepOk (accept st v) ∧ ∀ w k, OutBound w k st → OutBoundR w (k + 6) (accept st v) := by
  cases v with
  | none => rw [accept_none]; exact ⟨rfl, fun _ _ _ => trivial⟩
  | some s =>
    have hs := hv s rfl
    unfold accept
    cases ha : st.acc with
    | mode =>
      rw [ha] at hs
      cases s with
      | run n => cases hs
      | unc u => cases hs
      | mode m =>
        cases m with
        | p => simp only [parseMode, modeAction_p]; exact afterFlush_ok rfl (doPass_length st) rfl
        | h => simp only [parseMode, modeAction_h]; exact regs_ok (InRun.wt ⟨.inl rfl, rfl⟩) rfl rfl rfl
        | u => simp only [parseMode, modeAction_u]; exact regs_ok (wt_unc _ rfl rfl) rfl rfl rfl
        | e => simp only [parseMode, modeAction_e]; exact ⟨trivial, fun _ _ g => g.mono (Nat.le_add_right _ 6)⟩
        | x n => simp only [parseMode, modeAction_x]; exact ⟨rfl, fun _ _ _ => trivial⟩
        | v d => exact afterFlush_ok rfl (doVertical_length st d) rfl
    | horiz1 =>
      rw [ha] at hs
      cases s with
      | run n =>
        simp only [parseHoriz1]
        split
        · exact regs_ok (InRun.wt ⟨.inr rfl, rfl⟩) rfl rfl rfl
        · exact regs_ok (InRun.wt ⟨.inl ha, rfl⟩) rfl rfl rfl
      | _ => cases hs
    | horiz2 =>
      rw [ha] at hs
      cases s with
      | run n =>
        simp only [parseHoriz2]
        split
        · exact afterFlush_ok rfl (doHorizontal_length ..) rfl
        · exact regs_ok (InRun.wt ⟨.inr ha, rfl⟩) rfl rfl rfl
      | _ => cases hs
    | unc =>
      rw [ha] at hs
      cases s with
      | mode m => cases hs
      | run n => cases hs
      | unc u =>
        simp only [leafOk, Bool.and_eq_true, Bool.or_eq_true, Bool.not_eq_true', decide_eq_true_eq] at hs
        obtain ⟨hne, hlen⟩ := hs
        simp only [parseUncompressed]
        by_cases ht : u.term = true
        · rw [if_pos ht]
          cases hb : u.bits with
          | nil =>
            rw [hb] at hne
            rcases hne with h | h
            · rw [h] at ht; cases ht
            · cases h
          | cons c rest =>
            rw [hb, List.length_cons] at hlen
            simp only [uncSplit_cons]
            have g := (doUncompressed_ok rest { st with acc := .mode, color := c }).2
            generalize doUncompressed _ rest = r at g
            obtain ⟨st', skip⟩ := r
            exact ⟨by cases skip <;> exact wt_mode _ rfl rfl, fun w k h => (g w k h).mono (by omega)⟩
        · rw [if_neg ht]
          obtain ⟨hacc, g⟩ := doUncompressed_ok u.bits st
          generalize doUncompressed st u.bits = r at hacc g
          obtain ⟨st', skip⟩ := r
          have g' : ∀ w k, OutBound w k st → OutBound w (k + 6) st' := fun w k h => (g w k h).mono (by omega)
          cases skip
          · exact ⟨wt_unc _ (hacc.trans ha) rfl, g'⟩
          · exact ⟨wt_mode _ rfl rfl, g'⟩

theorem stepBit_ok (st : St) (b : Bool) (h : WT st) :
    StepOk (stepBit st b) ∧ ∀ w k, OutBound w k st → OutBoundR w (k + 6) (stepBit st b) := by
  unfold stepBit
  cases hn : st.node with
  | empty => have := h.isNode; rw [hn] at this; cases this
  | leaf s => have := h.isNode; rw [hn] at this; cases this
  | node l r =>
    have hch := h.child hn b
    simp only []
    cases hc : (if b then r else l) with
    | node a c => rw [hc] at hch; exact regs_ok ⟨rfl, hch⟩ rfl rfl rfl
    | empty => exact accept_ok { st with node := .empty } none nofun
    | leaf s =>
      rw [hc] at hch
      exact accept_ok { st with node := .empty } (some s) (by intro s' hs'; cases hs'; exact hch)

theorem OutBoundR.mono {w j k : Nat} {r : Except Err (St × Sig)} (h : OutBoundR w j r) (hjk : j ≤ k) :
    OutBoundR w k r := by
  cases r with
  | error e => trivial
  | ok p => exact OutBound.mono (st := p.1) h hjk

theorem feedBits_ok (bits : List Bool) (st : St) (h : WT st) :
    StepOk (feedBits st bits) ∧
      ∀ w k, OutBound w k st → OutBoundR w (k + 6 * bits.length) (feedBits st bits) := by
  fun_induction feedBits st bits with
  | case1 st => exact ⟨h, fun _ _ g => g⟩
  | case2 st b bs e hr =>
    have hs := (stepBit_ok st b h).1
    rw [hr] at hs
    exact ⟨hs, fun _ _ _ => trivial⟩
  | case3 st b bs st' hr ih =>
    obtain ⟨hs, hg⟩ := stepBit_ok st b h
    rw [hr] at hs hg
    exact ⟨(ih hs).1, fun w k g => ((ih hs).2 w _ (hg w k g)).mono (by simp only [List.length_cons]; omega)⟩
  | case4 st b bs st' s _ hr =>
    obtain ⟨hs, hg⟩ := stepBit_ok st b h
    rw [hr] at hs hg
    exact ⟨hs, fun w k g => (hg w k g).mono (by simp only [List.length_cons]; omega)⟩

/-- 48 = 8 bits, each of which appends at most six lines. -/
theorem feedBytes_ok (data : List UInt8) (st : St) {w k : Nat} (h : WT st) (g : OutBound w k st) :
    (∃ st', feedBytes st data = .ok st' ∧ OutBound w (k + 48 * data.length) st') ∨
      feedBytes st data = .error .invalidData := by
  fun_induction feedBytes st data generalizing k with
  | case1 st => exact Or.inl ⟨st, rfl, g⟩
  | case2 st b bs e hr =>
    have hs := (feedBits_ok (bitsOfByte b) st h).1
    rw [hr] at hs
    exact Or.inr (congrArg _ hs)
  | case3 st b bs st' hr =>
    have hg := (feedBits_ok (bitsOfByte b) st h).2 w k g
    rw [hr, bitsOfByte_length] at hg
    exact Or.inl ⟨st', rfl, OutBound.mono hg (by simp only [List.length_cons]; omega)⟩
  | case4 st b bs st' s hne hr ih =>
    obtain ⟨hs, hg⟩ := feedBits_ok (bitsOfByte b) st h
    have hg := hg w k g
    rw [hr] at hs hg
    rw [bitsOfByte_length] at hg
    have hwt : WT st' := by
      cases s with
      | eofb => exact (hne rfl).elim
      | cont | byteSkip => exact hs
    have hk : k + 6 * 8 + 48 * bs.length = k + 48 * (b :: bs).length := by
      simp only [List.length_cons]; omega
    exact hk ▸ ih hwt hg

theorem initSt_outBound (w : Nat) (al rv : Bool) : OutBound w 0 (initSt w al rv) :=
  ⟨rfl, List.length_replicate .., Nat.zero_le _⟩

end PdfVerif.Ccitt
