/-
C19: `BlackIs1` (`reversed`) is read by `output_line` only.  Two parsers that
differ in nothing but `reversed` stay in lock-step on EVERY input (also damaged data): same errors,
same signals, and their buffers are the packings of one and the same list of rows with the two
polarities.

Once `b` is replaced by what `Twin` says it is, every state update that neither reads nor writes
`reversed` / `buf` keeps the twins together by `rfl`; only `_flush_line` needs an argument.
-/
import PdfVerif.Lemmas.CcittLine

namespace PdfVerif.Ccitt
open PdfVerif.Gen

/-- `a` is the parser with `reversed = false`, `b` the one with `reversed = true`; `L` = rows emitted so far. -/
structure Twin (L : List (List Bool)) (a b : St) : Prop where
  rev : a.reversed = false
  bufa : a.buf = L.flatMap (packLine false)
  eq : b = { a with reversed := true, buf := L.flatMap (packLine true) }

theorem Twin.color {L : List (List Bool)} {a b : St} (h : Twin L a b) : b.color = a.color := by
  rw [h.eq]

def TwinR (ra rb : Except Err (St × Sig)) : Prop :=
  match ra with
  | .error e => rb = .error e
  | .ok (a, s) => ∃ b L, rb = .ok (b, s) ∧ Twin L a b

theorem flushLine_twin {L : List (List Bool)} {a b : St} (h : Twin L a b) :
    ∃ L' a' b' skip, flushLine a = (a', skip) ∧ flushLine b = (b', skip) ∧ Twin L' a' b' := by
  obtain ⟨hr, hb, rfl⟩ := h
  simp only [flushLine]
  split
  · exact ⟨L ++ [a.curline], _, _, _, rfl, rfl, hr, by simp [resetLine, hb, hr], by simp [resetLine, hr]⟩
  · exact ⟨L, _, _, _, rfl, rfl, hr, hb, rfl⟩

theorem afterFlush_twin {L : List (List Bool)} {a b : St} (h : Twin L a b) :
    TwinR (.ok (afterFlush a)) (.ok (afterFlush b)) := by
  obtain ⟨L', a', b', skip, ha, hb, hr', hb', rfl⟩ := flushLine_twin h
  simp only [afterFlush, ha, hb]
  exact ⟨_, L', rfl, hr', hb', rfl⟩

theorem doUncompressed_twin : ∀ (bits : List Bool) {L : List (List Bool)} {a b : St}, Twin L a b →
    ∃ L' a' b' skip, doUncompressed a bits = (a', skip) ∧ doUncompressed b bits = (b', skip) ∧ Twin L' a' b' := by
  intro bits
  induction bits with
  | nil => intro L a b h; exact ⟨L, a, b, false, rfl, rfl, h⟩
  | cons c cs ih =>
    intro L a b h
    have h1 : Twin L (putPixel a c) (putPixel b c) := by obtain ⟨hr, hb, rfl⟩ := h; exact ⟨hr, hb, rfl⟩
    obtain ⟨L', a', b', skip, ha', hb', h'⟩ := flushLine_twin h1
    rw [doUncompressed_cons, doUncompressed_cons, ha', hb']
    cases skip
    · exact ih h'
    · exact ⟨L', a', b', true, rfl, rfl, h'⟩

theorem accept_twin {L : List (List Bool)} {a b : St} (h : Twin L a b) (v : Option Sym) :
    TwinR (accept a v) (accept b v) := by
  have hacc : b.acc = a.acc := by rw [h.eq]
  unfold accept
  rw [hacc]
  generalize a.acc = acc
  obtain ⟨hr, hb, rfl⟩ := h
  cases acc with
  | mode =>
    simp only [parseMode]
    cases modeAction v with
    | pass => exact afterFlush_twin (L := L) ⟨hr, hb, rfl⟩
    | horiz => exact ⟨_, L, rfl, hr, hb, rfl⟩
    | unc => exact ⟨_, L, rfl, hr, hb, rfl⟩
    | eofb => exact ⟨_, L, rfl, hr, hb, rfl⟩
    | invalid => exact rfl
    | vertical =>
      cases v with
      | none => exact rfl
      | some s =>
        cases s with
        | run n => exact afterFlush_twin (L := L) ⟨hr, hb, rfl⟩
        | unc u => exact rfl
        | mode m =>
          cases m with
          | v d => exact afterFlush_twin (L := L) ⟨hr, hb, rfl⟩
          | _ => exact rfl
  | horiz1 =>
    cases v with
    | none => exact rfl
    | some s =>
      cases s with
      | run n =>
        simp only [parseHoriz1]
        split <;> exact ⟨_, L, rfl, hr, hb, rfl⟩
      | _ => exact rfl
  | horiz2 =>
    cases v with
    | none => exact rfl
    | some s =>
      cases s with
      | run n =>
        simp only [parseHoriz2]
        split
        · exact afterFlush_twin (L := L) ⟨hr, hb, rfl⟩
        · exact ⟨_, L, rfl, hr, hb, rfl⟩
      | _ => exact rfl
  | unc =>
    cases v with
    | none => exact rfl
    | some s =>
      cases s with
      | mode m => exact rfl
      | run n => exact rfl
      | unc u =>
        simp only [parseUncompressed]
        split
        · cases uncSplit u.bits with
          | none => exact rfl
          | some cr =>
            obtain ⟨L', a', b', skip, ha', hb', hr', hbuf', rfl⟩ :=
              doUncompressed_twin cr.2 (L := L) (a := { a with acc := .mode, color := cr.1 }) ⟨hr, hb, rfl⟩
            simp only [ha', hb']
            exact ⟨_, L', rfl, hr', hbuf', rfl⟩
        · obtain ⟨L', a', b', skip, ha', hb', hr', hbuf', rfl⟩ :=
            doUncompressed_twin u.bits (L := L) ⟨hr, hb, rfl⟩
          simp only [ha', hb']
          cases skip <;> exact ⟨_, L', rfl, hr', hbuf', rfl⟩

theorem stepBit_twin {L : List (List Bool)} {a b : St} (h : Twin L a b) (x : Bool) :
    TwinR (stepBit a x) (stepBit b x) := by
  have hnode : b.node = a.node := by rw [h.eq]
  unfold stepBit
  rw [hnode]
  cases a.node with
  | empty => exact rfl
  | leaf s => exact rfl
  | node l r =>
    obtain ⟨hr, hb, rfl⟩ := h
    simp only []
    cases (if x then r else l) with
    | node a' c' => exact ⟨_, L, rfl, hr, hb, rfl⟩
    | empty => exact accept_twin (L := L) (a := { a with node := .empty }) ⟨hr, hb, rfl⟩ none
    | leaf s => exact accept_twin (L := L) (a := { a with node := .empty }) ⟨hr, hb, rfl⟩ (some s)

theorem feedBits_twin (bits : List Bool) {L : List (List Bool)} {a b : St} (h : Twin L a b) :
    TwinR (feedBits a bits) (feedBits b bits) := by
  fun_induction feedBits a bits generalizing L b with
  | case1 a => exact ⟨b, L, rfl, h⟩
  | case2 a x xs e hr =>
    have hs := stepBit_twin h x
    rw [hr] at hs
    simp only [feedBits, show stepBit b x = _ from hs]
    rfl
  | case3 a x xs a' hr ih =>
    have hs := stepBit_twin h x
    rw [hr] at hs
    obtain ⟨b', L', hrb, h'⟩ := hs
    simp only [feedBits, hrb]
    exact ih h'
  | case4 a x xs a' s hne hr =>
    have hs := stepBit_twin h x
    rw [hr] at hs
    obtain ⟨b', L', hrb, h'⟩ := hs
    simp only [feedBits, hrb]
    cases s with
    | cont => exact (hne rfl).elim
    | byteSkip | eofb => exact ⟨b', L', rfl, h'⟩

def TwinF (ra rb : Except Err St) : Prop :=
  match ra with
  | .error e => rb = .error e
  | .ok a => ∃ b L, rb = .ok b ∧ Twin L a b

theorem feedBytes_twin (data : List UInt8) {L : List (List Bool)} {a b : St} (h : Twin L a b) :
    TwinF (feedBytes a data) (feedBytes b data) := by
  fun_induction feedBytes a data generalizing L b with
  | case1 a => exact ⟨b, L, rfl, h⟩
  | case2 a x xs e hr =>
    have hs := feedBits_twin (bitsOfByte x) h
    rw [hr] at hs
    simp only [feedBytes, show feedBits b _ = _ from hs]
    rfl
  | case3 a x xs a' hr =>
    have hs := feedBits_twin (bitsOfByte x) h
    rw [hr] at hs
    obtain ⟨b', L', hrb, h'⟩ := hs
    simp only [feedBytes, hrb]
    exact ⟨b', L', rfl, h'⟩
  | case4 a x xs a' s hne hr ih =>
    have hs := feedBits_twin (bitsOfByte x) h
    rw [hr] at hs
    obtain ⟨b', L', hrb, h'⟩ := hs
    simp only [feedBytes, hrb]
    cases s with
    | eofb => exact (hne rfl).elim
    | cont | byteSkip => exact ih h'
end PdfVerif.Ccitt
