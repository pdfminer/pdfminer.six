/-
Lemmas for C13: the stream decoders of `Model/Filters.lean` (the model C03 ties to ascii85.py / runlength.py /
lzw.py) on ARBITRARY, i.e. damaged, input.  One `Outcome` per decoder: the output length is bounded by a stated
function of the input length, and the errors it can raise are named; a predictor, whatever its parameters, returns no
more than it was given.
-/
import PdfVerif.Model.Filters
import PdfVerif.Lemmas.FiltersLit
import PdfVerif.Lemmas.Outcome

namespace PdfVerif.Filters
open PdfVerif

/-- `isDecodeError` is the handler `except _DECODE_ERRORS` of `PDFStream.decode` (tuple regenerated from pdftypes.py). -/
theorem isDecodeError_eq (e : Err) :
    e.isDecodeError = match e with | .pdfValue | .pdfNotImplemented | .psEOF | .outOfModel => false | _ => true := by
  cases e <;> decide

theorem rldecodeAux_outcome (fuel : Nat) (data : Bytes) :
    Outcome (fun e => e = .runtimeError ∨ e = .stopIteration) (fun out => out.length ≤ 128 * data.length)
      (rldecodeAux fuel data) := by
  fun_induction rldecodeAux fuel data
  case case4 => exact Or.inl rfl
  case case5 hr ih =>
    have := ih.ok_of hr
    simp only [Outcome, List.length_append, List.length_take, List.length_drop, List.length_cons] at this ⊢
    omega
  case case7 => exact Or.inr rfl
  case case8 l _ hl _ _ _ hr ih =>
    -- a repeat run emits `257 - l` bytes with `l > 128`, from two bytes of input
    have := ih.ok_of hr
    simp only [Gen.Filters.rlIsLiteral, Nat.zero_le, decide_true, Bool.true_and, decide_eq_true_eq] at hl
    simp only [Outcome, Gen.Filters.rlRepeatCount, List.length_append, List.length_replicate, List.length_cons] at this ⊢
    omega
  case case6 hr ih | case9 hr ih => exact ih.error_of hr
  all_goals exact Nat.zero_le _

theorem unhexlify_outcome (t : Bytes) :
    Outcome (fun e => e = .binascii) (fun out => 2 * out.length = t.length) (unhexlify t) := by
  fun_induction unhexlify t
  case case3 hr ih =>
    have := ih.ok_of hr
    simp only [Outcome, List.length_cons]
    omega
  case case4 hr ih => exact ih.error_of hr
  all_goals exact rfl

theorem asciihexdecode_outcome (data : Bytes) :
    Outcome (fun e => e = .binascii) (fun out => 2 * out.length ≤ data.length + 1) (asciihexdecode data) := by
  rw [asciihexdecode_lit]
  have hf : (data.filter (fun b => !isWs b)).length ≤ data.length := List.length_filter_le _ _
  have ht := (List.takeWhile_sublist (l := data.filter (fun b => !isWs b)) (fun b => b != 62)).length_le
  dsimp only
  split
  · split
    · refine (unhexlify_outcome _).mono fun out h => ?_
      simp only [List.length_append, List.length_cons, List.length_nil] at h
      omega
    · exact (unhexlify_outcome _).mono fun out h => by omega
  · exact (unhexlify_outcome _).mono fun out h => by omega

theorem a85loop_outcome (b : Bytes) (curr : List Nat) :
    Outcome (fun e => e = .valueError) (fun p => p.1.length ≤ 4 * b.length) (a85loop curr b) := by
  fun_induction a85loop curr b
  case case1 => exact Nat.zero_le _
  case case2 | case6 | case10 => exact rfl
  -- a full group or a `z` emits four bytes and goes on from an empty group
  case case3 hr ih | case7 hr ih =>
    have := ih.ok_of hr
    simp only [Outcome, be32, List.length_append, List.length_cons, List.length_nil] at this ⊢
    omega
  case case4 hr ih | case8 hr ih => exact ih.error_of hr
  case case5 ih | case9 ih => exact ih.mono fun p h => by simp only [List.length_cons]; omega

theorem a85decode_outcome (b : Bytes) :
    Outcome (fun e => e = .valueError) (fun out => out.length ≤ 4 * b.length + 16) (a85decode b) := by
  rw [a85decode_lit]
  have hloop := a85loop_outcome (b ++ [117, 117, 117, 117]) []
  split
  · next e hr => exact hloop.error_of hr
  · next res curr hr =>
    have := hloop.ok_of hr
    simp only [List.length_append, List.length_cons, List.length_nil] at this
    simp only [Outcome]
    split
    · simp only [List.length_take]; omega
    · omega

section strip
open List

theorem dropLt_sublist (l : Bytes) : dropLt l <+ l := by
  unfold dropLt
  split
  · exact sublist_cons_self _ _
  · exact .refl _

theorem stripStart_sublist (d : Bytes) : stripStart d <+ d := by
  unfold stripStart
  split
  · next t ht =>
    have h : 126 :: t <+ d :=
      ht ▸ (dropWhile_sublist _).trans ((dropLt_sublist _).trans (dropWhile_sublist _))
    exact (dropWhile_sublist _).trans ((sublist_cons_self _ _).trans h)
  · exact .refl _

theorem stripEnd_sublist (d : Bytes) : stripEnd d <+ d := by
  unfold stripEnd
  have h0 : d.reverse.dropWhile isWs <+ d.reverse := dropWhile_sublist _
  -- what is left of `x :: t = d.reverse.dropWhile isWs`, reversed, is part of `d`
  have tail : ∀ {x : UInt8} {t s : Bytes}, x :: t <+ d.reverse → s <+ t → s.reverse <+ d := fun h hs =>
    reverse_reverse d ▸ reverse_sublist.mpr (hs.trans ((sublist_cons_self _ _).trans h))
  split
  · next t ht => exact tail (ht ▸ h0) (dropWhile_sublist _)
  · next t ht =>
    split
    · next t2 ht2 =>
      exact tail (ht ▸ h0) ((dropWhile_sublist _).trans ((sublist_cons_self _ _).trans (ht2 ▸ dropWhile_sublist _)))
    · exact .refl _
  · exact .refl _

end strip

theorem ascii85decode_outcome (data : Bytes) :
    Outcome (fun e => e = .valueError) (fun out => out.length ≤ 4 * data.length + 16) (ascii85decode data) := by
  have hs := ((stripEnd_sublist _).trans (stripStart_sublist data)).length_le
  exact (a85decode_outcome _).mono fun out h => by omega

def LzwBound (st : LzwSt) (m : Nat) : Prop :=
  (∀ e ∈ st.ext, e.length ≤ m) ∧ (∀ p, st.prev = some p → p.length ≤ m) ∧ 1 ≤ m

theorem tableGet_len {st : LzwSt} {m : Nat} (hI : LzwBound st m) (code : Nat) (x : Bytes)
    (h : tableGet st code = some x) : x.length ≤ m := by
  revert h
  fun_cases tableGet st code
  case case2 => intro h; cases h; exact hI.2.2
  case case4 => exact fun h => hI.1 x (List.mem_of_getElem? h)
  all_goals exact nofun

theorem LzwBound.succ {st : LzwSt} {m : Nat} (h : LzwBound st m) : LzwBound st (m + 1) :=
  ⟨fun e he => Nat.le_succ_of_le (h.1 e he), fun p hp => Nat.le_succ_of_le (h.2.1 p hp), Nat.le_succ_of_le h.2.2⟩

def FeedRes.Bounded (m : Nat) : FeedRes → Prop
  | .ok st x => LzwBound st (m + 1) ∧ x.length ≤ m + 1
  | _ => True

theorem feedGrow_bounded {st : LzwSt} {m : Nat} (hI : LzwBound st m) (entry x : Bytes)
    (he : entry.length ≤ m + 1) (hx : x.length ≤ m + 1) : (feedGrow st entry x).Bounded m := by
  rw [feedGrow_lit]
  refine ⟨⟨fun e hm => ?_, fun p hp => by cases hp; exact hx, by omega⟩, hx⟩
  rcases List.mem_append.mp hm with h1 | h1
  · exact Nat.le_succ_of_le (hI.1 e h1)
  · cases List.mem_singleton.mp h1; exact he

theorem feed_bounded {st : LzwSt} {m : Nat} (hI : LzwBound st m) (code : Nat) : (feed st code).Bounded m := by
  -- the new entry is the previous output and one byte more
  have h1 : ∀ p l : Bytes, st.prev = some p → (p ++ l.take 1).length ≤ m + 1 := fun p l hp => by
    have := hI.2.1 p hp
    simp only [List.length_append, List.length_take]; omega
  -- the branches of `feed`: clear code, end-of-data code, no previous output (`None` or empty), previous output `p`
  fun_cases feed st code
  case case1 => exact ⟨⟨nofun, fun p hp => by cases hp; exact Nat.zero_le _, by omega⟩, Nat.zero_le _⟩
  case case2 => exact ⟨hI.succ, Nat.zero_le _⟩
  case case3 y hy | case5 y hy =>
    have := tableGet_len hI _ _ hy
    exact ⟨⟨hI.succ.1, fun p hp => by cases hp; omega, hI.succ.2.2⟩, by omega⟩
  case case7 hp _ y hy => exact feedGrow_bounded hI _ _ (h1 _ y hp) (Nat.le_succ_of_le (tableGet_len hI _ _ hy))
  case case9 hp _ _ => exact feedGrow_bounded hI _ _ (h1 _ _ hp) (h1 _ _ hp)
  all_goals trivial

/-- One unit of fuel per code, and the `k`-th code emits at most `m + k` bytes. -/
theorem lzwRunB_outcome (fuel : Nat) (st : LzwSt) (rest : Bytes) (buff bpos m : Nat) (hI : LzwBound st m) :
    Outcome (fun e => e = .indexError) (fun out => out.length ≤ fuel * (m + fuel)) (lzwRunB fuel st rest buff bpos) := by
  have e : ∀ f m : Nat, (f + 1) * (m + (f + 1)) = f * (m + 1 + f) + (m + 1 + f) := fun f m => by
    rw [Nat.succ_mul, Nat.add_assoc m 1 f, Nat.add_comm 1 f]
  fun_induction lzwRunB fuel st rest buff bpos generalizing m
  case case4 => exact rfl
  case case5 hf _ hr ih =>
    have hi : (FeedRes.ok _ _).Bounded m := hf ▸ feed_bounded hI _
    have := (ih _ hi.1).ok_of hr
    have hx := hi.2
    simp only [Outcome, List.length_append, Nat.succ_eq_add_one, e]
    omega
  case case6 hf _ hr ih =>
    have hi : (FeedRes.ok _ _).Bounded m := hf ▸ feed_bounded hI _
    exact (ih _ hi.1).error_of hr
  all_goals exact Nat.zero_le _

theorem lzwdecode_outcome (data : Bytes) :
    Outcome (fun e => e = .indexError) (fun out => out.length ≤ (8 * data.length + 1) * (8 * data.length + 2))
      (lzwdecode data) :=
  (lzwRunB_outcome _ _ _ _ _ 1 ⟨(by intro e he; cases he), (by intro p hp; cases hp), Nat.le_refl 1⟩).mono
    fun out h => by rw [Nat.add_comm 1] at h; exact h

theorem pngRowLoop_len (ft bpp : Nat) (above enc raw : Bytes) :
    Outcome (fun _ => True) (fun out => out.length = raw.length + enc.length) (pngRowLoop ft bpp above raw enc) := by
  fun_induction pngRowLoop ft bpp above raw enc
  case case1 => exact rfl
  case case3 | case6 => trivial
  case case2 ih | case4 ih | case5 ih =>
    exact ih.mono fun out h => by
      simp only [List.length_append, List.length_cons, List.length_nil] at h ⊢; omega

theorem pngRow_len (ft : UInt8) (bpp : Nat) (above enc : Bytes) :
    Outcome (fun _ => True) (fun out => out.length ≤ enc.length) (pngRow ft bpp above enc) := by
  fun_cases pngRow ft bpp above enc
  case case1 => exact Nat.le_refl _
  case case2 => simp only [Outcome, List.length_zipWith]; omega
  case case3 => exact (pngRowLoop_len _ _ _ _ _).mono fun out h => by simp only [List.length_nil] at h; omega
  case case4 => trivial

theorem pngRows_len (nbytes bpp : Nat) (fuel : Nat) (above data : Bytes) :
    Outcome (fun _ => True) (fun out => out.length ≤ data.length) (pngRows nbytes bpp fuel above data) := by
  fun_induction pngRows nbytes bpp fuel above data
  case case3 | case5 => trivial
  case case4 hraw _ hr ih =>
    have h1 := (pngRow_len _ _ _ _).ok_of hraw
    have h2 := ih.ok_of hr
    simp only [Outcome, List.length_append, List.length_take, List.length_drop, List.length_cons] at h1 h2 ⊢
    omega
  all_goals exact Nat.zero_le _

theorem apply_png_predictor_len (colors columns bpc : Nat) (data : Bytes) :
    Outcome (fun _ => True) (fun out => out.length ≤ data.length) (apply_png_predictor colors columns bpc data) := by
  rw [apply_png_predictor_lit]
  split
  · trivial
  · exact pngRows_len _ _ _ _ _

theorem tiffRow_len (bpp : Nat) (xs raw : Bytes) : (tiffRow bpp raw xs).length = raw.length + xs.length := by
  fun_induction tiffRow bpp raw xs
  case case1 => rfl
  case case2 ih =>
    simp only [ih, List.length_append, List.length_cons, List.length_nil]
    omega

theorem tiffRows_len (nbytes bpp : Nat) (fuel : Nat) (data : Bytes) :
    Outcome (fun _ => True) (fun out => out.length ≤ data.length) (tiffRows nbytes bpp fuel data) := by
  fun_induction tiffRows nbytes bpp fuel data
  case case3 | case5 => trivial
  case case4 hr ih =>
    have h2 := ih.ok_of hr
    simp only [Outcome, List.length_append, tiffRow_len, List.length_take, List.length_drop, List.length_nil] at h2 ⊢
    omega
  all_goals exact Nat.zero_le _

theorem apply_tiff_predictor_len (colors columns bpc : Nat) (data : Bytes) :
    Outcome (fun _ => True) (fun out => out.length ≤ data.length) (apply_tiff_predictor colors columns bpc data) := by
  rw [apply_tiff_predictor_lit]
  split
  · trivial
  · split
    · trivial
    · exact tiffRows_len _ _ _ _

end PdfVerif.Filters
