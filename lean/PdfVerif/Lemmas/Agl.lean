/-
C06: pdfminer's `name2unicode` (model) against the Adobe Glyph List algorithm (specification).

The model is compared once, with `pdfminerAgl` (AGL section 2 with pdfminer's two deviations: hexadecimal digits
of either case, and an unknown component makes the whole name undefined), on every name.  That the deviations do
not show on the judged names is then a comparison of two specifications (`pdfminerAgl_eq_aglText`).
-/
import PdfVerif.Spec.SimpleFont

namespace PdfVerif.SimpleFont
open PdfVerif PdfVerif.SimpleFont.Spec PdfVerif.Gen.FontCode

def GlyphListOK (gl : GlyphList) : Prop := ∀ e ∈ gl, e.2 ≠ []

theorem glLookup_ne_nil {gl : GlyphList} (h : GlyphListOK gl) {c : Name} {t : Text}
    (hl : glLookup gl c = some t) : t ≠ [] := by
  unfold glLookup at hl
  split at hl
  · next e hf => cases hl; exact h e (List.mem_of_find?_eq_some hf)
  · cases hl

theorem validUnicode_eq_isScalar (v : Nat) : validUnicode v = isScalar v := by
  rw [Bool.eq_iff_iff]
  simp only [validUnicode, invalidUnicode, isScalar, Bool.not_eq_true', Bool.or_eq_false_iff, Bool.and_eq_false_iff,
    Bool.or_eq_true, Bool.and_eq_true, decide_eq_true_eq, decide_eq_false_iff_not]
  omega

theorem hexDigitVal_eq_any (c : Char) : hexDigitVal c = anyHexVal c := by
  unfold hexDigitVal anyHexVal upperHexVal
  generalize c.toNat = n
  by_cases h1 : 48 ≤ n ∧ n ≤ 57
  · simp [h1]
  · by_cases h2 : 97 ≤ n ∧ n ≤ 102
    · have h3 : ¬ (65 ≤ n ∧ n ≤ 70) := by omega
      simp [h1, h2, h3]
    · by_cases h3 : 65 ≤ n ∧ n ≤ 70 <;> simp [h1, h2, h3]

theorem isHexDigit_eq_any : isHexDigit = isAnyHex := by
  funext c; simp [isHexDigit, isAnyHex, hexDigitVal_eq_any]

theorem hexValAux_eq_any : ∀ (r : List Char) (acc : Nat),
    hexValAux acc r = r.foldl (fun acc c => acc * 16 + (anyHexVal c).getD 0) acc
  | [], _ => rfl
  | c :: cs, acc => by
    simp only [hexValAux, List.foldl_cons, hexDigitVal_eq_any]
    exact hexValAux_eq_any cs _

theorem hexVal_eq_any (r : List Char) : hexVal r = anyHexNum r := hexValAux_eq_any r 0

theorem groups4_eq_any : ∀ (r : List Char), groups4 r = (fours r).map anyHexNum
  | a :: b :: c :: d :: rest => by
    simp only [groups4, fours, List.map_cons, hexVal_eq_any, groups4_eq_any rest]
  | [] => rfl
  | [_] => rfl
  | [_, _] => rfl
  | [_, _, _] => rfl

def textOpt (t : Text) : Option Text := if t.isEmpty then none else some t

theorem textOpt_of_ne_nil {t : Text} (h : t ≠ []) : textOpt t = some t := by
  cases t with
  | nil => exact absurd rfl h
  | cons a b => rfl

theorem isPrefixOf_eq_take (p c : List Char) : p.isPrefixOf c = decide (c.take p.length = p) := by
  by_cases h : c.take p.length = p
  · rw [decide_eq_true h]
    exact List.isPrefixOf_iff_prefix.mpr (List.prefix_iff_eq_take.mpr h.symm)
  · rw [decide_eq_false h]
    exact Bool.eq_false_iff.mpr fun hp => h (List.prefix_iff_eq_take.mp (List.isPrefixOf_iff_prefix.mp hp)).symm

theorem isPrefixOf_uni (c : Name) : UNI_PREFIX.isPrefixOf c = decide (c.take 3 = ['u', 'n', 'i']) :=
  isPrefixOf_eq_take _ c

theorem isPrefixOf_u (c : Name) : U_PREFIX.isPrefixOf c = decide (c.take 1 = ['u']) :=
  isPrefixOf_eq_take _ c

theorem uni_cons {c : Name} (h : c.take 3 = ['u', 'n', 'i']) : c = 'u' :: 'n' :: 'i' :: c.drop 3 := by
  conv => lhs; rw [← List.take_append_drop 3 c, h]
  rfl

theorem fours_ne_nil {r : List Char} (hne : r ≠ []) (hlen : r.length % 4 = 0) : fours r ≠ [] := by
  rcases r with _ | ⟨a, _ | ⟨b, _ | ⟨c, _ | ⟨d, r⟩⟩⟩⟩
  · exact absurd rfl hne
  · cases hlen
  · cases hlen
  · cases hlen
  · exact List.cons_ne_nil _ _

/-- pdfminer's value of a component is the (D1) value, `none` when that is empty. -/
theorem comp_exact {gl : GlyphList} (hgl : GlyphListOK gl) (c : Name) :
    comp gl c = textOpt (aglCompL gl c) := by
  unfold comp aglCompL
  cases hlook : glLookup gl c with
  | some t => exact (textOpt_of_ne_nil (glLookup_ne_nil hgl hlook)).symm
  | none =>
    have e3 : UNI_PREFIX.length = 3 := rfl
    have e1 : U_PREFIX.length = 1 := rfl
    simp only [isPrefixOf_uni, isPrefixOf_u, e3, e1, UNI_GROUP, U_MIN, U_MAX, allHex, isHexDigit_eq_any, groups4_eq_any,
      hexVal_eq_any, (funext validUnicode_eq_isScalar : validUnicode = isScalar), uniFormL, uFormL]
    by_cases huni : c.take 3 = ['u', 'n', 'i']
    · -- `n` is no digit: the `u` form does not apply
      have hu : (c.drop 1).all isAnyHex = false := by
        rw [uni_cons huni]; rfl
      simp only [huni, decide_true, if_true, hu, Bool.false_and, Bool.false_eq_true, if_false, ite_self]
      generalize c.drop 3 = r
      rcases r with _ | ⟨a, r⟩
      · rfl
      · simp only [List.isEmpty_cons, Bool.not_false, Bool.true_and]
        cases h : (a :: r).all isAnyHex && (a :: r).length % 4 == 0
        · rfl
        ·
          have hne : (fours (a :: r)).map anyHexNum ≠ [] := fun e =>
            fours_ne_nil (List.cons_ne_nil a r) (by simpa using (Bool.and_eq_true_iff.mp h).2) (List.map_eq_nil_iff.mp e)
          cases ((fours (a :: r)).map anyHexNum).all isScalar
          · rfl
          · exact (textOpt_of_ne_nil hne).symm
    · by_cases hu : c.take 1 = ['u']
      · simp only [huni, hu, decide_true, decide_false, if_true, if_false, Bool.false_eq_true]
        generalize c.drop 1 = r
        rcases r with _ | ⟨a, r⟩
        · rfl
        · simp only [List.isEmpty_cons, Bool.not_false, Bool.true_and]
          cases (a :: r).all isAnyHex && decide (4 ≤ (a :: r).length) && decide ((a :: r).length ≤ 6) <;>
            cases isScalar (anyHexNum (a :: r)) <;> rfl
      · simp only [huni, hu, decide_false, if_false, Bool.false_eq_true]
        rfl

theorem beforeDot_eq_dropSuffix (n : Name) : beforeDot n = dropSuffix n := by
  induction n with
  | nil => rfl
  | cons c cs ih =>
    rw [dropSuffix, ← ih]
    by_cases h : c = '.' <;> simp [beforeDot, SUFFIX_SEP, h]

theorem splitOn_ne_nil (sep : Char) (s : List Char) : splitOn sep s ≠ [] := by
  fun_cases splitOn sep s <;> exact List.cons_ne_nil _ _

theorem splitOn_single (sep : Char) (s : List Char) (h : (splitOn sep s).length ≤ 1) : splitOn sep s = [s] := by
  fun_induction splitOn sep s with
  | case1 => rfl
  | case2 c cs hc ih =>
    have := List.length_pos_iff.mpr (splitOn_ne_nil sep cs)
    simp only [List.length_cons] at h
    omega
  | case3 c cs hc p ps hs ih =>
    rw [hs] at ih
    cases ih h
    rfl
  | case4 c cs hc hs ih => exact absurd hs (splitOn_ne_nil sep cs)

theorem joinAll_exact {gl : GlyphList} (hgl : GlyphListOK gl) : ∀ (cs : List Name),
    joinAll gl cs = if (cs.map (aglCompL gl)).all (fun t => !t.isEmpty) then some ((cs.map (aglCompL gl)).flatten) else none
  | [] => by simp [joinAll]
  | c :: cs => by
    have hc := comp_exact hgl c
    have ih := joinAll_exact hgl cs
    simp only [joinAll, hc, ih, List.all_cons, List.map_cons, List.flatten_cons, textOpt]
    cases he : (aglCompL gl c).isEmpty
    · cases ha : (cs.map (aglCompL gl)).all (fun t => !t.isEmpty) <;> simp
    · simp

theorem name2unicode_eq_pdfminerAgl {gl : GlyphList} (hgl : GlyphListOK gl) (nm : Option Name) :
    name2unicode gl nm = pdfminerAgl gl nm := by
  cases nm with
  | none => rfl
  | some n =>
    simp only [name2unicode, pdfminerAgl, components, beforeDot_eq_dropSuffix, COMPONENT_SEP]
    by_cases hlen : (splitOn '_' (dropSuffix n)).length > 1
    · rw [if_pos hlen, joinAll_exact hgl]
      rfl
    ·
      rw [if_neg hlen, comp_exact hgl]
      simp only [splitOn_single '_' _ (Nat.le_of_not_lt hlen), List.map_cons, List.map_nil, List.all_cons, List.all_nil,
        Bool.and_true, List.flatten_cons, List.flatten_nil, List.append_nil, textOpt]
      cases (aglCompL gl (dropSuffix n)).isEmpty <;> rfl

theorem not_lower_of_upper {c : Char} (h : isUpperHex c = true) :
    (decide (97 ≤ c.toNat) && decide (c.toNat ≤ 102)) = false := by
  rw [← Bool.decide_and, decide_eq_false_iff_not]
  intro hl
  unfold isUpperHex upperHexVal at h
  rw [if_neg (by omega), if_neg (by omega)] at h
  cases h

theorem isAnyHex_eq (c : Char) :
    isAnyHex c = (isUpperHex c || (decide (97 ≤ c.toNat) && decide (c.toNat ≤ 102))) := by
  unfold isAnyHex anyHexVal isUpperHex
  cases upperHexVal c with
  | some v => rfl
  | none => rw [← Bool.decide_and]; by_cases h : 97 ≤ c.toNat ∧ c.toNat ≤ 102 <;> simp [h]

theorem anyHexVal_of_upper {c : Char} (h : isUpperHex c = true) : anyHexVal c = upperHexVal c := by
  unfold isUpperHex at h
  unfold anyHexVal
  cases hu : upperHexVal c with
  | some v => rfl
  | none => rw [hu] at h; cases h

theorem all_any_eq_all_upper (r : List Char) (h : (allHex r && hasLowerHex r) = false) :
    r.all isAnyHex = r.all isUpperHex := by
  cases hl : hasLowerHex r with
  | false =>
    rw [Bool.eq_iff_iff, List.all_eq_true, List.all_eq_true]
    refine forall₂_congr fun c hc => ?_
    rw [isAnyHex_eq, (Bool.not_eq_true _).mp (List.any_eq_false.mp hl c hc), Bool.or_false]
  | true =>
    -- a lower-case digit: not all upper case, and by `h` not all digits
    obtain ⟨c, hc, hlow⟩ := List.any_eq_true.mp hl
    have hne : r.isEmpty = false := by cases r with | nil => cases hc | cons _ _ => rfl
    rw [hl, Bool.and_true, allHex, hne, isHexDigit_eq_any] at h
    have hu : r.all isUpperHex = false := List.all_eq_false.mpr ⟨c, hc, fun hup => by
      rw [not_lower_of_upper hup] at hlow; cases hlow⟩
    rw [hu]; exact h

theorem anyHexNum_of_upper (r : List Char) (h : r.all isUpperHex = true) : anyHexNum r = upperHexNum r := by
  suffices ∀ acc, r.foldl (fun acc c => acc * 16 + (anyHexVal c).getD 0) acc =
      r.foldl (fun acc c => acc * 16 + (upperHexVal c).getD 0) acc from this 0
  induction r with
  | nil => intro acc; rfl
  | cons c cs ih =>
    intro acc
    simp only [List.all_cons, Bool.and_eq_true] at h
    simp only [List.foldl_cons, anyHexVal_of_upper h.1]
    exact ih h.2 _

theorem fours_any_of_upper (r : List Char) (h : r.all isUpperHex = true) :
    (fours r).map anyHexNum = (fours r).map upperHexNum := by
  induction r using fours.induct with
  | case1 a b c d rest ih =>
    simp only [List.all_cons, Bool.and_eq_true] at h
    obtain ⟨ha, hb, hc, hd, hrest⟩ := h
    have h4 : [a, b, c, d].all isUpperHex = true := by
      simp only [List.all_cons, List.all_nil, ha, hb, hc, hd, Bool.and_self]
    simp only [fours, List.map_cons, anyHexNum_of_upper _ h4, ih hrest]
  | case2 r hr =>
    rw [fours.eq_def]
    split
    · exact absurd rfl (hr _ _ _ _ _)
    · rfl

theorem uniFormL_eq {c : Name}
    (h : (c.take 3 == ['u', 'n', 'i'] && allHex (c.drop 3) && hasLowerHex (c.drop 3)) = false) :
    uniFormL c = uniForm c := by
  unfold uniFormL uniForm
  by_cases h3 : c.take 3 = ['u', 'n', 'i']
  · simp only [h3, beq_self_eq_true, Bool.true_and] at h
    simp only [if_pos h3, all_any_eq_all_upper _ h]
    cases hu : (c.drop 3).all isUpperHex with
    | false => rfl
    | true => simp only [fours_any_of_upper _ hu]
  · simp only [if_neg h3]

theorem uFormL_eq {c : Name}
    (h : (c.take 1 == ['u'] && allHex (c.drop 1) && hasLowerHex (c.drop 1)) = false) :
    uFormL c = uForm c := by
  unfold uFormL uForm
  by_cases h1 : c.take 1 = ['u']
  · simp only [h1, beq_self_eq_true, Bool.true_and] at h
    simp only [if_pos h1, all_any_eq_all_upper _ h]
    cases hu : (c.drop 1).all isUpperHex with
    | false => rfl
    | true => simp only [anyHexNum_of_upper _ hu]
  · simp only [if_neg h1]

/-- Deviation (D1) shows on lenient components only. -/
theorem aglCompL_eq {gl : GlyphList} {c : Name} (h : lenientComp gl c = false) : aglCompL gl c = aglComp gl c := by
  unfold aglCompL aglComp
  cases hl : glLookup gl c with
  | some t => rfl
  | none =>
    simp only [lenientComp, hl, Option.isNone_none, Bool.true_and, Bool.or_eq_false_iff] at h
    rw [uniFormL_eq h.1, uFormL_eq h.2]

theorem flatten_ne_nil_of_all : ∀ (ts : List Text), ts ≠ [] → ts.all (fun t => !t.isEmpty) = true → ts.flatten ≠ []
  | [], h, _ => absurd rfl h
  | t :: ts, _, h => by
    simp only [List.all_cons, Bool.and_eq_true, Bool.not_eq_true', List.isEmpty_eq_false_iff] at h
    simp only [List.flatten_cons]
    intro h'
    exact h.1 (List.append_eq_nil_iff.mp h').1

/-- Deviation (D2): AGL drops the components without a value and keeps the rest, pdfminer gives up the whole name.
No difference when there is one component, when none has a value, or when all have one. -/
theorem joined_eq (ts : List Text) (hne : ts ≠ [])
    (h : (ts.length ≤ 1 ∨ ts.all (fun t => t.isEmpty) = true) ∨ ts.all (fun t => !t.isEmpty) = true) :
    (if ts.all (fun t => !t.isEmpty) then some ts.flatten else none) =
      if ts.flatten.isEmpty then none else some ts.flatten := by
  rcases h with (h1 | hempty) | hfull
  · match ts, hne, h1 with
    | [t], _, _ => cases t <;> rfl
    | _ :: _ :: _, _, h1 => simp at h1
  · have hnot : ts.all (fun t => !t.isEmpty) = false := by
      cases ts with
      | nil => exact absurd rfl hne
      | cons t ts' =>
        simp only [List.all_cons, Bool.and_eq_true] at hempty
        simp [hempty.1]
    rw [List.flatten_eq_nil_iff.mpr fun t ht => List.isEmpty_iff.mp (List.all_eq_true.mp hempty t ht), hnot]
    rfl
  · rw [hfull, if_pos rfl, if_neg (by simpa using flatten_ne_nil_of_all ts hne hfull)]

theorem pdfminerAgl_eq_aglText (gl : GlyphList) (nm : Option Name) (hj : judgedName gl nm = true) :
    pdfminerAgl gl nm = aglText gl nm := by
  cases nm with
  | none => rfl
  | some n =>
    simp only [judgedName, Bool.and_eq_true, Bool.or_eq_true, Bool.not_eq_true', decide_eq_true_eq] at hj
    obtain ⟨hlen, hshape⟩ := hj
    have hmap : (components (dropSuffix n)).map (aglCompL gl) = (components (dropSuffix n)).map (aglComp gl) :=
      List.map_congr_left (fun c hc => aglCompL_eq ((Bool.not_eq_true _).mp (List.any_eq_false.mp hlen c hc)))
    simp only [pdfminerAgl, aglText, aglSpec, hmap]
    refine joined_eq _ ?_ ?_
    · simpa [components] using splitOn_ne_nil '_' (dropSuffix n)
    · simpa [List.all_map, Function.comp_def] using hshape

/-- `name2unicode` (model of the repaired code) equals AGL section 2 on every judged name. -/
theorem name2unicode_eq_aglText {gl : GlyphList} (hgl : GlyphListOK gl) (nm : Option Name)
    (hj : judgedName gl nm = true) : name2unicode gl nm = aglText gl nm := by
  rw [name2unicode_eq_pdfminerAgl hgl, pdfminerAgl_eq_aglText gl nm hj]

theorem no_lower_of_upper (r : List Char) (h : r.all isUpperHex = true) : hasLowerHex r = false :=
  List.any_eq_false.mpr fun c hc => (Bool.not_eq_true _).mpr (not_lower_of_upper (List.all_eq_true.mp h c hc))

/-- `n` is no digit. -/
theorem uForm_none_of_uni {c : Name} (huni : c.take 3 = ['u', 'n', 'i']) : uForm c = none := by
  rw [uni_cons huni]; rfl

theorem uniForm_some {c : Name} {t : Text} : uniForm c = some t →
    c.take 3 = ['u', 'n', 'i'] ∧ (c.drop 3).all isUpperHex = true := by
  fun_cases uniForm c with
  | case1 h3 r hc => exact fun _ => ⟨h3, (Bool.and_eq_true_iff.mp hc).1⟩
  | case2 | case3 | case4 => exact nofun

theorem uForm_some {c : Name} {t : Text} : uForm c = some t → (c.drop 1).all isUpperHex = true ∧ t ≠ [] := by
  fun_cases uForm c with
  | case1 h1 r hc =>
    intro h
    cases h
    simp only [Bool.and_eq_true] at hc
    exact ⟨hc.1.1.1, List.cons_ne_nil _ _⟩
  | case2 | case3 => exact nofun

theorem wf_not_lenient {gl : GlyphList} {c : Name} (h : wellFormedComp gl c = true) : lenientComp gl c = false := by
  unfold lenientComp
  cases hl : glLookup gl c with
  | some t => rfl
  | none =>
    simp only [wellFormedComp, hl, Option.isSome_none, Bool.false_or, Bool.or_eq_true] at h
    simp only [Option.isNone_none, Bool.true_and, Bool.or_eq_false_iff]
    cases hu : uniForm c with
    | some t =>
      obtain ⟨h3, hup⟩ := uniForm_some hu
      constructor
      · rw [no_lower_of_upper _ hup, Bool.and_false]
      · rw [uni_cons h3]; rfl
    | none =>
      simp only [hu, Bool.false_eq_true, false_or, Option.isSome_iff_exists] at h
      obtain ⟨t, hv⟩ := h
      constructor
      · by_cases h3 : c.take 3 = ['u', 'n', 'i']
        · rw [uForm_none_of_uni h3] at hv; cases hv
        · simp [h3]
      · rw [no_lower_of_upper _ (uForm_some hv).1, Bool.and_false]

theorem wf_nonempty {gl : GlyphList} (hgl : GlyphListOK gl) {c : Name} (h : wellFormedComp gl c = true) :
    (aglComp gl c).isEmpty = false := by
  unfold aglComp
  cases hl : glLookup gl c with
  | some t => simpa using glLookup_ne_nil hgl hl
  | none =>
    simp only [wellFormedComp, hl, Option.isSome_none, Bool.false_or, Bool.or_eq_true] at h
    cases hu : uniForm c with
    | some t =>
      rw [hu, uForm_none_of_uni (uniForm_some hu).1] at h
      simpa using h
    | none =>
      simp only [hu, Bool.false_eq_true, false_or, Option.isSome_iff_exists] at h
      obtain ⟨t, hv⟩ := h
      rw [hv]
      simpa using (uForm_some hv).2

theorem wellFormed_judged {gl : GlyphList} (hgl : GlyphListOK gl) (n : Name) (h : wellFormedName gl n = true) :
    judgedName gl (some n) = true := by
  unfold wellFormedName at h
  simp only [judgedName, Bool.and_eq_true, Bool.or_eq_true, Bool.not_eq_true']
  constructor
  · apply List.any_eq_false.mpr
    intro c hc
    have := wf_not_lenient (List.all_eq_true.mp h c hc)
    simp [this]
  · right
    apply List.all_eq_true.mpr
    intro c hc
    simp [wf_nonempty hgl (List.all_eq_true.mp h c hc)]

/-! The names of the ENCODING rows are plain: no period, no underscore. -/

def plainName (n : Name) : Bool := n.all (fun c => c != '.' && c != '_')

theorem dropSuffix_plain : ∀ (n : Name), plainName n = true → dropSuffix n = n
  | [], _ => rfl
  | c :: cs, h => by
    simp only [plainName, List.all_cons, Bool.and_eq_true, bne_iff_ne, ne_eq] at h
    have hc : (c == '.') = false := by simpa using h.1.1
    simp only [dropSuffix, hc, Bool.false_eq_true, if_false]
    rw [dropSuffix_plain cs (by simpa [plainName] using h.2)]

theorem splitOn_plain : ∀ (n : Name), plainName n = true → splitOn '_' n = [n]
  | [], _ => rfl
  | c :: cs, h => by
    simp only [plainName, List.all_cons, Bool.and_eq_true, bne_iff_ne, ne_eq] at h
    have hc : (c == '_') = false := by simpa using h.1.2
    simp only [splitOn, hc, Bool.false_eq_true, if_false]
    rw [splitOn_plain cs (by simpa [plainName] using h.2)]

theorem name2unicode_plain (gl : GlyphList) (n : Name) (hp : plainName n = true) :
    name2unicode gl (some n) = comp gl n := by
  simp [name2unicode, beforeDot_eq_dropSuffix, COMPONENT_SEP, dropSuffix_plain n hp, splitOn_plain n hp]

theorem glLookup_isSome_of_mem {gl : GlyphList} {e : Name × Text} (h : e ∈ gl) :
    (glLookup gl e.1).isSome = true := by
  unfold glLookup
  cases hf : gl.find? (fun x => x.1 == e.1) with
  | some x => rfl
  | none =>
    have := List.find?_eq_none.mp hf e h
    simp at this

theorem plain_listed {gl : GlyphList} {n : Name} (hp : plainName n = true) (hl : (glLookup gl n).isSome = true) :
    (name2unicode gl (some n)).isSome = true ∧ judgedName gl (some n) = true := by
  obtain ⟨t, ht⟩ := Option.isSome_iff_exists.mp hl
  constructor
  · rw [name2unicode_plain gl n hp, comp, ht]; rfl
  · simp [judgedName, components, dropSuffix_plain n hp, splitOn_plain n hp, lenientComp, ht]

end PdfVerif.SimpleFont
