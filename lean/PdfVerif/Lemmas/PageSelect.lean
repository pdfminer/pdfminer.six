/-
Lemmas for C04: the `get_pages` loop with the arguments of the Python interface (`pagenos` = `None`
or any container of integers, `maxpages` any integer); the loop over natural numbers is the
same loop on the same numbers.
-/
import PdfVerif.Spec.PageTree

namespace PdfVerif.PageTree
open PdfVerif PdfVerif.Gen.PageTree

theorem select_yield_py (pagenos : Option (List Int)) (i : Nat) :
    select_yield (pagenosTruthy pagenos) (pagenoIn pagenos i) = wanted pagenos i := by
  cases pagenos <;> simp [select_yield, pagenosTruthy, pagenoIn, wanted]

theorem natCast_beq_zero (n : Nat) : ((n : Int) == 0) = (n == 0) :=
  Bool.eq_iff_iff.mpr (by rw [beq_iff_eq, beq_iff_eq, Int.natCast_eq_zero])

theorem select_break_eq (mp i : Nat) :
    select_break (mp : Int) (i : Int) = (mp != 0 && decide (mp ≤ i + 1)) := by
  rw [select_break, bne, natCast_beq_zero]
  norm_cast

theorem filter_zipIdx_beyond {α : Type} (q : Nat → Bool) (mp : Nat) (hmp : mp ≠ 0) :
    ∀ (ps : List α) (k : Nat), mp ≤ k →
      (ps.zipIdx k).filter (fun pi => q pi.2 && (mp == 0 || pi.2 < mp)) = [] := by
  intro ps k hk
  rw [List.filter_eq_nil_iff]
  intro pi hpi
  have := List.le_snd_of_mem_zipIdx hpi
  have : ¬ pi.2 < mp := by omega
  simp [hmp, this]

/-- The loop from index `i` on, for a non-negative limit: the loop invariant is that `i` is still
below the limit; the pending exception is met when the loop asks for a page beyond the last one. -/
theorem select_stream_py {α : Type} (pagenos : Option (List Int)) (mp : Nat) (pages : List α) (e : Option Err)
    (i : Nat) (hinv : mp = 0 ∨ i < mp) :
    getPagesPy pagenos (mp : Int) i pages e =
      (((pages.zipIdx i).filter (fun pi => wanted pagenos pi.2 && (mp == 0 || pi.2 < mp))).map Prod.fst,
        if mp = 0 ∨ i + pages.length < mp then e else none) := by
  induction pages generalizing i with
  | nil => simp [getPagesPy, hinv]
  | cons p ps ih =>
    have hin : (mp == 0 || decide (i < mp)) = true := by
      rcases hinv with h | h <;> simp [h]
    rw [getPagesPy, select_yield_py, select_break_eq, List.zipIdx_cons, List.filter_cons, hin, Bool.and_true,
      List.length_cons]
    by_cases hbrk : mp ≠ 0 ∧ mp ≤ i + 1
    · -- the loop breaks here, and no later index is below the limit
      rw [filter_zipIdx_beyond (wanted pagenos) mp hbrk.1 ps (i + 1) hbrk.2,
        if_neg (show ¬(mp = 0 ∨ i + (ps.length + 1) < mp) by omega), if_pos (by simpa using hbrk)]
      cases wanted pagenos i <;> rfl
    · rw [if_neg (by simpa using hbrk), ih (i + 1) (by omega), Nat.add_right_comm i 1, Nat.add_assoc i]
      cases wanted pagenos i <;> rfl

theorem specSelectPy_nat {α : Type} (pagenos : Option (List Int)) (mp : Nat) (pages : List α) :
    specSelectPy pagenos (mp : Int) pages =
      ((pages.zipIdx 0).filter (fun pi => wanted pagenos pi.2 && (mp == 0 || pi.2 < mp))).map Prod.fst := by
  simp only [specSelectPy, natCast_beq_zero]
  norm_cast

theorem getPagesPy_congr {α : Type} (p1 p2 : Option (List Int)) (maxpages : Int)
    (ht : pagenosTruthy p1 = pagenosTruthy p2) (hm : ∀ i, pagenoIn p1 i = pagenoIn p2 i) :
    ∀ (pages : List α) (i : Nat) (e : Option Err),
      getPagesPy p1 maxpages i pages e = getPagesPy p2 maxpages i pages e := by
  intro pages
  induction pages with
  | nil => intro i e; simp [getPagesPy]
  | cons p ps ih =>
    intro i e
    simp only [getPagesPy, ht, hm, ih]

theorem contains_map_natCast (sel : List Nat) (i : Nat) :
    (sel.map Int.ofNat).contains (i : Int) = sel.contains i := by
  simp only [List.contains_eq_mem, List.mem_map, Int.ofNat_eq_natCast, Int.natCast_inj, exists_eq_right]

theorem getPagesS_eq_py {α : Type} (sel : List Nat) (mp : Nat) (pages : List α) (i : Nat) (e : Option Err) :
    getPagesS sel mp i pages e = getPagesPy (some (sel.map Int.ofNat)) mp i pages e := by
  induction pages generalizing i with
  | nil => rfl
  | cons p ps ih =>
    simp only [getPagesS, getPagesPy, ih, pagenosTruthy, pagenoIn, List.isEmpty_map, contains_map_natCast]

theorem select_stream {α : Type} (sel : List Nat) (mp : Nat) (pages : List α) (e : Option Err) (i : Nat)
    (hinv : mp = 0 ∨ i < mp) :
    getPagesS sel mp i pages e =
      (specSelect sel mp i pages, if mp = 0 ∨ i + pages.length < mp then e else none) := by
  rw [getPagesS_eq_py, select_stream_py _ mp pages e i hinv]
  simp only [wanted, List.isEmpty_map, contains_map_natCast, specSelect]

end PdfVerif.PageTree
