/- C11: `utf32Decode` and `utf16Decode` invert whole-stream encoding by the `utf-32` and `utf-16` state machines
(byte-order mark pending until the first character). -/
import PdfVerif.Lemmas.Convert
import PdfVerif.Model.ConvertCodec

namespace PdfVerif.Convert

theorem encodePiece_total {σ : Type} (c : Codec σ) (htot : ∀ st ch, (c.step st ch).isSome) (ignore : Bool)
    (s : Str) (st : σ) : (c.encodePiece ignore st s).isSome := by
  induction s generalizing st with
  | nil => rfl
  | cons ch rest ih =>
    obtain ⟨⟨st', bs⟩, h1⟩ := Option.isSome_iff_exists.mp (htot st ch)
    obtain ⟨⟨st'', bs'⟩, h2⟩ := Option.isSome_iff_exists.mp (ih st')
    simp [Codec.encodePiece, h1, h2]

theorem encodePiece_steady {σ : Type} (c : Codec σ) (st : σ) (u : Char → Bytes)
    (h : ∀ ch, c.step st ch = some (st, u ch)) (ignore : Bool) (s : Str) :
    c.encodePiece ignore st s = some (st, s.flatMap u) := by
  induction s with
  | nil => rfl
  | cons ch rest ih => simp only [Codec.encodePiece, h, ih, List.flatMap_cons]

theorem encodePiece_bom {c : Codec Bool} {bom : Bytes} {u : Char → Bytes}
    (hc : ∀ st ch, c.step st ch = some (true, (if st then [] else bom) ++ u ch))
    {s : Str} {st : Bool} {bs : Bytes} (h : c.encodePiece false false s = some (st, bs)) :
    bs = if s = [] then [] else bom ++ s.flatMap u := by
  cases s with
  | nil => exact (Prod.mk.inj (Option.some.inj h)).2.symm
  | cons ch rest =>
    simp only [Codec.encodePiece, hc, encodePiece_steady c true u (fun ch => by rw [hc]; rfl) false rest,
      Option.some.injEq, Prod.mk.injEq] at h
    simp only [← h.2, reduceCtorEq, if_false, Bool.false_eq_true, List.flatMap_cons, List.append_assoc]

theorem b8_toNat (n : Nat) : (b8 n).toNat = n % 256 := by
  simp [b8, UInt8.toNat_ofNat']

theorem char_valid (c : Char) : c.toNat < 0xD800 ∨ (0xDFFF < c.toNat ∧ c.toNat < 0x110000) := by
  have h := c.valid
  simp only [UInt32.isValidChar, Nat.isValidChar] at h
  simp only [Char.toNat]
  omega

theorem utf32_word (c : Char) (rest : Bytes) :
    utf32Body (b8 c.toNat :: b8 (c.toNat / 256) :: b8 (c.toNat / 65536) :: b8 (c.toNat / 16777216) :: rest) =
      (utf32Body rest).map (c :: ·) := by
  have hlt : c.toNat < 1114112 := (char_valid c).elim (by omega) (·.2)
  have hn : (b8 c.toNat).toNat + 256 * (b8 (c.toNat / 256)).toNat + 65536 * (b8 (c.toNat / 65536)).toNat +
      16777216 * (b8 (c.toNat / 16777216)).toNat = c.toNat := by
    simp only [b8_toNat]; omega
  rw [utf32Body]
  simp only [hn, Char.ofNat_toNat, if_true]
  cases utf32Body rest <;> rfl

theorem utf32_inv (s : Str) (st : Bool) (bs : Bytes)
    (h : utf32Codec.encodePiece false utf32Codec.init s = some (st, bs)) : utf32Decode bs = some s := by
  rw [encodePiece_bom (c := utf32Codec) (fun _ _ => rfl) h]
  split
  · subst s; rfl
  · exact readBack_flatMap utf32Body rfl _ s fun c _ => utf32_word c

def le16 (u : Nat) : Bytes := [b8 u, b8 (u / 256)]

theorem le16_val {u : Nat} (hu : u < 65536) : (b8 u).toNat + 256 * (b8 (u / 256)).toNat = u := by
  rw [b8_toNat, b8_toNat, Nat.mod_eq_of_lt (Nat.div_lt_of_lt_mul hu : u / 256 < 256)]
  exact Nat.mod_add_div u 256

theorem utf16Body_unit {u : Nat} (hu : u < 0xD800 ∨ 0xE000 ≤ u) (h16 : u < 65536) (rest : Bytes) :
    utf16Body (le16 u ++ rest) = (utf16Body rest).map (Char.ofNat u :: ·) := by
  rw [le16, List.cons_append, List.cons_append, List.nil_append, utf16Body.eq_def]
  simp only [le16_val h16, if_pos hu]
  cases utf16Body rest <;> rfl

theorem utf16Body_pair {hi lo : Nat} (hhi : 0xD800 ≤ hi ∧ hi < 0xDC00) (hlo : 0xDC00 ≤ lo ∧ lo < 0xE000)
    (rest : Bytes) :
    utf16Body (le16 hi ++ (le16 lo ++ rest)) =
      (utf16Body rest).map (Char.ofNat (0x10000 + (hi - 0xD800) * 1024 + (lo - 0xDC00)) :: ·) := by
  have h1 : ¬(hi < 0xD800 ∨ 0xE000 ≤ hi) := by omega
  rw [le16, le16, List.cons_append, List.cons_append, List.nil_append, List.cons_append, List.cons_append,
    List.nil_append, utf16Body.eq_def]
  simp only [le16_val (show hi < 65536 by omega), le16_val (show lo < 65536 by omega), if_neg h1, if_pos hhi.2,
    if_pos hlo]
  cases utf16Body rest <;> rfl

theorem utf16_word (c : Char) (rest : Bytes) :
    utf16Body ((utf16Units c.toNat).flatMap le16 ++ rest) = (utf16Body rest).map (c :: ·) := by
  have hv := char_valid c
  fun_cases utf16Units c.toNat
  · rw [List.flatMap_singleton, utf16Body_unit (by omega) (by omega), Char.ofNat_toNat]
  · have hn : 0x10000 + (0xD800 + (c.toNat - 0x10000) / 1024 - 0xD800) * 1024 +
        (0xDC00 + (c.toNat - 0x10000) % 1024 - 0xDC00) = c.toNat := by omega
    rw [List.flatMap_cons, List.flatMap_singleton, List.append_assoc, utf16Body_pair (by omega) (by omega), hn,
      Char.ofNat_toNat]

theorem utf16_inv (s : Str) (st : Bool) (bs : Bytes)
    (h : (utf16Codec true false).encodePiece false (utf16Codec true false).init s = some (st, bs)) :
    utf16Decode bs = some s := by
  rw [encodePiece_bom (c := utf16Codec true false) (u := fun ch => (utf16Units ch.toNat).flatMap le16)
    (fun _ _ => rfl) h]
  split
  · subst s; rfl
  · exact readBack_flatMap utf16Body rfl _ s fun c _ => utf16_word c

end PdfVerif.Convert
