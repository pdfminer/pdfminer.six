/-
C02 — the classic cross-reference table: `PDFXRef.load` (model `tableLoad`) reads back exactly what the
writer `renderTable` (`Spec/XrefWrite.lean`) wrote, for every EOL style (`tableLoad_renderTable`), when
the numbers fit their fields (`SubFits`) and a `trailer` line follows (`TrailerLine`).  Line by line:
`takeLine` cuts the line, `strip` and `splitSp` give back the fields, `parseInt` the numbers.  The
dictionary so loaded answers with the last in-use line written for a number (`lookup_insSubs`).
-/
import PdfVerif.Lemmas.XrefBytes
import PdfVerif.Lemmas.XrefLookup

namespace PdfVerif.Xref

open PdfVerif.Gen.Xref

theorem isDigit_ne {c k : UInt8} (hc : isDigit c = true) (hk : isDigit k = false) : (c == k) = false := by
  rw [beq_eq_false_iff_ne]
  rintro rfl
  rw [hc] at hk
  cases hk

theorem digit_not_le {c k : UInt8} (h : isDigit c = true) (hk : k.toNat < 48) : decide (c ≤ k) = false := by
  simp only [isDigit, Bool.and_eq_true, decide_eq_true_eq, UInt8.le_iff_toNat_le] at h
  rw [decide_eq_false_iff_not, UInt8.le_iff_toNat_le]
  exact fun h' => Nat.lt_irrefl _ (Nat.lt_of_le_of_lt (Nat.le_trans h.1 h') hk)

theorem digit_not_space {c : UInt8} (h : isDigit c = true) : isPySpace c = false := by
  rw [isPySpace, isDigit_ne h (k := 32) rfl, digit_not_le h (k := 13) (by decide), Bool.and_false]
  rfl

theorem eol_space {c : UInt8} (h : isEol c = true) : isPySpace c = true := by
  rcases Bool.or_eq_true_iff.mp h with h | h <;> rw [beq_iff_eq.mp h] <;> rfl

theorem length_renderDec (w n : Nat) : (renderDec w n).length = w := by
  induction w generalizing n with
  | zero => rfl
  | succ w ih => rw [renderDec, List.length_append, ih, List.length_singleton]

theorem renderDec_ne_nil {w : Nat} (hw : 0 < w) (n : Nat) : renderDec w n ≠ [] :=
  List.ne_nil_of_length_pos (by rw [length_renderDec]; exact hw)

theorem digit_ofNat (d : Nat) (h : d < 10) : isDigit (UInt8.ofNat (48 + d)) = true ∧ (UInt8.ofNat (48 + d)).toNat = 48 + d := by
  have : ∀ d, d < 10 → isDigit (UInt8.ofNat (48 + d)) = true ∧ (UInt8.ofNat (48 + d)).toNat = 48 + d := by decide
  exact this d h

theorem renderDec_digits (w n : Nat) : ∀ b ∈ renderDec w n, isDigit b = true := by
  induction w generalizing n with
  | zero => nofun
  | succ w ih =>
    rw [renderDec, List.forall_mem_append, List.forall_mem_singleton]
    exact ⟨ih _, (digit_ofNat _ (Nat.mod_lt _ (by decide))).1⟩

theorem renderDec_cons {w : Nat} (hw : 0 < w) (n : Nat) : ∃ c cs, renderDec w n = c :: cs ∧ isDigit c = true := by
  obtain ⟨c, cs, h⟩ := List.exists_cons_of_ne_nil (renderDec_ne_nil hw n)
  exact ⟨c, cs, h, renderDec_digits w n c (h ▸ List.mem_cons_self)⟩

theorem decNat_renderDec (w n : Nat) (h : n < 10 ^ w) : decNat (renderDec w n) = n := by
  induction w generalizing n with
  | zero => rw [Nat.pow_zero, Nat.lt_one_iff] at h; rw [h]; rfl
  | succ w ih =>
    have hdiv : n / 10 < 10 ^ w := Nat.div_lt_of_lt_mul (by rw [← Nat.pow_succ']; exact h)
    have := ih _ hdiv
    simp only [decNat] at this ⊢
    rw [renderDec, List.foldl_append, this, List.foldl_cons, List.foldl_nil,
      (digit_ofNat _ (Nat.mod_lt n (by decide))).2, Nat.add_sub_cancel_left, Nat.div_add_mod']

theorem parseInt_digits (s : Bytes) (hne : s ≠ []) (hd : ∀ b ∈ s, isDigit b = true) :
    parseInt s = some (decNat s : Int) := by
  cases s with
  | nil => exact absurd rfl hne
  | cons c rest =>
    have hc := hd c List.mem_cons_self
    simp only [parseInt, isDigit_ne hc (k := 43) rfl, isDigit_ne hc (k := 45) rfl, Bool.or_self,
      Bool.false_eq_true, if_false, List.all_eq_true.mpr hd, if_true]

theorem parseInt_renderDec (w n : Nat) (hw : 0 < w) (h : n < 10 ^ w) : parseInt (renderDec w n) = some (n : Int) := by
  rw [parseInt_digits _ (renderDec_ne_nil hw n) (renderDec_digits w n), decNat_renderDec w n h]

theorem takeLine_append_noEol (a p : Bytes) (ha : noEol a) {l : Bytes} {k : Nat} (h : takeLine p = some (l, k)) :
    takeLine (a ++ p) = some (a ++ l, a.length + k) := by
  induction a with
  | nil => rw [List.nil_append, List.length_nil, Nat.zero_add]; exact h
  | cons x a ih =>
    obtain ⟨hx, hr⟩ := List.forall_mem_cons.mp ha
    obtain ⟨h10, h13⟩ := Bool.or_eq_false_iff.mp hx
    simp only [List.cons_append, takeLine, h10, h13, ih hr, Bool.false_eq_true, if_false, List.length_cons]
    rw [Nat.add_right_comm]

theorem dropWhile_eq_self {p : UInt8 → Bool} {l : Bytes} (h : ∀ c ∈ l.head?, p c = false) : l.dropWhile p = l := by
  cases l with
  | nil => rfl
  | cons a l => rw [List.dropWhile_cons, h a rfl]; rfl

theorem head?_append_left {l : Bytes} (x : Bytes) (hne : l ≠ []) : (l ++ x).head? = l.head? := by
  cases l with
  | nil => exact absurd rfl hne
  | cons a l => rfl

theorem getLast?_append_of_all {p : UInt8 → Prop} {l : Bytes} (x : Bytes) (hne : l ≠ []) (h : ∀ b ∈ l, p b) :
    ∀ c ∈ (x ++ l).getLast?, p c := by
  rw [List.getLast?_append]
  cases hl : l.getLast? with
  | some a => exact fun c hc => h c (List.mem_of_mem_getLast? (hl ▸ hc))
  | none => exact absurd (List.getLast?_eq_none_iff.mp hl) hne

theorem strip_pad (ws1 s ws2 : Bytes) (hne : s ≠ []) (h0 : ∀ c ∈ s.head?, isPySpace c = false)
    (hl : ∀ c ∈ s.getLast?, isPySpace c = false)
    (h1 : ∀ b ∈ ws1, isPySpace b = true) (h2 : ∀ b ∈ ws2, isPySpace b = true) :
    strip (ws1 ++ (s ++ ws2)) = s := by
  have e1 : (s ++ ws2).dropWhile isPySpace = s ++ ws2 :=
    dropWhile_eq_self (by rw [head?_append_left _ hne]; exact h0)
  have e2 : s.reverse.dropWhile isPySpace = s.reverse :=
    dropWhile_eq_self (by rw [List.head?_reverse]; exact hl)
  rw [strip, List.dropWhile_append_of_pos h1, e1, List.reverse_append,
    List.dropWhile_append_of_pos (fun b hb => h2 b (List.mem_reverse.mp hb)), e2, List.reverse_reverse]

theorem dropWhile_keeps {p : UInt8 → Bool} (x : Bytes) (c : UInt8) (y : Bytes) (hc : p c = false) :
    ∃ z, (x ++ c :: y).dropWhile p = z ++ c :: y := by
  induction x with
  | nil => exact ⟨[], by rw [List.nil_append, List.dropWhile_cons, hc]; rfl⟩
  | cons a x ih =>
    rw [List.cons_append, List.dropWhile_cons]
    cases p a
    · exact ⟨a :: x, rfl⟩
    · exact ih

theorem strip_prefix (s rest : Bytes) (hne : s ≠ []) (h0 : ∀ c ∈ s.head?, isPySpace c = false)
    (hl : ∀ c ∈ s.getLast?, isPySpace c = false) : ∃ t, strip (s ++ rest) = s ++ t := by
  have hlast : s.reverse = s.getLast hne :: s.dropLast.reverse :=
    calc s.reverse = (s.dropLast ++ [s.getLast hne]).reverse := by rw [List.dropLast_concat_getLast]
      _ = _ := by rw [List.reverse_append]; rfl
  have hsp : isPySpace (s.getLast hne) = false := hl _ (List.getLast?_eq_some_getLast hne)
  have e1 : (s ++ rest).dropWhile isPySpace = s ++ rest :=
    dropWhile_eq_self (by rw [head?_append_left _ hne]; exact h0)
  obtain ⟨z, hz⟩ := dropWhile_keeps (p := isPySpace) rest.reverse _ s.dropLast.reverse hsp
  refine ⟨z.reverse, ?_⟩
  rw [strip, e1, List.reverse_append, hlast, hz, ← hlast, List.reverse_append, List.reverse_reverse]

theorem strip_numLine {w : Nat} (hw : 0 < w) (n : Nat) (x ws : Bytes)
    (hl : ∀ c ∈ (renderDec w n ++ x).getLast?, isPySpace c = false) (h : ∀ b ∈ ws, isPySpace b = true) :
    strip (renderDec w n ++ x ++ ws) = renderDec w n ++ x := by
  refine strip_pad [] _ ws (List.append_ne_nil_of_left_ne_nil (renderDec_ne_nil hw n) _) ?_ hl nofun h
  rw [head?_append_left _ (renderDec_ne_nil hw n)]
  exact fun c hc => digit_not_space (renderDec_digits w n c (List.mem_of_mem_head? hc))

theorem splitSp_ne_nil (s : Bytes) : splitSp s ≠ [] := by
  induction s with
  | nil => simp [splitSp]
  | cons b rest ih =>
    simp only [splitSp]
    cases h : splitSp rest with
    | nil => simp
    | cons x t => by_cases hb : (b == fieldSep) = true <;> simp [hb]

theorem splitSp_noSep (a : Bytes) (h : ∀ b ∈ a, (b == fieldSep) = false) : splitSp a = [a] := by
  induction a with
  | nil => rfl
  | cons x a ih =>
    obtain ⟨hx, hr⟩ := List.forall_mem_cons.mp h
    simp only [splitSp, ih hr, hx, Bool.false_eq_true, if_false]

theorem splitSp_sep (a rest : Bytes) (h : ∀ b ∈ a, (b == fieldSep) = false) :
    splitSp (a ++ fieldSep :: rest) = a :: splitSp rest := by
  induction a with
  | nil =>
    simp only [List.nil_append, splitSp]
    cases hr : splitSp rest with
    | nil => exact absurd hr (splitSp_ne_nil rest)
    | cons x t => simp
  | cons x a ih =>
    obtain ⟨hx, hr⟩ := List.forall_mem_cons.mp h
    simp only [List.cons_append, splitSp, ih hr, hx, Bool.false_eq_true, if_false]

def EntryFits (e : TEntry) : Prop := e.pos < 10 ^ 10 ∧ e.gen < 10 ^ 5

def SubFits (sb : Sub) : Prop :=
  0 < sb.ws ∧ 0 < sb.wc ∧ sb.start < 10 ^ sb.ws ∧ sb.entries.length < 10 ^ sb.wc ∧ ∀ e ∈ sb.entries, EntryFits e

/-- The byte that follows is not a line feed (so a lone CR before it ends the line there). -/
def StartsNonLF (l : Bytes) : Prop := ∃ c t, l = c :: t ∧ (c == 10) = false

theorem StartsNonLF.append {a : Bytes} (h : StartsNonLF a) (x : Bytes) : StartsNonLF (a ++ x) := by
  obtain ⟨c, t, rfl, hc⟩ := h
  exact ⟨c, t ++ x, rfl, hc⟩

theorem startsNonLF_renderDec (w n : Nat) (hw : 0 < w) : StartsNonLF (renderDec w n) := by
  obtain ⟨c, cs, h, hc⟩ := renderDec_cons hw n
  exact ⟨c, cs, h, isDigit_ne hc rfl⟩

theorem startsWith_head_ne {c q : UInt8} (cs p : Bytes) (h : (c == q) = false) :
    startsWith (c :: cs) (q :: p) = false := by
  rw [startsWith, List.length_cons, List.take_succ_cons, List.cons_beq_cons, h, Bool.false_and]

theorem startsWith_renderDec (w n : Nat) (hw : 0 < w) (x : Bytes) :
    startsWith (renderDec w n ++ x) kwTrailer = false := by
  obtain ⟨c, cs, h, hc⟩ := renderDec_cons hw n
  rw [h]
  exact startsWith_head_ne _ _ (isDigit_ne hc rfl)

theorem useByte_facts (e : TEntry) : isPySpace (useByte e) = false ∧ (useByte e == fieldSep) = false ∧
    isEol (useByte e) = false := by
  unfold useByte; cases e.inuse <;> decide

theorem sep_facts : isEol fieldSep = false ∧ isPySpace fieldSep = true := by decide

theorem noEol_digits {l : Bytes} (h : ∀ b ∈ l, isDigit b = true) : noEol l := by
  intro b hb
  rw [isEol, isDigit_ne (h b hb) (k := 10) rfl, isDigit_ne (h b hb) (k := 13) rfl]
  rfl

theorem noEol_entryCore (e : TEntry) : noEol (entryCore e) := by
  unfold entryCore
  apply noEol_append (noEol_digits (renderDec_digits _ _))
  apply noEol_cons sep_facts.1
  apply noEol_append (noEol_digits (renderDec_digits _ _))
  apply noEol_cons sep_facts.1
  exact noEol_cons (useByte_facts e).2.2 noEol_nil

theorem length_entryCore (e : TEntry) : (entryCore e).length = 18 := by
  simp [entryCore, length_renderDec]

theorem takeLine_entry (ee : EntEol) (e : TEntry) (rest : Bytes) (hr : StartsNonLF rest) :
    takeLine (renderEntry ee e ++ rest) = some (renderEntry ee e, 20) := by
  obtain ⟨c, t, rfl, hc⟩ := hr
  rw [renderEntry, List.append_assoc,
    takeLine_append_noEol _ _ (noEol_entryCore e) (l := ee.bytes) (k := 2), length_entryCore]
  cases ee
  · rfl
  · rfl
  · simp only [EntEol.bytes, List.cons_append, List.nil_append, takeLine, hc]
    rfl

theorem strip_entry (ee : EntEol) (e : TEntry) : strip (renderEntry ee e) = entryCore e := by
  rw [renderEntry, entryCore]
  refine strip_numLine (by decide) _ _ _ ?_ (by cases ee <;> decide)
  simp [List.getLast?_append, List.getLast?_cons, (useByte_facts e).1]

theorem digits_noSep {l : Bytes} (h : ∀ b ∈ l, isDigit b = true) : ∀ b ∈ l, (b == fieldSep) = false :=
  fun b hb => isDigit_ne (h b hb) rfl

theorem splitSp_entryCore (e : TEntry) :
    splitSp (entryCore e) = [renderDec 10 e.pos, renderDec 5 e.gen, [useByte e]] := by
  unfold entryCore
  rw [splitSp_sep _ _ (digits_noSep (renderDec_digits _ _))]
  have : renderDec 5 e.gen ++ [fieldSep, useByte e] = renderDec 5 e.gen ++ fieldSep :: [useByte e] := rfl
  rw [this, splitSp_sep _ _ (digits_noSep (renderDec_digits _ _)),
    splitSp_noSep [useByte e] (List.forall_mem_singleton.mpr (useByte_facts e).2.1)]

theorem useByte_marker (e : TEntry) : ([useByte e] == inUseMarker) = e.inuse := by
  unfold useByte; cases e.inuse <;> decide

theorem length_renderEntry (ee : EntEol) (e : TEntry) : (renderEntry ee e).length = 20 := by
  cases ee <;> simp [renderEntry, EntEol.bytes, length_entryCore]

theorem startsNonLF_entries (ee : EntEol) (es : List TEntry) (tail : Bytes) (ht : StartsNonLF tail) :
    StartsNonLF (renderEntries ee es ++ tail) := by
  cases es with
  | nil => exact ht
  | cons e es => exact ((((startsNonLF_renderDec 10 e.pos (by decide)).append _).append _).append _).append _

/-- One pass of the `for objid in range(start, start + nobjs)` body. -/
theorem tableEntries_step (ee : EntEol) (e : TEntry) (cnt : Nat) (objid : Int) (x : Bytes) (pos : Nat)
    (offs : List (Int × Entry)) (hx : StartsNonLF x) (hf : EntryFits e) :
    tableEntries (cnt + 1) objid (renderEntry ee e ++ x) pos offs =
      tableEntries cnt (objid + 1) x (pos + 20)
        (if e.inuse then insertOff offs objid ⟨none, e.pos, e.gen⟩ else offs) := by
  have hdrop : (renderEntry ee e ++ x).drop 20 = x := List.drop_left' (length_renderEntry ee e)
  have hp := parseInt_renderDec 10 e.pos (by decide) hf.1
  have hg := parseInt_renderDec 5 e.gen (by decide) hf.2
  have hlen : (([renderDec 10 e.pos, renderDec 5 e.gen, [useByte e]] : List Bytes).length != entryFields) = false := rfl
  rw [tableEntries]
  simp only [takeLine_entry ee e x hx, strip_entry, splitSp_entryCore, hdrop, hlen, Bool.false_eq_true, ↓reduceIte,
    entryTuple, tableEntryOf, mkEntry, useByte_marker, hp, hg]
  cases e.inuse with
  | false => simp
  | true =>
    have h0 : (0 : Int) ≤ (e.pos : Int) ∧ (0 : Int) ≤ (e.gen : Int) := ⟨Int.natCast_nonneg _, Int.natCast_nonneg _⟩
    simp [h0]

theorem tableEntries_render (ee : EntEol) (es : List TEntry) (objid : Int) (tail : Bytes) (pos : Nat)
    (offs : List (Int × Entry)) (htail : StartsNonLF tail) (hfit : ∀ e ∈ es, EntryFits e) :
    tableEntries es.length objid (renderEntries ee es ++ tail) pos offs =
      .ok (insEntries objid es offs, tail, pos + 20 * es.length) := by
  induction es generalizing objid pos offs with
  | nil => simp [tableEntries, renderEntries, insEntries]
  | cons e es ih =>
    simp only [renderEntries, List.append_assoc, List.length_cons]
    rw [tableEntries_step ee e es.length objid _ pos offs (startsNonLF_entries ee es tail htail)
      (hfit e List.mem_cons_self)]
    rw [ih (objid + 1) (pos + 20) _ (fun e' he' => hfit e' (List.mem_cons_of_mem _ he'))]
    rw [insEntries, Nat.add_assoc, Nat.mul_succ, Nat.add_comm 20]

theorem takeLine_eol (body : Bytes) (eol : LineEol) (y : Bytes) (hb : noEol body) (hy : StartsNonLF y) :
    takeLine (body ++ (eol.bytes ++ y)) = some (body ++ eol.bytes, body.length + eol.bytes.length) := by
  obtain ⟨c, t, rfl, hc⟩ := hy
  refine takeLine_append_noEol body _ hb ?_
  cases eol
  · rfl
  · rfl
  · simp only [LineEol.bytes, List.cons_append, List.nil_append, takeLine, hc]
    rfl

theorem noEol_headerCore (sb : Sub) : noEol (headerCore sb) := by
  unfold headerCore
  apply noEol_append (noEol_digits (renderDec_digits _ _))
  exact noEol_cons sep_facts.1 (noEol_digits (renderDec_digits _ _))

theorem strip_header (sb : Sub) (eol : LineEol) (hs : 0 < sb.ws) (hc : 0 < sb.wc) :
    strip (headerCore sb ++ eol.bytes) = headerCore sb := by
  rw [headerCore]
  refine strip_numLine hs _ _ _ ?_ (by cases eol <;> decide)
  rw [List.append_cons]
  exact getLast?_append_of_all _ (renderDec_ne_nil hc _) fun b hb => digit_not_space (renderDec_digits _ _ b hb)

theorem splitSp_headerCore (sb : Sub) :
    splitSp (headerCore sb) = [renderDec sb.ws sb.start, renderDec sb.wc sb.entries.length] := by
  unfold headerCore
  rw [splitSp_sep _ _ (digits_noSep (renderDec_digits _ _)), splitSp_noSep _ (digits_noSep (renderDec_digits _ _))]

theorem length_renderEntries (ee : EntEol) (es : List TEntry) : (renderEntries ee es).length = 20 * es.length := by
  induction es with
  | nil => rfl
  | cons e es ih =>
    rw [renderEntries, List.length_append, length_renderEntry, ih, List.length_cons, Nat.mul_succ, Nat.add_comm]

theorem length_renderSub (eol : LineEol) (ee : EntEol) (sb : Sub) :
    (renderSub eol ee sb).length = (headerCore sb).length + eol.bytes.length + 20 * sb.entries.length := by
  rw [renderSub, List.length_append, List.length_append, length_renderEntries, Nat.add_assoc]

/-- One iteration of the `while True` loop on a rendered subsection. -/
theorem tableLoop_sub (eol : LineEol) (ee : EntEol) (sb : Sub) (fuel : Nat) (x : Bytes) (pos : Nat)
    (offs : List (Int × Entry)) (hx : StartsNonLF x) (hf : SubFits sb) :
    tableLoop (fuel + 1) (renderSub eol ee sb ++ x) pos offs =
      tableLoop fuel x (pos + (renderSub eol ee sb).length) (insEntries (sb.start : Int) sb.entries offs) := by
  obtain ⟨hws, hwc, hstart, hcount, hent⟩ := hf
  have hy : StartsNonLF (renderEntries ee sb.entries ++ x) := startsNonLF_entries ee sb.entries x hx
  have hshape : renderSub eol ee sb ++ x = headerCore sb ++ (eol.bytes ++ (renderEntries ee sb.entries ++ x)) := by
    simp [renderSub]
  have htl := takeLine_eol (headerCore sb) eol _ (noEol_headerCore sb) hy
  have hdrop : (headerCore sb ++ (eol.bytes ++ (renderEntries ee sb.entries ++ x))).drop
      ((headerCore sb).length + eol.bytes.length) = renderEntries ee sb.entries ++ x := by
    rw [← List.append_assoc]
    exact List.drop_left' (List.length_append ..)
  have hne : (headerCore sb).isEmpty = false :=
    List.isEmpty_eq_false_iff.mpr (List.append_ne_nil_of_left_ne_nil (renderDec_ne_nil hws _) _)
  have hsw : startsWith (headerCore sb) kwTrailer = false := startsWith_renderDec _ _ hws _
  have hp1 := parseInt_renderDec sb.ws sb.start hws hstart
  have hp2 := parseInt_renderDec sb.wc sb.entries.length hwc hcount
  have hent' := tableEntries_render ee sb.entries (sb.start : Int) x
    (pos + ((headerCore sb).length + eol.bytes.length)) offs hx hent
  have hlen : (([renderDec sb.ws sb.start, renderDec sb.wc sb.entries.length] : List Bytes).length != headerFields) = false := rfl
  rw [hshape, tableLoop]
  simp only [htl, strip_header sb eol hws hwc, hne, hsw, splitSp_headerCore, hdrop, hp1, hp2, hlen,
    Bool.false_eq_true, ↓reduceIte, subCount_eq, subsectionFirst_eq, Int.toNat_natCast, hent']
  rw [length_renderSub, Nat.add_assoc pos]

/-- The `trailer` line is a line (an EOL follows somewhere) whose stripped text starts with the keyword. -/
def TrailerLine (post : Bytes) : Prop :=
  ∃ l k, takeLine (kwTrailer ++ post) = some (l, k) ∧ (strip l).isEmpty = false ∧ startsWith (strip l) kwTrailer = true

theorem startsNonLF_table (eol : LineEol) (ee : EntEol) (subs : List Sub) (post : Bytes)
    (hf : ∀ sb ∈ subs, SubFits sb) : StartsNonLF (renderTable eol ee subs ++ (kwTrailer ++ post)) := by
  cases subs with
  | nil => exact ⟨116, [114, 97, 105, 108, 101, 114] ++ post, rfl, rfl⟩
  | cons sb rest =>
    exact ((((startsNonLF_renderDec sb.ws sb.start (hf sb List.mem_cons_self).1).append _).append _).append _).append _

theorem tableLoop_render (eol : LineEol) (ee : EntEol) (subs : List Sub) (post : Bytes) (fuel pos : Nat)
    (offs : List (Int × Entry)) (hfuel : (renderTable eol ee subs).length < fuel) (hf : ∀ sb ∈ subs, SubFits sb)
    (hpost : TrailerLine post) :
    tableLoop fuel (renderTable eol ee subs ++ (kwTrailer ++ post)) pos offs =
      .ok (insSubs subs offs, pos + (renderTable eol ee subs).length) := by
  induction subs generalizing fuel pos offs with
  | nil =>
    obtain ⟨fuel', rfl⟩ := Nat.exists_eq_add_one_of_ne_zero (Nat.ne_of_gt hfuel)
    obtain ⟨l, k, h1, h2, h3⟩ := hpost
    simp [renderTable, tableLoop, h1, h2, h3, insSubs]
  | cons sb rest ih =>
    obtain ⟨fuel', rfl⟩ := Nat.exists_eq_add_one_of_ne_zero (Nat.ne_of_gt (Nat.zero_lt_of_lt hfuel))
    -- a subsection has at least the digits of its first number, so one unit of fuel per subsection is enough
    have hsub : 0 < (renderSub eol ee sb).length := by
      rw [renderSub, headerCore]
      exact List.length_pos_iff.mpr (List.append_ne_nil_of_left_ne_nil
        (List.append_ne_nil_of_left_ne_nil (renderDec_ne_nil (hf sb List.mem_cons_self).1 _) _) _)
    rw [renderTable, List.length_append] at hfuel
    simp only [renderTable, List.append_assoc]
    rw [tableLoop_sub eol ee sb fuel' _ pos offs
      (startsNonLF_table eol ee rest post (fun s hs => hf s (List.mem_cons_of_mem _ hs))) (hf sb List.mem_cons_self),
      ih fuel' _ _ (Nat.lt_of_lt_of_le (Nat.lt_add_of_pos_left hsub) (Nat.le_of_lt_succ hfuel))
        (fun s hs => hf s (List.mem_cons_of_mem _ hs)),
      insSubs, List.length_append, Nat.add_assoc]

theorem tableLoad_renderTable (pre post : Bytes) (eol : LineEol) (ee : EntEol) (subs : List Sub)
    (hf : ∀ sb ∈ subs, SubFits sb) (hpost : TrailerLine post) :
    tableLoad (pre ++ (eol.bytes ++ (renderTable eol ee subs ++ (kwTrailer ++ post)))) pre.length =
      .ok (insSubs subs [], pre.length + eol.bytes.length + (renderTable eol ee subs).length) := by
  unfold tableLoad
  have hd : (pre ++ (eol.bytes ++ (renderTable eol ee subs ++ (kwTrailer ++ post)))).drop pre.length =
      eol.bytes ++ (renderTable eol ee subs ++ (kwTrailer ++ post)) := List.drop_left
  have htl := takeLine_eol [] eol _ noEol_nil (startsNonLF_table eol ee subs post hf)
  simp only [List.nil_append, List.length_nil, Nat.zero_add] at htl
  have hdrop2 : (eol.bytes ++ (renderTable eol ee subs ++ (kwTrailer ++ post))).drop eol.bytes.length =
      renderTable eol ee subs ++ (kwTrailer ++ post) := List.drop_left
  simp only [hd, htl, hdrop2]
  rw [tableLoop_render eol ee subs post _ _ [] ?_ hf hpost]
  rw [List.length_append, List.length_append]
  exact Nat.lt_succ_of_le (Nat.le_trans (Nat.le_add_right _ _) (Nat.le_add_left _ _))

/-- Whatever follows the keyword on its line (nothing, or ` <<…>>`), as long as the line ends. -/
theorem trailerLine_of_line (post l : Bytes) (k : Nat) (h : takeLine post = some (l, k)) : TrailerLine post := by
  obtain ⟨t, ht⟩ := strip_prefix kwTrailer l (by decide) (by decide) (by decide)
  refine ⟨kwTrailer ++ l, kwTrailer.length + k, takeLine_append_noEol _ _ (show ∀ b ∈ kwTrailer, isEol b = false by decide) h, ?_, ?_⟩
  · rw [ht]; rfl
  · rw [ht, startsWith, List.take_left]; rfl

theorem trailerLine_eol (eol : LineEol) (mid y : Bytes) (hm : noEol mid) (hy : StartsNonLF y) :
    TrailerLine (mid ++ (eol.bytes ++ y)) :=
  trailerLine_of_line _ _ _ (takeLine_eol mid eol y hm hy)

theorem lookup_insEntries (objid : Int) (es : List TEntry) (offs : List (Int × Entry)) (n : Int) :
    lookupOff (insEntries objid es offs) n = specEntries objid es n (lookupOff offs n) := by
  induction es generalizing objid offs with
  | nil => rfl
  | cons e es ih =>
    simp only [insEntries, specEntries]
    rw [ih]
    cases e.inuse with
    | false => simp
    | true => simp [lookupOff_insertOff]

theorem lookup_insSubs (subs : List Sub) (offs : List (Int × Entry)) (n : Int) :
    lookupOff (insSubs subs offs) n = specSubs subs n (lookupOff offs n) := by
  induction subs generalizing offs with
  | nil => rfl
  | cons sb rest ih => simp only [insSubs, specSubs]; rw [ih, lookup_insEntries]

end PdfVerif.Xref
