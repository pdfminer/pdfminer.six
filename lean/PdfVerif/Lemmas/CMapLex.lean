/-
C07: the object grouping of `PSStackParser.nextobject` (`groupAux`) inverts the flattening of objects into tokens.
-/
import PdfVerif.Model.CMapLex

namespace PdfVerif.CIDFontLemmas
open PdfVerif PdfVerif.CIDFont

/-- An object as it stands in the stream: keywords by their bytes, arrays flat. -/
inductive BTok where
  | str (b : Bytes)
  | int (n : Int)
  | name (b : Bytes)
  | real (text : Bytes)
  | kw (b : Bytes)
  | arr (xs : List AElem)

/-- The object `CMapParser` sees. -/
def BTok.toTok : BTok → Tok
  | .str b => .str b
  | .int n => .int n
  | .name b => .name b
  | .real _ => .other
  | .kw b => .kw (kwString b)
  | .arr xs => .arr xs

def flatElem : AElem → Lexer.Token
  | .str b => .str b
  | .int n => .int n
  | .other => .real []

def BTok.flat : BTok → List Lexer.Token
  | .str b => [.str b]
  | .int n => [.int n]
  | .name b => [.lit b]
  | .real t => [.real t]
  | .kw b => [.kwd b]
  | .arr xs => [.kwd [91]] ++ xs.map flatElem ++ [.kwd [93]]

/-- keywords that are not one of the six bracket tokens -/
def BTok.plain : BTok → Bool
  | .kw b => !(b == [91] || b == [93] || b == [60, 60] || b == [62, 62] || b == [123] || b == [125])
  | _ => true

theorem groupAux_elems : ∀ (xs : List AElem) (acc : List AElem) (rest : List Lexer.Token) (out : List Tok),
    groupAux (xs.map flatElem ++ Lexer.Token.kwd [93] :: rest) (some acc) out
      = groupAux rest none (.arr (acc.reverse ++ xs) :: out)
  | [], acc, rest, out => by simp [groupAux]
  | x :: xs, acc, rest, out => by
    have ih := groupAux_elems xs (x :: acc) rest out
    simp only [List.reverse_cons, List.append_assoc, List.cons_append, List.nil_append] at ih
    cases x <;> simpa only [List.map_cons, List.cons_append, flatElem, groupAux] using ih

/-- One object: its tokens are grouped back into it. -/
theorem groupAux_obj (t : BTok) (h : t.plain = true) (rest : List Lexer.Token) (out : List Tok) :
    groupAux (t.flat ++ rest) none out = groupAux rest none (t.toTok :: out) := by
  cases t with
  | kw b =>
    simp only [BTok.plain, Bool.not_eq_true', Bool.or_eq_false_iff, beq_eq_false_iff_ne, ne_eq] at h
    simp only [BTok.flat, List.cons_append, List.nil_append, groupAux, h, if_false, or_self, BTok.toTok]
  | arr xs =>
    simp only [BTok.flat, List.cons_append, List.nil_append, List.append_assoc, groupAux, if_true]
    exact groupAux_elems xs [] rest out
  | _ => rfl

theorem groupAux_flat : ∀ (bts : List BTok) (rest : List Lexer.Token) (out : List Tok),
    bts.all BTok.plain = true →
    groupAux (bts.flatMap BTok.flat ++ rest) none out = groupAux rest none ((bts.map BTok.toTok).reverse ++ out)
  | [], rest, out, _ => rfl
  | t :: bts, rest, out, h => by
    simp only [List.all_cons, Bool.and_eq_true] at h
    rw [List.flatMap_cons, List.append_assoc, groupAux_obj t h.1, groupAux_flat bts rest _ h.2, List.map_cons,
      List.reverse_cons, List.append_assoc]
    rfl

theorem groupToks_flat (bts : List BTok) (h : bts.all BTok.plain = true) :
    groupToks (bts.flatMap BTok.flat) = some (bts.map BTok.toTok) := by
  simpa [groupToks, groupAux] using groupAux_flat bts [] [] h

end PdfVerif.CIDFontLemmas
