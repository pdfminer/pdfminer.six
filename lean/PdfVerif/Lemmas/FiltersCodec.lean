/-
The keyword line of a stream, RunLength and ASCIIHex against their encoders.
-/
import PdfVerif.Spec.FilterEnc
import PdfVerif.Lemmas.FiltersLit

namespace PdfVerif.Filters
open PdfVerif PdfVerif.FilterEnc

/-! ## nextline / stream delimitation -/

/-- An end-of-line marker after the keyword line, as ISO 32000-1 7.3.8.1 allows it (LF or CRLF),
or a lone CR when the next byte is not LF. -/
def EolOk (eol rest : Bytes) : Prop :=
  eol = [10] ∨ eol = [13, 10] ∨ (eol = [13] ∧ ∃ c t, rest = c :: t ∧ c ≠ 10)

theorem nextline_kw (kw : Bytes) (hkw : ∀ c ∈ kw, c ≠ 10 ∧ c ≠ 13) (eol rest : Bytes) (heol : EolOk eol rest) :
    nextline (kw ++ eol ++ rest) = some (kw ++ eol) := by
  induction kw with
  | nil =>
    rcases heol with rfl | rfl | ⟨rfl, c, t, rfl, hc⟩
    · simp [nextline]
    · simp [nextline]
    · simp [nextline, hc]
  | cons c kw ih =>
    have h1 := (hkw c (by simp)).1
    have h2 := (hkw c (by simp)).2
    have ih' := ih (fun c hc => hkw c (by simp [hc]))
    simp only [List.cons_append, nextline]
    simp only [List.append_assoc] at ih'
    simp [h1, h2, ih']

/-! ## RunLength -/

theorem rldecodeAux_literal (fuel : Nat) (l : UInt8) (bs rest : Bytes) (hl : l.toNat < 128)
    (hb : bs.length = l.toNat + 1) :
    rldecodeAux (fuel + 1) (l :: (bs ++ rest)) =
      match rldecodeAux fuel rest with
      | .ok r => .ok (bs ++ r)
      | .error e => .error e := by
  have h128 : (l == 128) = false := (u8_toNat_eq_iff l 128 (by omega)).trans (decide_eq_false (by omega))
  have hlen : ¬ (bs ++ rest).length < l.toNat + 1 := by simp; omega
  rw [rldecodeAux_cons_lit, h128, if_neg (by decide), if_pos hl, if_neg hlen, List.drop_left' hb, List.take_left' hb]
  rfl

theorem rldecodeAux_repeat (fuel : Nat) (l b : UInt8) (rest : Bytes) (hl : 128 < l.toNat) :
    rldecodeAux (fuel + 1) (l :: b :: rest) =
      match rldecodeAux fuel rest with
      | .ok r => .ok (List.replicate (257 - l.toNat) b ++ r)
      | .error e => .error e := by
  have h128 : (l == 128) = false := (u8_toNat_eq_iff l 128 (by omega)).trans (decide_eq_false (by omega))
  rw [rldecodeAux_cons_lit, h128, if_neg (by decide), if_neg (by omega)]
  rfl

theorem rlBody_rt (t : Bytes) (ht : t = [] ∨ t = [128]) :
    ∀ (segs : List RlSeg) (fuel : Nat), (∀ s ∈ segs, s.valid = true) → (rlBody segs ++ t).length < fuel →
      rldecodeAux fuel (rlBody segs ++ t) = .ok (rlFlat segs) := by
  intro segs
  induction segs with
  | nil =>
    intro fuel _ hf
    cases fuel with
    | zero => omega
    | succ fuel =>
      rcases ht with rfl | rfl
      · simp [rlBody, rlFlat, rldecodeAux]
      · simp [rlBody, rlFlat, rldecodeAux_cons_lit]
  | cons s segs ih =>
    intro fuel hv hf
    have hs := hv s (by simp)
    cases fuel with
    | zero => omega
    | succ fuel =>
      cases s with
      | lit bs =>
        simp only [RlSeg.valid, Bool.and_eq_true, decide_eq_true_eq] at hs
        have hl : (UInt8.ofNat (bs.length - 1)).toNat = bs.length - 1 := toNat_ofNat_lt _ (by omega)
        simp only [rlBody, RlSeg.enc, List.cons_append, List.append_assoc, rlFlat, RlSeg.flat] at hf ⊢
        rw [rldecodeAux_literal fuel _ bs _ (by omega) (by omega),
          ih fuel (fun s hs => hv s (by simp [hs])) (by simp at hf ⊢; omega)]
      | run n b =>
        simp only [RlSeg.valid, Bool.and_eq_true, decide_eq_true_eq] at hs
        have hl : (UInt8.ofNat (257 - n)).toNat = 257 - n := toNat_ofNat_lt _ (by omega)
        have hn : 257 - (257 - n) = n := by omega
        simp only [rlBody, RlSeg.enc, List.cons_append, List.nil_append, rlFlat, RlSeg.flat] at hf ⊢
        rw [rldecodeAux_repeat fuel _ b _ (by omega),
          ih fuel (fun s hs => hv s (by simp [hs])) (by simp at hf ⊢; omega), hl, hn]

/-! ## ASCIIHex -/

-- the 16 digits in both cases: a table
theorem hexv_hexDigitB (n : Nat) (u : Bool) (hn : n < 16) : hexv (hexDigitB n u) = some n := by
  have key : ∀ n, n < 16 → ∀ u : Bool, hexv (hexDigitB n u) = some n := by decide +kernel
  exact key n hn u

theorem hexDigitB_props (n : Nat) (u : Bool) (hn : n < 16) :
    isWs (hexDigitB n u) = false ∧ hexDigitB n u ≠ 62 := by
  have hv := hexv_hexDigitB n u hn
  constructor
  · cases hw : isWs (hexDigitB n u) with
    | false => rfl
    | true =>
      exfalso
      simp only [isWs, Bool.or_eq_true, beq_iff_eq] at hw
      rcases hw with ((((h | h) | h) | h) | h) | h <;> (rw [h] at hv; simp [hexv] at hv)
  · intro h; rw [h] at hv; simp [hexv] at hv

-- for `i = n + 7` the tests `i == 1`, … of `ws7` evaluate to `false`
theorem ws7_filter : ∀ i : Nat, (ws7 i).filter (fun b => !isWs b) = []
  | 0 | 1 | 2 | 3 | 4 | 5 | 6 | _ + 7 => rfl

/-- The digits of `x` without white space, the last low digit dropped when `drop`. -/
def ahxDigits : List Nat → Bool → Bytes → Bytes
  | _, _, [] => []
  | cs, t2, [b] =>
    hexDigitB (b.toNat / 16) (hd0 cs % 2 == 1) ::
      (if t2 && b.toNat % 16 == 0 then [] else [hexDigitB (b.toNat % 16) (hd0 cs / 2 % 2 == 1)])
  | cs, t2, b :: b' :: rest =>
    hexDigitB (b.toNat / 16) (hd0 cs % 2 == 1) :: hexDigitB (b.toNat % 16) (hd0 cs / 2 % 2 == 1) ::
      ahxDigits cs.tail t2 (b' :: rest)

theorem div16_lt (b : UInt8) : b.toNat / 16 < 16 := by
  have := b.toNat_lt; omega

theorem ahx_filter (cs : List Nat) (t2 : Bool) (x : Bytes) :
    (ahxEncGo cs t2 x).filter (fun b => !isWs b) = ahxDigits cs t2 x := by
  have hhi (b : UInt8) (u : Bool) := (hexDigitB_props (b.toNat / 16) u (div16_lt b)).1
  have hlo (b : UInt8) (u : Bool) := (hexDigitB_props (b.toNat % 16) u (Nat.mod_lt _ (by omega))).1
  fun_induction ahxDigits cs t2 x with
  | case1 => rfl
  | case2 cs t2 b =>
    simp only [ahxEncGo, ahxEncByte, List.filter_append, ws7_filter, List.append_nil]
    split <;> simp [hhi, hlo]
  | case3 cs t2 b b' rest ih =>
    simp only [ahxEncGo, ahxEncByte, List.filter_append, ws7_filter, List.append_nil, ih]
    simp [hhi, hlo]

theorem ahxDigits_no_gt (cs : List Nat) (t2 : Bool) (x : Bytes) : ∀ c ∈ ahxDigits cs t2 x, (c != 62) = true := by
  have hhi (b : UInt8) (u : Bool) := (hexDigitB_props (b.toNat / 16) u (div16_lt b)).2
  have hlo (b : UInt8) (u : Bool) := (hexDigitB_props (b.toNat % 16) u (Nat.mod_lt _ (by omega))).2
  fun_induction ahxDigits cs t2 x with
  | case1 => simp
  | case2 cs t2 b => split <;> simp [hhi, hlo]
  | case3 cs t2 b b' rest ih => simpa [hhi, hlo] using ih

theorem byte_of_nibbles (b : UInt8) : UInt8.ofNat (b.toNat / 16 * 16 + b.toNat % 16) = b := by
  have : b.toNat / 16 * 16 + b.toNat % 16 = b.toNat := by omega
  rw [this, UInt8.ofNat_toNat]

/-- The digit string decodes to `x`, after appending the `0` that was left out if there was one;
the number of digits is odd exactly when a digit was left out, which needs `t2`. -/
theorem ahxDigits_decode (cs : List Nat) (t2 : Bool) (x : Bytes) :
    (unhexlify (ahxDigits cs t2 x) = .ok x ∧ (ahxDigits cs t2 x).length % 2 = 0) ∨
    (t2 = true ∧ unhexlify (ahxDigits cs t2 x ++ [48]) = .ok x ∧ (ahxDigits cs t2 x).length % 2 = 1) := by
  have hhi (b : UInt8) (u : Bool) := hexv_hexDigitB (b.toNat / 16) u (div16_lt b)
  have hlo (b : UInt8) (u : Bool) := hexv_hexDigitB (b.toNat % 16) u (Nat.mod_lt _ (by omega))
  fun_induction ahxDigits cs t2 x with
  | case1 => exact .inl ⟨rfl, rfl⟩
  | case2 cs t2 b =>
    by_cases hd : (t2 && b.toNat % 16 == 0) = true
    · obtain ⟨ht, hd0⟩ : t2 = true ∧ b.toNat % 16 = 0 := by simpa using hd
      have h0 : hexv 48 = some 0 := by decide
      have hb := byte_of_nibbles b
      rw [hd0] at hb
      simp only [hd, if_true, List.cons_append, List.nil_append, unhexlify, hhi, h0, hb, List.length_cons,
        List.length_nil]
      exact .inr ⟨ht, trivial, trivial⟩
    · simp only [hd, Bool.false_eq_true, if_false, unhexlify, hhi, hlo, byte_of_nibbles, List.length_cons,
        List.length_nil]
      exact .inl ⟨trivial, trivial⟩
  | case3 cs t2 b b' rest ih =>
    simp only [List.cons_append, unhexlify, hhi, hlo, byte_of_nibbles, List.length_cons]
    rcases ih with ⟨h1, h2⟩ | ⟨ht, h1, h2⟩
    · exact .inl ⟨by rw [h1], by omega⟩
    · exact .inr ⟨ht, by rw [h1], by omega⟩

theorem takeWhile_append_stop {α : Type} (p : α → Bool) (l : List α) (a : α) (r : List α)
    (hl : ∀ c ∈ l, p c = true) (ha : p a = false) : (l ++ a :: r).takeWhile p = l := by
  rw [List.takeWhile_append_of_pos hl, List.takeWhile_cons_of_neg (by simp [ha]), List.append_nil]

theorem takeWhile_all {α : Type} (p : α → Bool) (l : List α) (hl : ∀ c ∈ l, p c = true) : l.takeWhile p = l := by
  have := List.takeWhile_append_of_pos (l₂ := []) hl
  rwa [List.append_nil, List.takeWhile_nil, List.append_nil] at this

end PdfVerif.Filters
