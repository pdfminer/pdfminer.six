/-
Helper lemmas for C16 (Props/C16.lean): the flat segment list of the implementation versus the
sub-path records of the specification.
-/
import PdfVerif.Spec.Paths

set_option linter.constructorNameAsVariable false

namespace PdfVerif.PathLemmas
open PdfVerif PdfVerif.Paths PdfVerif.PathSpec PdfVerif.Gen.PathsGen

theorem eq_nil_or_snoc {α : Type} (l : List α) : l = [] ∨ ∃ L b, l = L ++ [b] := by
  rcases List.eq_nil_or_concat l with h | ⟨L, b, h⟩
  · exact Or.inl h
  · exact Or.inr ⟨L, b, by rw [h, List.concat_eq_append]⟩

theorem filterMap_cons_toList {α β : Type} (f : α → Option β) (a : α) (l : List α) :
    (a :: l).filterMap f = (f a).toList ++ l.filterMap f := by
  rw [List.filterMap_cons]
  cases f a <;> rfl

theorem foldl_bound (rest : List Point) (a b c d : Rat) :
    rest.foldl (fun (bb : Rect) (p : Point) =>
      let (x0, y0, x1, y1) := bb
      (min x0 p.1, min y0 p.2, max x1 p.1, max y1 p.2)) (a, b, c, d) =
    ((rest.map Prod.fst).foldl min a, (rest.map Prod.snd).foldl min b,
     (rest.map Prod.fst).foldl max c, (rest.map Prod.snd).foldl max d) := by
  induction rest generalizing a b c d with
  | nil => rfl
  | cons p rest ih => simp [List.foldl, ih]

theorem getBound_eq_hull (pts : List Point) : getBound pts = hull pts := by
  cases pts with
  | nil => rfl
  | cons p rest =>
    have hmax (z : Rat) : max z z = z := by grind
    simp only [getBound, hull, List.map_cons, List.foldl_cons, foldl_bound, Std.min_self, hmax]

theorem toPSeg_map (f : Point → Point) (g : Seg) : (g.toPSeg).mapPts f = (g.map f).toPSeg := by
  cases g <;> rfl

theorem lastPt_toPSeg (g : Seg) (s : Point) : (g.toPSeg).lastPt s = g.endPt := by
  cases g <;> rfl

theorem endPt_map (f : Point → Point) (g : Seg) : (g.map f).endPt = f g.endPt := by
  cases g <;> rfl

theorem isLine_map (f : Point → Point) (g : Seg) : (g.map f).isLine = g.isLine := by
  cases g <;> rfl

theorem letter_toPSeg_ne_h (g : Seg) : g.toPSeg.letter ≠ 'h' := by cases g <;> simp [Seg.toPSeg, PSeg.letter]
theorem letter_toPSeg_ne_m (g : Seg) : g.toPSeg.letter ≠ 'm' := by cases g <;> simp [Seg.toPSeg, PSeg.letter]

theorem isLine_iff (g : Seg) : g.isLine = true ↔ ∃ p, g = .l p := by
  cases g <;> simp [Seg.isLine]

theorem doSeg_m (x y : Rat) (st : IState) : doSeg .m [.num x, .num y] st = pushSeg st (.m (x, y)) := rfl
theorem doSeg_l (x y : Rat) (st : IState) : doSeg .l [.num x, .num y] st = pushSeg st (.l (x, y)) := rfl
theorem doSeg_c (x1 y1 x2 y2 x3 y3 : Rat) (st : IState) :
    doSeg .c [.num x1, .num y1, .num x2, .num y2, .num x3, .num y3] st = pushSeg st (.c (x1, y1) (x2, y2) (x3, y3)) := rfl
theorem doSeg_v (x2 y2 x3 y3 : Rat) (st : IState) :
    doSeg .v [.num x2, .num y2, .num x3, .num y3] st = pushSeg st (.v (x2, y2) (x3, y3)) := rfl
theorem doSeg_y (x1 y1 x3 y3 : Rat) (st : IState) :
    doSeg .y [.num x1, .num y1, .num x3, .num y3] st = pushSeg st (.y (x1, y1) (x3, y3)) := rfl

theorem doSeg_bad (k : OpK) (args : List Operand) (st : IState) (h : allNums args = none) : doSeg k args st = st := by
  simp [doSeg, h]

/-- The projection under which `Sim.out` compares shapes.  It is the identity: no attribute is left out of
the comparison, the points of rectangles (in path order) included. -/
def eraseRectPts (s : Shape) : Shape := s

theorem map_erase (l : List Shape) : l.map eraseRectPts = l := List.map_id'' (fun _ => rfl) l

/-! The tests of `paint_path` with the constants regenerated from converter.py written out. -/

theorem squareCoords_eq : squareCoords = axisAligned := by
  funext p0 p1 p2 p3
  simp only [squareCoords, has_square_coordinates, axisAligned]

theorem redundantL_eq (shape : List Char) (pts : List Point) :
    redundantL shape pts =
      decide (shape.length > 3 ∧ shape.drop (shape.length - 2) = ['l', 'h'] ∧ pts[pts.length - 2]? = pts.head?) := by
  rw [List.head?_eq_getElem?]; rfl

theorem classifyShape_eq (a : PaintArgs) (shape : List Char) (pts : List Point) (tpath : List PSeg) :
    classifyShape a shape pts tpath =
      (if shape = ['m', 'l', 'h'] ∨ shape = ['m', 'l'] then
        match pts with
        | p0 :: p1 :: _ => [mkLine a p0 p1 tpath]
        | _ => []
      else if shape = ['m', 'l', 'l', 'l', 'h'] ∨ shape = ['m', 'l', 'l', 'l', 'l'] then
        match pts with
        | [p0, p1, p2, p3, p4] =>
          if p0 = p4 ∧ squareCoords p0 p1 p2 p3 = true then
            [{ mkRect a (p0.1, p0.2, p2.1, p2.2) tpath with pts := [p0, p1, p2, p3] }]
          else [mkCurve a pts tpath]
        | _ => []
      else [mkCurve a pts tpath]) := by
  unfold classifyShape
  simp only [lineShapes, rectShapes, linePts, closedLoopPts, rectCorners, rectPtsTake, List.mem_cons,
    List.not_mem_nil, or_false]
  rcases pts with _ | ⟨p0, _ | ⟨p1, _ | ⟨p2, _ | ⟨p3, _ | ⟨p4, _ | ⟨p5, r⟩⟩⟩⟩⟩⟩
  -- five points: `pts[0]? = pts[4]?` has to become `p0 = p4`; every other length computes
  case cons.cons.cons.cons.cons.nil => simp
  all_goals rfl

/-- `LTRect` takes its bounding box from `pts[0]` and `pts[2]` alone. -/
theorem rect_bbox (s e1 e2 e3 : Point) (h : axisAligned s e1 e2 e3 = true) :
    getBound [(s.1, s.2), (e2.1, s.2), (e2.1, e2.2), (s.1, e2.2)] = getBound [s, e1, e2, e3] := by
  obtain ⟨sx, sy⟩ := s
  obtain ⟨x1, y1⟩ := e1
  obtain ⟨x2, y2⟩ := e2
  obtain ⟨x3, y3⟩ := e3
  simp only [axisAligned, decide_eq_true_eq] at h
  simp only [getBound, List.foldl_cons, List.foldl_nil]
  rcases h with ⟨h1, h2, h3, h4⟩ | ⟨h1, h2, h3, h4⟩ <;> subst_vars <;> simp only [Option.some.injEq, Prod.mk.injEq] <;>
    refine ⟨?_, ?_, ?_, ?_⟩ <;> grind

def specShape (a : PaintArgs) (kp : Kind × List Point) (tpath : List PSeg) : Shape :=
  mkShape kp.1 a kp.2 tpath

/-- The string of operator letters and the point list `paint_path` builds for the sub-path that starts at `s`,
has the segments `ns` and is closed or not. -/
def shapeStr (ns : List Seg) (c : Bool) : List Char :=
  'm' :: (ns.map (fun g => g.toPSeg.letter) ++ if c then ['h'] else [])
def ptsOf (s : Point) (ns : List Seg) (c : Bool) : List Point := s :: (ns.map Seg.endPt ++ if c then [s] else [])

theorem classify_quad (a : PaintArgs) (sh : List Char)
    (hsh : sh = ['m', 'l', 'l', 'l', 'h'] ∨ sh = ['m', 'l', 'l', 'l', 'l']) (p0 p1 p2 p3 p4 : Point) (tpath : List PSeg) :
    classifyShape a sh [p0, p1, p2, p3, p4] tpath =
      [specShape a (if p4 = p0 ∧ axisAligned p0 p1 p2 p3 = true then (.rect, [p0, p1, p2, p3])
        else (.curve, [p0, p1, p2, p3, p4])) tpath] := by
  have hl : ¬ (sh = ['m', 'l', 'h'] ∨ sh = ['m', 'l']) := by rcases hsh with rfl | rfl <;> decide
  rw [classifyShape_eq, if_neg hl, if_pos hsh, squareCoords_eq]
  dsimp only
  by_cases h : p4 = p0 ∧ axisAligned p0 p1 p2 p3 = true
  · obtain ⟨rfl, hax⟩ := h
    simp [hax, specShape, mkRect, mkShape, rect_bbox _ _ _ _ hax]
  · rw [if_neg (fun h' => h ⟨h'.1.symm, h'.2⟩), if_neg h]
    rfl

theorem shapeStr_curve (ns : List Seg) (c : Bool) (h : ns.all Seg.isLine = false ∨ 5 ≤ ns.length) :
    shapeStr ns c ∉ lineShapes ∧ shapeStr ns c ∉ rectShapes := by
  -- the shape strings of lines and rectangles have at most five letters, all of them `m`, `l` or `h`
  have straight : ∀ sh ∈ lineShapes ++ rectShapes, sh.length ≤ 5 ∧ ∀ ch ∈ sh, ch = 'm' ∨ ch = 'l' ∨ ch = 'h' := by
    decide
  rw [← not_or, ← List.mem_append]
  intro hm
  obtain ⟨hlen, hch⟩ := straight _ hm
  rcases h with h | h
  · obtain ⟨g, hg, hl⟩ : ∃ g ∈ ns, g.isLine = false := by simpa using h
    have := hch g.toPSeg.letter (by simp [shapeStr]; exact .inr (.inl ⟨g, hg, rfl⟩))
    cases g <;> simp [Seg.toPSeg, PSeg.letter, Seg.isLine] at hl this
  · simp [shapeStr] at hlen; omega

theorem kindPts_curve (s : Point) (ns : List Seg) (c : Bool) (h : ns.all Seg.isLine = false ∨ 5 ≤ ns.length) :
    kindPts s ns c = (.curve, ptsOf s ns c) := by
  rcases h with h | h
  · unfold kindPts
    rw [h]
    rfl
  · rcases ns with _ | ⟨a1, _ | ⟨a2, _ | ⟨a3, _ | ⟨a4, _ | ⟨a5, rest⟩⟩⟩⟩⟩
    case cons.cons.cons.cons.cons =>
      unfold kindPts
      cases (a1 :: a2 :: a3 :: a4 :: a5 :: rest).all Seg.isLine <;> rfl
    all_goals exact absurd h (by simp)

theorem lines_of_all (ns : List Seg) (h : ns.all Seg.isLine = true) : ∃ ps : List Point, ns = ps.map Seg.l := by
  induction ns with
  | nil => exact ⟨[], rfl⟩
  | cons g rest ih =>
    rw [List.all_cons, Bool.and_eq_true] at h
    obtain ⟨p, rfl⟩ := (isLine_iff g).1 h.1
    obtain ⟨ps, rfl⟩ := ih h.2
    exact ⟨p :: ps, rfl⟩

theorem classify_spec (a : PaintArgs) (s' : Point) (ns : List Seg) (c : Bool) (tpath : List PSeg)
    (hne : ns ≠ []) :
    classifyShape a (shapeStr ns c) (ptsOf s' ns c) tpath = [specShape a (kindPts s' ns c) tpath] := by
  by_cases h : ns.all Seg.isLine = false ∨ 5 ≤ ns.length
  · unfold classifyShape
    rw [if_neg (shapeStr_curve ns c h).1, if_neg (shapeStr_curve ns c h).2, kindPts_curve s' ns c h]
    rfl
  · -- one to four straight segments: both sides compute, except for the two rectangle candidates
    rw [not_or, Bool.not_eq_false, Nat.not_le] at h
    obtain ⟨ps, rfl⟩ := lines_of_all ns h.1
    rcases ps with _ | ⟨p1, _ | ⟨p2, _ | ⟨p3, _ | ⟨p4, _ | ⟨p5, rest⟩⟩⟩⟩⟩
    · exact absurd rfl hne
    · cases c <;> rfl
    · cases c <;> rfl
    · cases c
      · rfl
      · exact (classify_quad a _ (.inl rfl) s' p1 p2 p3 s' tpath).trans (by simp [kindPts, Seg.isLine, Seg.endPt])
    · cases c
      · exact classify_quad a _ (.inr rfl) s' p1 p2 p3 p4 tpath
      · rfl
    · exact absurd h.2 (by simp)

def flat1 (sp : SubPath) : List PSeg :=
  PSeg.m sp.start :: (sp.segs.map Seg.toPSeg ++ (if sp.closed then [PSeg.h] else []))

theorem letter_map (f : Point → Point) (g : Seg) : (g.map f).toPSeg.letter = g.toPSeg.letter := by
  cases g <;> rfl

theorem lastPt_m (p q : Point) : (PSeg.m p).lastPt q = p := rfl
theorem letter_m (p : Point) : (PSeg.m p).letter = 'm' := rfl

theorem flat1_letters (f : Point → Point) (sp : SubPath) :
    (flat1 sp).map PSeg.letter = shapeStr (sp.segs.map (Seg.map f)) sp.closed := by
  have hh : PSeg.h.letter = 'h' := rfl
  cases hc : sp.closed <;> simp [flat1, shapeStr, hc, letter_m, hh, Function.comp_def, letter_map]

theorem flat1_pts (f : Point → Point) (sp : SubPath) :
    (flat1 sp).map (fun p => f (p.lastPt sp.start)) = ptsOf (f sp.start) (sp.segs.map (Seg.map f)) sp.closed := by
  have hh : PSeg.h.lastPt sp.start = sp.start := rfl
  cases hc : sp.closed <;> simp [flat1, ptsOf, hc, lastPt_m, hh, Function.comp_def, lastPt_toPSeg, endPt_map]

theorem flat1_tpath (f : Point → Point) (sp : SubPath) : (flat1 sp).map (PSeg.mapPts f) = pathOf f sp := by
  have hm : ∀ p : Point, (PSeg.m p).mapPts f = PSeg.m (f p) := fun _ => rfl
  have hh : PSeg.h.mapPts f = PSeg.h := rfl
  cases hc : sp.closed <;> simp [flat1, pathOf, hc, Function.comp_def, toPSeg_map, hm, hh]

theorem red_closed (N0 : List Seg) (g : Seg) (s' : Point) :
    redundantL (shapeStr (N0 ++ [g]) true) (ptsOf s' (N0 ++ [g]) true) = decide (N0 ≠ [] ∧ g = .l s') := by
  have hg : g = .l s' ↔ g.toPSeg.letter = 'l' ∧ g.endPt = s' := by
    cases g <;> simp [Seg.toPSeg, PSeg.letter, Seg.endPt]
  -- string `m … x h`, points `s' … e s'` (`x`, `e`: letter and end point of `g`)
  have hs : shapeStr (N0 ++ [g]) true = ('m' :: N0.map (fun g => g.toPSeg.letter)) ++ [g.toPSeg.letter, 'h'] := by
    simp [shapeStr]
  have hp : ptsOf s' (N0 ++ [g]) true = (s' :: N0.map Seg.endPt) ++ [g.endPt, s'] := by simp [ptsOf]
  rw [hs, hp, redundantL_eq]
  simp only [hg, List.length_append, List.length_cons, List.length_nil, Nat.add_sub_cancel]
  cases N0 <;> simp

theorem red_open (N0 : List Seg) (g : Seg) (pts : List Point) :
    redundantL (shapeStr (N0 ++ [g]) false) pts = false := by
  rw [redundantL_eq, decide_eq_false_iff_not]
  -- the string does not end in `h`
  rintro ⟨_, hdrop, _⟩
  have h1 := congrArg List.getLast? hdrop
  have h2 : (shapeStr (N0 ++ [g]) false).getLast? = some g.toPSeg.letter := by
    rw [show shapeStr (N0 ++ [g]) false = ('m' :: N0.map (fun g => g.toPSeg.letter)) ++ [g.toPSeg.letter] by
      simp [shapeStr]]
    exact List.getLast?_concat
  rw [List.getLast?_drop, h2] at h1
  split at h1
  · cases h1
  · exact absurd (Option.some.inj h1) (letter_toPSeg_ne_h g)

theorem normSegs_snoc (s : Point) (c : Bool) (N0 : List Seg) (g : Seg) :
    normSegs s c (N0 ++ [g]) = if c = true ∧ N0 ≠ [] ∧ g = .l s then N0 else N0 ++ [g] := by
  have hl : 1 ≤ N0.length ↔ N0 ≠ [] := List.length_pos_iff
  unfold normSegs
  rw [List.getLast?_concat]
  cases g <;> simp [hl]

/-- The cut on a redundant closing `l` is the specification's `normSegs`. -/
theorem drop_step (s' : Point) (ns : List Seg) (c : Bool) (hne : ns ≠ []) :
    let sh := shapeStr ns c
    let pts := ptsOf s' ns c
    (if redundantL sh pts then sh.take (sh.length - 2) ++ ['h'] else sh) = shapeStr (normSegs s' c ns) c ∧
    (if redundantL sh pts then pts.dropLast else pts) = ptsOf s' (normSegs s' c ns) c ∧
    normSegs s' c ns ≠ [] := by
  dsimp only
  obtain ⟨N0, g, rfl⟩ : ∃ N0 g, ns = N0 ++ [g] := (eq_nil_or_snoc ns).resolve_left hne
  rw [normSegs_snoc]
  cases c
  · rw [red_open]
    exact ⟨rfl, rfl, hne⟩
  · rw [red_closed]
    by_cases hd : N0 ≠ [] ∧ g = .l s'
    · obtain ⟨hN, rfl⟩ := hd
      have hp : ptsOf s' (N0 ++ [.l s']) true = ptsOf s' N0 true ++ [s'] := by simp [ptsOf, Seg.endPt]
      rw [decide_eq_true ⟨hN, rfl⟩, if_pos rfl, if_pos rfl, if_pos ⟨rfl, hN, rfl⟩, hp, List.dropLast_concat]
      exact ⟨by simp [shapeStr], rfl, hN⟩
    · rw [decide_eq_false hd, if_neg Bool.false_ne_true, if_neg Bool.false_ne_true, if_neg (fun h => hd h.2)]
      exact ⟨rfl, rfl, hne⟩

/-- The implementation's graphics state that corresponds to a specification state (no pattern colour). -/
def gsOf (g : SGState) : GState :=
  { linewidth := g.linewidth, dash := g.dash.map (fun d => (Operand.arr d.1, Operand.num d.2)),
    scolor := g.scolor, ncolor := g.ncolor, scs := g.sspace.n, ncs := g.nspace.n }

def argsOf (g : SGState) (stroke fill evenodd : Bool) : PaintArgs := ⟨gsOf g, stroke, fill, evenodd⟩

theorem shapeOf_eq (g : SGState) (st fi eo : Bool) (sp : SubPath) (hne : sp.segs ≠ []) :
    shapeOf g st fi eo sp =
      some (specShape (argsOf g st fi eo)
        (kindPts (apply_matrix_pt g.ctm sp.start)
          (normSegs (apply_matrix_pt g.ctm sp.start) sp.closed (sp.segs.map (Seg.map (apply_matrix_pt g.ctm))))
          sp.closed) (pathOf (apply_matrix_pt g.ctm) sp)) := by
  simp [shapeOf, hne, specShape, mkShape, argsOf, gsOf, getBound_eq_hull]

theorem paintSingle_flat1 (ctm : Matrix) (a : PaintArgs) (sp : SubPath) (hne : sp.segs ≠ []) :
    paintSingle ctm a (flat1 sp) =
      [specShape a
        (kindPts (apply_matrix_pt ctm sp.start)
          (normSegs (apply_matrix_pt ctm sp.start) sp.closed (sp.segs.map (Seg.map (apply_matrix_pt ctm))))
          sp.closed) (pathOf (apply_matrix_pt ctm) sp)] := by
  have hl := flat1_letters (apply_matrix_pt ctm) sp
  have hp := flat1_pts (apply_matrix_pt ctm) sp
  have ht := flat1_tpath (apply_matrix_pt ctm) sp
  obtain ⟨h1, h2, h3⟩ := drop_step (apply_matrix_pt ctm sp.start) (sp.segs.map (Seg.map (apply_matrix_pt ctm)))
    sp.closed (mt List.map_eq_nil_iff.1 hne)
  rw [flat1] at hl hp ht ⊢
  simp only [paintSingle, lastPt_m, hl, hp, ht, redundantCut, redundantTail, h1, h2, classify_spec _ _ _ _ _ h3]

/-- A shape whose `original_path` contains at least one segment operator. -/
def hasSeg (s : Shape) : Bool := s.path.any PSeg.isSeg

def attrsOk (a : PaintArgs) (s : Shape) : Prop :=
  s.stroke = a.stroke ∧ s.fill = a.fill ∧ s.evenodd = a.evenodd ∧ s.linewidth = a.gs.linewidth ∧
  s.dash = a.gs.dash ∧ s.scolor = a.gs.scolor ∧ s.ncolor = a.gs.ncolor

theorem classifyShape_frame (a : PaintArgs) (shape : List Char) (pts : List Point) (tpath : List PSeg) :
    ∀ s ∈ classifyShape a shape pts tpath, s.path = tpath ∧ attrsOk a s := by
  intro s hs
  rw [classifyShape_eq] at hs
  repeat' split at hs
  all_goals first
    | (rw [List.mem_singleton] at hs; subst hs; exact ⟨rfl, rfl, rfl, rfl, rfl, rfl, rfl, rfl⟩)
    | cases hs

theorem paintSingle_frame (ctm : Matrix) (a : PaintArgs) (path : List PSeg) :
    ∀ s ∈ paintSingle ctm a path, s.path = path.map (PSeg.mapPts (apply_matrix_pt ctm)) ∧ attrsOk a s := by
  intro s hs
  cases path with
  | nil => cases hs
  | cons first rest => exact classifyShape_frame _ _ _ _ s hs

theorem any_isSeg_map (f : Point → Point) (path : List PSeg) :
    (path.map (PSeg.mapPts f)).any PSeg.isSeg = path.any PSeg.isSeg := by
  induction path with
  | nil => rfl
  | cons x rest ih =>
    have : (x.mapPts f).isSeg = x.isSeg := by cases x <;> rfl
    simp [this, ih]

theorem filter_hasSeg (ctm : Matrix) (a : PaintArgs) (path : List PSeg) :
    (paintSingle ctm a path).filter hasSeg = if path.any PSeg.isSeg then paintSingle ctm a path else [] := by
  have h : ∀ s ∈ paintSingle ctm a path, hasSeg s = path.any PSeg.isSeg := fun s hs => by
    rw [hasSeg, (paintSingle_frame ctm a path s hs).1, any_isSeg_map]
  rw [List.filter_congr h]
  cases path.any PSeg.isSeg <;> simp

theorem flat1_any (sp : SubPath) : (flat1 sp).any PSeg.isSeg = !sp.segs.isEmpty := by
  obtain ⟨s, segs, c, imp⟩ := sp
  have h1 : ∀ g : Seg, g.toPSeg.isSeg = true := by intro g; cases g <;> rfl
  have hm : (PSeg.m s).isSeg = false := rfl
  have hh : PSeg.h.isSeg = false := rfl
  cases segs with
  | nil => cases c <;> simp [flat1, hm, hh]
  | cons g rest => simp [flat1, hm, h1]

theorem per_subpath (g : SGState) (st fi eo : Bool) (sp : SubPath) :
    (paintSingle g.ctm (argsOf g st fi eo) (flat1 sp)).filter hasSeg = (shapeOf g st fi eo sp).toList := by
  rw [filter_hasSeg, flat1_any]
  by_cases hne : sp.segs = []
  · simp [hne, shapeOf]
  · rw [paintSingle_flat1 _ _ sp hne, shapeOf_eq g st fi eo sp hne]
    simp [hne]

def flat (sps : List SubPath) : List PSeg := sps.flatMap flat1

def tail1 (sp : SubPath) : List PSeg := sp.segs.map Seg.toPSeg ++ (if sp.closed then [PSeg.h] else [])

theorem flat1_eq (sp : SubPath) : flat1 sp = PSeg.m sp.start :: tail1 sp := rfl

theorem flat_cons (sp : SubPath) (rest : List SubPath) :
    flat (sp :: rest) = PSeg.m sp.start :: (tail1 sp ++ flat rest) := rfl

theorem tail1_noM (sp : SubPath) : ∀ x ∈ tail1 sp, x.isM = false := by
  intro x hx
  simp only [tail1, List.mem_append, List.mem_map] at hx
  rcases hx with ⟨g, _, rfl⟩ | hx
  · cases g <;> rfl
  · split at hx
    · simp only [List.mem_singleton] at hx; subst hx; rfl
    · cases hx

theorem splitAux_noM (acc xs tail : List PSeg) (h : ∀ x ∈ xs, x.isM = false) :
    splitAux (some acc) (xs ++ tail) = splitAux (some (acc ++ xs)) tail := by
  induction xs generalizing acc with
  | nil => simp
  | cons x rest ih =>
    have hx : x.isM = false := h x (List.mem_cons_self ..)
    simp only [List.cons_append, splitAux, hx, Bool.false_eq_true, if_false]
    rw [ih _ (fun y hy => h y (List.mem_cons_of_mem _ hy))]
    simp

theorem splitAux_flat (cur : Option (List PSeg)) (sps : List SubPath) :
    splitAux cur (flat sps) = flushSub cur ++ (sps.map flat1).filter (fun l => l.length > 1) := by
  induction sps generalizing cur with
  | nil => simp [flat, splitAux]
  | cons sp rest ih =>
    have hm : (PSeg.m sp.start).isM = true := rfl
    rw [flat_cons]
    simp only [splitAux, hm, if_true]
    rw [splitAux_noM _ _ _ (tail1_noM sp), ih]
    simp only [flushSub, List.map_cons, flat1_eq, List.singleton_append]
    by_cases hl : 0 < (tail1 sp).length <;> simp [hl]

theorem splitM_flat (sps : List SubPath) :
    splitM (flat sps) = (sps.map flat1).filter (fun l => l.length > 1) := by
  simp [splitM, splitAux_flat, flushSub]

theorem countM_flat (sps : List SubPath) : countM (flat sps) = sps.length := by
  induction sps with
  | nil => rfl
  | cons sp rest ih =>
    have hm : (PSeg.m sp.start).isM = true := rfl
    have ht : (tail1 sp).filter PSeg.isM = [] := by
      apply List.filter_eq_nil_iff.2
      intro x hx; simp [tail1_noM sp x hx]
    unfold countM at ih ⊢
    rw [flat_cons]
    simp [hm, ht, ih]

/-- The implementation's `curpath` for a list of sub-paths: an implicitly begun sub-path has no `m`. -/
def enc1 (sp : SubPath) : List PSeg := (if sp.implicit then [] else [PSeg.m sp.start]) ++ tail1 sp
def enc (sps : List SubPath) : List PSeg := sps.flatMap enc1

/-- Invariant of the specification's path: an implicit sub-path follows a closed sub-path with the same
start point and has a segment (`stp`/`prevH` describe the sub-path before the list). -/
def okFrom (stp : Point) (prevH : Bool) : List SubPath → Prop
  | [] => True
  | sp :: rest =>
    (sp.implicit = true → prevH = true ∧ sp.start = stp ∧ sp.segs ≠ []) ∧ okFrom sp.start sp.closed rest

theorem ex_segs (st : PSeg) (segs : List Seg) (tail : List PSeg) :
    explicitM st false (segs.map Seg.toPSeg ++ tail) = segs.map Seg.toPSeg ++ explicitM st false tail := by
  induction segs with
  | nil => rfl
  | cons g rest ih => cases g <;> exact congrArg (_ :: ·) ih

theorem ex_tail (st : PSeg) (sp : SubPath) (tail : List PSeg) :
    explicitM st false (tail1 sp ++ tail) = tail1 sp ++ explicitM st sp.closed tail := by
  unfold tail1
  rw [List.append_assoc, ex_segs]
  cases sp.closed
  · simp
  · have h1 : PSeg.h.isM = false := rfl
    have h2 : PSeg.h.isH = true := rfl
    have h3 : PSeg.h.isSeg = false := rfl
    simp [explicitM, h1, h2, h3]

/-- After `h`: the first segment gets the start point in front and is then processed as after `m`. -/
theorem ex_tail_implicit (st : PSeg) (sp : SubPath) (tail : List PSeg) (hne : sp.segs ≠ []) :
    explicitM st true (tail1 sp ++ tail) = st :: (tail1 sp ++ explicitM st sp.closed tail) := by
  obtain ⟨s, segs, c, imp⟩ := sp
  cases segs with
  | nil => exact absurd rfl hne
  | cons g gs =>
    have hg : explicitM st true (tail1 ⟨s, g :: gs, c, imp⟩ ++ tail) =
        st :: explicitM st false (tail1 ⟨s, g :: gs, c, imp⟩ ++ tail) := by cases g <;> rfl
    rw [hg, ex_tail]

theorem enc_cons (sp : SubPath) (q : List SubPath) : enc (sp :: q) = enc1 sp ++ enc q := List.flatMap_cons

theorem explicitM_enc (stp : Point) (prevH : Bool) (sps : List SubPath) (h : okFrom stp prevH sps) :
    explicitM (PSeg.m stp) prevH (enc sps) = flat sps := by
  induction sps generalizing stp prevH with
  | nil => rfl
  | cons sp rest ih =>
    obtain ⟨h1, h2⟩ := h
    rw [flat_cons, enc_cons]
    cases himp : sp.implicit
    · have hm : (PSeg.m sp.start).isM = true := rfl
      simp only [enc1, himp, Bool.false_eq_true, if_false, List.cons_append, explicitM, hm,
        if_true, List.nil_append]
      rw [ex_tail, ih _ _ h2]
    · obtain ⟨rfl, rfl, hne⟩ := h1 himp
      simp only [enc1, himp, if_true, List.nil_append]
      rw [ex_tail_implicit _ _ _ hne, ih _ _ h2]

theorem many_subpaths (g : SGState) (st fi eo : Bool) (L : List SubPath) :
    (((L.map flat1).filter (fun l => l.length > 1)).flatMap
        (paintSingle g.ctm (argsOf g st fi eo))).filter hasSeg = L.filterMap (shapeOf g st fi eo) := by
  induction L with
  | nil => rfl
  | cons sp rest ih =>
    rw [filterMap_cons_toList, ← ih, ← per_subpath]
    by_cases hl : (flat1 sp).length > 1
    · simp [hl, List.flatMap_cons, List.filter_append]
    · -- `m` alone: dropped by the regular expression, and without a segment anyway
      have hseg : sp.segs = [] := by
        obtain ⟨s, segs, c, imp⟩ := sp
        cases segs with
        | nil => rfl
        | cons _ _ => simp [flat1] at hl
      have : (paintSingle g.ctm (argsOf g st fi eo) (flat1 sp)).filter hasSeg = [] := by
        rw [filter_hasSeg, flat1_any]; simp [hseg]
      simp [hl, this]

theorem paintPath_enc (g : SGState) (st fi eo : Bool) (sps : List SubPath) (stp : Point)
    (hok : okFrom stp false sps) :
    (paintPath g.ctm (argsOf g st fi eo) (enc sps)).filter hasSeg = sps.filterMap (shapeOf g st fi eo) := by
  cases sps with
  | nil => rfl
  | cons sp rest =>
    have himp : sp.implicit = false := Bool.eq_false_iff.2 fun h => Bool.false_ne_true (hok.1 h).1
    have he : enc (sp :: rest) = PSeg.m sp.start :: (tail1 sp ++ enc rest) := by
      simp [enc, enc1, himp]
    have hx := explicitM_enc sp.start false (sp :: rest) ⟨by simp [himp], hok.2⟩
    rw [he] at hx ⊢
    simp only [paintPath, hx]
    split
    · rw [splitM_flat]
      exact many_subpaths g st fi eo (sp :: rest)
    · rename_i hc
      obtain rfl : rest = [] := by
        cases rest with
        | nil => rfl
        | cons _ _ => simp [countM_flat] at hc
      rw [show flat [sp] = flat1 sp from List.append_nil _, per_subpath, filterMap_cons_toList]
      exact (List.append_nil _).symm

end PdfVerif.PathLemmas
