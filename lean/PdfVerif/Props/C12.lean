/-
C12 — Extraction is a pure function of (document bytes, options): deterministic, cache- and
history-independent.

Model: `PdfVerif.Model.Process` (state machine over `open / next / close / extract / parseCMap`;
per-document object / object-stream / font caches, process-wide encoding tables and CMap caches).
"Fresh computations" are parameters (`DocSpec.objs`: what a parse of an object gives,
`World.loadCMap/loadUMap`: what a CMap file contains, `World.encInit`); `freshPage` / `pagesSpec`
compute a page from fresh values only, without any cache.  The theorems say that the modelled
caching discipline is observationally pure for EVERY history.

The model is tied to pdfminer by tools/harness/props/c12.py (cache key sets, shared-table key sets,
encoding-table checksums and decoded glyph text after every operation of generated histories).
Helper lemmas: `Lemmas/Process.lean`, `Lemmas/ProcGlobals.lean`, `Lemmas/ProcObjCache.lean`.
-/
import PdfVerif.Lemmas.Process
import PdfVerif.Lemmas.ProcGlobals
import PdfVerif.Lemmas.ProcObjCache

namespace PdfVerif.Props.C12
open PdfVerif PdfVerif.Process

variable (W : World)

/-- tables_inv: after ANY history the shared encoding tables are the initial ones, and every entry
of the CMap / unicode-map caches is what a fresh load of its key returns (entries are functions of
their key only). -/
theorem tables_inv (h : List Op) :
    (run W (init W) h).tables.enc = W.encInit ∧
    (∀ k v, (k, v) ∈ (run W (init W) h).tables.cmaps → W.loadCMap k = some v) ∧
    (∀ k v, (k, v) ∈ (run W (init W) h).tables.umaps → W.loadUMap k = some v) :=
  (run_ok h (StateOk.init W)).1

/-- cache_inv: after ANY history, for every open page iterator, every entry of its document's
object cache has the payload a fresh parse returns, every cached object-stream content is the
fresh content, every cached font is the font its object denotes built from fresh values, and
no object stream is left marked "in progress" (the guard set is empty between two operations). -/
theorem cache_inv (h : List Op) (hid : Nat) (hd : Handle)
    (hopen : (hid, hd) ∈ (run W (init W) h).handles) :
    (∀ n v, (n, v) ∈ hd.c.objs → freshObj hd.doc n = some v.1) ∧
    (∀ sid l, (sid, l) ∈ hd.c.pobjs → l = streamObjs hd.doc sid) ∧
    (∀ n f, (n, f) ∈ hd.c.fonts → ∃ spec, alookup n hd.doc.fontSpecs = some spec ∧
        f = fontPure W spec (freshObj hd.doc n :: spec.reads.map (freshObj hd.doc))) ∧
    hd.c.busy = [] :=
  ((run_ok h (StateOk.init W)).2 hid hd hopen).1

/-- The in-place normalisation of cached objects (stream decoding, `resolve_all`) never changes
what a read observes, and is idempotent. -/
theorem touch_observationally_neutral (n k : Nat) (objs : List (Nat × (Nat × Bool))) :
    (alookup k (touch n objs)).map (·.1) = (alookup k objs).map (·.1) ∧
    touch n (touch n objs) = touch n objs :=
  -- a read of payloads sees keys and payloads only, and `touch` changes neither
  ⟨by rw [← alookup_map, ← alookup_map, touch_payload], touch_idem n objs⟩

/-- After ANY history, extracting document `d` with options `(caching, sel)` yields exactly the
selected pages computed from fresh values only. -/
theorem C12_extract_eq_spec (h : List Op) (d : DocSpec) (caching : Bool) (sel : List Nat) :
    (extract W (run W (init W) h).tables d caching sel).1 = pagesSpec W d sel :=
  (extract_spec d caching sel (run_ok h (StateOk.init W)).1).1

/-- C12_history: the result of `extract d o` after any history equals the result in a fresh
process. -/
theorem C12_history (h : List Op) (d : DocSpec) (caching : Bool) (sel : List Nat) :
    (extract W (run W (init W) h).tables d caching sel).1 = (extract W (init W).tables d caching sel).1 :=
  (C12_extract_eq_spec W h d caching sel).trans (C12_extract_eq_spec W [] d caching sel).symm

/-- The same as an output of the state machine: the `extract` operation appended to any history
outputs the fresh pages. -/
theorem C12_history_output (h : List Op) (d : DocSpec) (caching : Bool) (sel : List Nat) :
    (step W (run W (init W) h) (.extract d caching sel)).2 = .pages (pagesSpec W d sel) := by
  simp only [step]
  rw [C12_extract_eq_spec W h d caching sel]

/-- Turning object and font caching off changes nothing. -/
theorem C12_caching_irrelevant (h h' : List Op) (d : DocSpec) (sel : List Nat) :
    (extract W (run W (init W) h).tables d false sel).1 = (extract W (run W (init W) h').tables d true sel).1 := by
  rw [C12_extract_eq_spec, C12_extract_eq_spec]

/-- Repeating an extraction (with anything in between) gives the same result. -/
theorem C12_repeat (h mid : List Op) (d : DocSpec) (c1 c2 : Bool) (sel : List Nat) :
    (step W (run W (init W) h) (.extract d c1 sel)).2 =
    (step W (run W (step W (run W (init W) h) (.extract d c1 sel)).1 mid) (.extract d c2 sel)).2 := by
  have e : run W (step W (run W (init W) h) (.extract d c1 sel)).1 mid =
      run W (init W) (h ++ (.extract d c1 sel :: mid)) := (run_append W h (.extract d c1 sel :: mid) (init W)).symm
  rw [e, C12_history_output, C12_history_output]

theorem selPages_single (n k : Nat) : selPages n [k] = if k < n then [k] else [] := by
  -- the pages kept are the occurrences of `k` in `range n`: one if `k < n`, else none
  have hp : (fun j => [k].contains j) = (· == k) := funext fun j => by
    simp only [List.contains_cons, List.contains_nil, Bool.or_false]
  unfold selPages
  rw [List.isEmpty_cons, if_neg Bool.false_ne_true, hp, List.filter_beq, List.count_range]
  split <;> rfl

/-- Page at a time = all together: the pages of a selection are the concatenation of the pages
obtained by extracting every selected page on its own (in any process state). -/
theorem C12_page_at_a_time (h : List Op) (hs : Nat → List Op) (d : DocSpec) (c c' : Bool) (sel : List Nat) :
    (extract W (run W (init W) h).tables d c sel).1 =
    (selPages d.pages.length sel).flatMap (fun k => (extract W (run W (init W) (hs k)).tables d c' [k]).1) := by
  have e : ∀ k, (extract W (run W (init W) (hs k)).tables d c' [k]).1 =
      ((d.pages[k]?).map (freshPage W d)).toList := by
    intro k
    rw [C12_extract_eq_spec, pagesSpec, selPages_single]
    split
    · next hk => rw [List.filterMap_cons, List.getElem?_eq_getElem hk]; rfl
    · next hk => rw [List.getElem?_eq_none (Nat.le_of_not_lt hk)]; rfl
  simp only [e]
  rw [C12_extract_eq_spec, pagesSpec, filterMap_eq_flatMap_toList]

/-- After ANY history (other documents opened, iterated, extracted in between), `next()` on an open
iterator yields exactly the next selected page of ITS document computed from fresh values … -/
theorem C12_next_page (h : List Op) (hid : Nat) (hd : Handle)
    (hopen : alookup hid (run W (init W) h).handles = some hd) :
    (step W (run W (init W) h) (.next hid)).2 = nextSpec W hd := by
  have hs := run_ok h (StateOk.init W)
  simp only [step, hopen]
  exact (advance_spec (hs.2 hid hd (alookup_mem hopen)) hs.1).1

/-- … advances that iterator by one page and keeps its document and options … -/
theorem C12_next_advances (h : List Op) (hid : Nat) (hd : Handle)
    (hopen : alookup hid (run W (init W) h).handles = some hd) :
    ∃ hd', alookup hid (step W (run W (init W) h) (.next hid)).1.handles = some hd' ∧
      hd'.doc = hd.doc ∧ hd'.caching = hd.caching ∧ hd'.todo = hd.todo.tail := by
  have hs := run_ok h (StateOk.init W)
  obtain ⟨_, _, _, a4, a5, a6⟩ := advance_spec (hs.2 hid hd (alookup_mem hopen)) hs.1
  refine ⟨(advance W hd (run W (init W) h).tables).2.1, ?_, a4, a5, a6⟩
  simp only [step, hopen]
  exact alookup_aset_self _ _ _

/-- … and does not touch any other open iterator (frame property). -/
theorem C12_next_frame (s : State) (hid hid' : Nat) (hne : hid' ≠ hid) :
    alookup hid' (step W s (.next hid)).1.handles = alookup hid' s.handles :=
  step_frame W s (beq_false_of_ne hne.symm)

/-- A freshly opened iterator starts at the first selected page, whatever happened before. -/
theorem C12_open_todo (s : State) (hid : Nat) (d : DocSpec) (caching : Bool) (sel : List Nat) :
    ∃ hd, alookup hid (step W s (.open hid d caching sel)).1.handles = some hd ∧ hd.doc = d ∧
      hd.todo = selPages d.pages.length sel :=
  ⟨openHandle d caching sel, alookup_aset_self _ _ _, rfl, rfl⟩

/-- Interleaving: in ANY history — other iterators over other (or the same) documents, whole
extractions, CMap parsing in between — the outputs of the operations addressed to iterator `hid`
are exactly the outputs of those operations run alone in a fresh process. -/
theorem C12_interleaving (hid : Nat) (h : List Op) :
    outputsOf W hid (init W) h = outputs W (init W) (h.filter (mentions hid)) :=
  interleaving_aux h (StateOk.init W) (StateOk.init W) rfl

/-- Continuing a history never removes or alters an entry of the process-wide caches and never
touches the encoding tables (together with `tables_inv`: the tables only grow by entries that are
functions of their key). -/
theorem tables_only_grow (h h' : List Op) :
    (run W (init W) (h ++ h')).tables.enc = (run W (init W) h).tables.enc ∧
    (∀ e, e ∈ (run W (init W) h).tables.cmaps → e ∈ (run W (init W) (h ++ h')).tables.cmaps) ∧
    (∀ e, e ∈ (run W (init W) h).tables.umaps → e ∈ (run W (init W) (h ++ h')).tables.umaps) := by
  rw [run_append]
  exact run_le W h' _

/-- After ANY history, `parseCMap name ext` (a private CMap built on the shared CMap `name` by `usecmap`
and then extended by `ext`) reports as the shared CMap, looked up again after the extension, what a
fresh load returns.  About the private CMap `priv` the statement says nothing; that the extension cannot
reach the shared table is how `step` is written (the private table is a value of its own). -/
theorem C12_cmap_copy (h : List Op) (name : Nat) (ext : List (Nat × Nat)) :
    ∃ priv, (step W (run W (init W) h) (.parseCMap name ext)).2 = .cmap priv (W.loadCMap name) := by
  have h1 := getCMap_spec name (run_ok h (StateOk.init W)).1
  have h2 := getCMap_spec name h1.2
  exact ⟨_, by simp only [step]; rw [h2.1]⟩

/-- Whatever the interpreter was left with by the previous page of the same call (an unpainted
path, unbalanced `q`, a changed line width, dangling operands), the next page is interpreted from
the initial state: its result is the fresh page. -/
theorem C12_interp_reset (d : DocSpec) (caching : Bool) (c : Caches) (t : Tables) (left : Interp) (pg : PageSpec)
    (hc : CachesOk W d c) (ht : TablesOk W t) :
    (processPage W d caching c t left pg).1 = freshPage W d pg :=
  (processPage_spec caching left pg hc ht).1

/-- …and what a page leaves behind does not depend on what it found. -/
theorem C12_interp_left_independent (left left' : Interp) (pg : PageSpec) :
    interpAfter left pg = interpAfter left' pg := rfl

/-- A read of ANY object `dang` leaves caches behind through which the next read still returns the fresh
value.  This covers a reference that cannot be resolved (no cross-reference entry, or a compressed entry
whose index the object stream does not have; `freshObj` is `none` there), but no hypothesis singles that
case out. -/
theorem C12_dangling_harmless (d : DocSpec) (caching : Bool) (c : Caches) (dang n : Nat)
    (hc : CachesOk W d c) :
    (readObj d caching (readObj d caching c dang).2 n).1 = freshObj d n :=
  (readObj_spec caching n (readObj_spec caching dang hc).2).1

/-! ## Why the discipline matters: proved counter-examples for broken disciplines -/

/-- `init_state` WITHOUT the reset of the current path (the path survives into the next page). -/
def initStateKeepPath (left : Interp) : Interp := { Interp.init with curpath := left.curpath }

/-- Without the reset, a page that ends with an unpainted rectangle leaks a shape into the next
page that paints: one painted rectangle becomes two shapes. -/
theorem curpath_leak_cex :
    (runG (initStateKeepPath (runG Interp.init [.re]).1) [.re, .paint]).2 ≠ (runG Interp.init [.re, .paint]).2 := by
  decide +kernel

/-- What a guard released only on success would do.  `leaked` is the cache after a failed lookup in
object stream 9 with the stream still marked; it is written by hand, since no operation of the model
writes the guard set.  Through it the other objects of the stream can no longer be read (they resolve to
null); through the cache that the model's `readObj` leaves behind they can. -/
theorem guard_leak_cex :
    let d : DocSpec := { objs := [(3, .inStream 9 203), (7, .danglingIn 9), (9, .direct 209)], fontSpecs := [],
                         openReads := [], pages := [] }
    let leaked : Caches := { (readObj d true Caches.empty 7).2 with busy := [9] }
    (readObj d true leaked 3).1 ≠ freshObj d 3 ∧ (readObj d true (readObj d true Caches.empty 7).2 3).1 = freshObj d 3 := by
  decide +kernel

/-- `get_encoding` WITHOUT the copy: the differences are written into the shared table. -/
def getEncodingNoCopy (enc : List (List (Nat × Nat))) (base : Nat) (diffs : List (Nat × Option Nat)) :
    List (Nat × Nat) × List (List (Nat × Nat)) :=
  (getEncoding enc base diffs, enc.set base (getEncoding enc base diffs))

/-- Without the copy a later font with the same base encoding and no differences inherits the
differences of an earlier font: its table is not the fresh one (history dependence). -/
theorem nocopy_cex : ∃ (enc : List (List (Nat × Nat))) (base : Nat) (diffs : List (Nat × Option Nat)),
    getEncoding (getEncodingNoCopy enc base diffs).2 base [] ≠ getEncoding enc base [] :=
  ⟨[[(65, 65)]], 0, [(65, some 8364)], by decide⟩

/-- A memo table is only sound for the `fresh` function it was filled under: answering document 2
(`fresh₂`) from a cache filled by document 1 (`fresh₁`) under the same key returns document 1's
value.  This is what a font cache keyed by resource name, or a resource manager reused across
documents, would do. -/
theorem shared_cache_cex {α : Type} (fresh₁ fresh₂ : Nat → Option α) (k : Nat) (v : α)
    (h1 : fresh₁ k = some v) : (memo true fresh₂ (memo true fresh₁ [] k).2 k).1 = some v := by
  simp [memo, alookup, h1]

/-- The unicode-map cache keyed by the collection name only and holding ONE table (whichever writing
mode was asked for first): a font of the other writing mode loaded later gets the first table. The
model's cache entry holds both tables, so the entry is a function of its key. -/
theorem umap_mode_cex (tblH tblV : List (Nat × Nat)) (name : Nat) :
    (memo true (fun _ => some tblV) (memo true (fun _ => some tblH) [] name).2 name).1 = some tblH :=
  shared_cache_cex _ _ name tblH rfl

/-! ## Non-vacuity: a concrete world and two colliding documents

Both documents use object numbers 1–5 and 10–12; font object 3 is a simple font with
`/Differences` in `docA` and a composite font with a predefined CMap in `docB`; `docB` keeps its
font inside object stream 9.  The theorems above apply to them; the examples evaluate the state
machine on an interleaved history and show that the results are non-trivial and differ between
the documents. -/

def W0 : World :=
  { encInit := [[(65, 65), (66, 66)], [(65, 97), (66, 98), (69, 101)], [], []],
    loadCMap := fun k => if k = 1 then some [(65, 5), (66, 6)] else none,
    loadUMap := fun k => if k = 1 then some ([(5, 12354), (6, 8594)], [(5, 12354), (6, 8593)]) else none }

def simpleFont : FontSpec :=
  { kind := 0, vertical := false, base := 1, diffs := [(66, some 8364), (69, none)], hasToUnicode := true, tounicode := [(67, [102, 105])],
    cmap := 0, umap := 0, usecmap := 1, reads := [4] }

def cjkFont : FontSpec :=
  { kind := 2, vertical := false, base := 0, diffs := [], hasToUnicode := false, tounicode := [], cmap := 1,
    umap := 1, usecmap := 0, reads := [4] }

def docA : DocSpec :=
  { objs := [(1, .direct 101), (2, .direct 102), (3, .direct 103), (4, .direct 104), (10, .direct 110),
             (11, .direct 111), (12, .direct 112)],
    fontSpecs := [(3, simpleFont)], openReads := [1],
    pages := [⟨[2, 10], [.byId 3], [11], [(0, [65, 66, 67, 68, 69])], [.w 4, .re, .paint, .q, .w 9, .operand 7, .m, .l]⟩,
              ⟨[12], [.byId 3, .direct simpleFont], [11], [(1, [66]), (0, [65])], [.Q, .re, .m, .l, .l, .h, .paint]⟩] }

def docB : DocSpec :=
  { objs := [(1, .direct 201), (2, .direct 202), (3, .inStream 9 203), (4, .inStream 9 204), (9, .direct 209),
             (10, .direct 210), (11, .direct 211)],
    fontSpecs := [(3, cjkFont)], openReads := [1],
    pages := [⟨[2, 10], [.byId 3], [11], [(0, [65, 66, 67])], [.re]⟩] }

def hist0 : List Op :=
  [.open 1 docA true [], .open 2 docB true [], .next 1, .next 2, .extract docB false [], .parseCMap 1 [(65, 7)],
   .next 1, .next 2, .next 1, .extract docA true [1], .close 1]

/-- docA page 0 decodes through MacRoman + Differences + ToUnicode: a, €, "fi", (cid:68), and
(cid:69) because /Differences re-assigns code 69 to a glyph name without unicode value -/
example : (pagesSpec W0 docA []).map (·.glyphs) =
    [[[[97], [8364], [102, 105], [1114180], [1114181]]], [[[8364]], [[97]]]] := by decide +kernel

/-- docB page 0 decodes through the predefined CMap and the horizontal unicode table: あ, →; code 67 has no glyph -/
example : (pagesSpec W0 docB []).map (·.glyphs) = [[[[12354], [8594]]]] := by decide +kernel

/-- the same collection in vertical writing (Identity-V): CID 6 is ↑, whatever was loaded before -/
def vertFont : FontSpec := { cjkFont with kind := 3, vertical := true, reads := [] }
def docV : DocSpec :=
  { objs := [(1, .direct 301), (2, .direct 302), (10, .direct 310)], fontSpecs := [], openReads := [1],
    pages := [⟨[2, 10], [.direct vertFont], [], [(0, [5, 6])], []⟩] }

example : (step W0 (run W0 (init W0) [.extract docB true []]) (.extract docV true [])).2 =
    .pages [⟨[some 302, some 310], [[[12354], [8593]]], []⟩] := by decide +kernel

/-- docA page 0 paints one rectangle with line width 4 and leaves an unpainted path, a saved
graphics state, line width 9 and a dangling operand behind; page 1 (stray `Q`, default line width)
paints a rectangle and a closed triangle — and nothing of page 0 -/
example : (pagesSpec W0 docA []).map (·.shapes) = [[(5, 4)], [(5, 0), (4, 0)]] := by decide +kernel

example : ((alookup 1 (run W0 (init W0) [.open 1 docA true [], .next 1]).handles).map (·.interp)) =
    some ⟨[0, 1], [4], 9, [7]⟩ := by decide +kernel

/-- the interleaved history yields, page for page, the fresh pages of each document -/
example : outputs W0 (init W0) hist0 =
    [.ok, .ok, .page (freshPage W0 docA docA.pages[0]), .page (freshPage W0 docB docB.pages[0]),
     .pages (pagesSpec W0 docB []), .cmap [(65, 7), (66, 6)] (some [(65, 5), (66, 6)]),
     .page (freshPage W0 docA docA.pages[1]), .done, .done, .pages (pagesSpec W0 docA [1]), .ok] := by
  decide +kernel

/-- the caches really are used in that history: after it, the CMap caches hold CMap 1 and unicode
map 1, and iterator 2 (docB, caching on) holds objects 1-4, 9-11, the parsed object stream 9 and font 3 -/
example : ((run W0 (init W0) hist0).tables.cmaps.map (·.1), (run W0 (init W0) hist0).tables.umaps.map (·.1)) =
    ([1], [1]) := by decide +kernel

example : ((alookup 2 (run W0 (init W0) hist0).handles).map
    (fun h => (h.c.objs.map (·.1), h.c.pobjs.map (·.1), h.c.fonts.map (·.1)))) =
    some ([11, 4, 3, 9, 10, 2, 1], [9], [3]) := by decide +kernel

/-! ## The process-wide state that extraction only reads, as explicit global state

`ProcGlobals.Globals` = interned literal / keyword tables, `PREDEFINED_COLORSPACE`, `FONT_METRICS`,
`settings.STRICT` (initial values regenerated from the Python sources); `renderPage` = `render_contents`
(`init_resources`, `init_state`, `execute`) for one page, `renderCall` = one interpreter over several pages,
`runHistory` = calls one after the other in one process. -/

section Globals
open PdfVerif.ProcGlobals

/-- intern is idempotent: asking again returns the same symbol and does not change the table -/
theorem C12_intern_idempotent (t : List Nat) (n : Nat) : intern (intern t n).2 n = intern t n :=
  intern_idem t n

/-- intern is monotone: the table only grows at the end, and every name that was in it keeps its
symbol — also over a whole sequence of further interning -/
theorem C12_intern_monotone (t names : List Nat) :
    (∃ e, internAll t names = t ++ e) ∧
    (∀ k i, find k t = some i → find k (internAll t names) = some i) :=
  ⟨(internAll_prefix names t).imp fun _ => Eq.symm, fun _ _ h => internAll_stable names h⟩

/-- lookups after any history equal lookups in a fresh process, as far as a symbol can be observed:
the symbol returned for `a` has the name `a` (whatever table `t` the history produced), and a symbol
obtained later — after any further interning `hist` — is the same object iff the names are equal -/
theorem C12_intern_identity (t : List Nat) (a b : Nat) (hist : List Nat) :
    nameOf (intern t a).2 (intern t a).1 = some a ∧
    ((intern (internAll (intern t a).2 hist) b).1 = (intern t a).1 ↔ a = b) :=
  ⟨intern_name t a, intern_inj t a b hist⟩

/-- every modelled operation leaves PREDEFINED_COLORSPACE, FONT_METRICS and STRICT unchanged, and lets the
interned tables only grow at the end — for ALL histories of calls -/
theorem C12_globals_unchanged (g : Globals) (hist : List (List GPage)) :
    (runHistory g hist).static = g.static ∧
    (∃ e, (runHistory g hist).lits = g.lits ++ e) ∧ (∃ e, (runHistory g hist).kwds = g.kwds ++ e) :=
  have h := runHistory_le hist g
  ⟨h.1, h.2.1.imp fun _ => Eq.symm, h.2.2.imp fun _ => Eq.symm⟩

/-- a read of the process-wide tables after any history = the same read in a fresh process -/
theorem C12_globals_lookup_history (g : Globals) (hist : List (List GPage)) (k : Nat) :
    metricsOf (runHistory g hist) k = metricsOf g k ∧
    ProcGlobals.alookup k (runHistory g hist).colorspaces = ProcGlobals.alookup k g.colorspaces ∧
    (runHistory g hist).strict = g.strict := by
  obtain ⟨h1, h2, h3⟩ := static_eq (runHistory_le hist g).1
  exact ⟨by unfold metricsOf; rw [h2], by rw [h1], h3⟩

/-- per-page reset: the state a page ends in (colour-space map, current colour spaces, text state, saved
graphics states, raised-or-not) does not depend on what the previous page left behind, nor on which names
have been interned so far -/
theorem C12_page_state_reset (g g' : Globals) (left left' : PState) (pg : GPage) (h : g.static = g'.static) :
    (renderPage g left pg).1 = (renderPage g' left' pg).1 :=
  renderPage_indep left left' pg h

/-- page results are independent of the set and order of the pages processed before, in the same call
and in earlier calls: every page of a call after any history = that page rendered alone in a fresh process -/
theorem C12_page_state_history (g : Globals) (hist : List (List GPage)) (call : List GPage) :
    (renderCall (runHistory g hist) PState.init call).1 = call.map (fun pg => (renderPage g PState.init pg).1) := by
  rw [renderCall_pages]
  apply List.map_congr_left
  intro pg _
  exact renderPage_indep PState.init PState.init pg (runHistory_le hist g).1

/-- proved counter-example for the broken discipline `csmap = PREDEFINED_COLORSPACE` (no copy): a page whose
resources redefine `/DeviceGray` as a 3-component ICC space changes the default colour space of the NEXT page -/
theorem cs_nocopy_cex :
    let g := G0 [] []
    let pgA : GPage := ⟨[(0, .icc 3)], []⟩
    let pgB : GPage := ⟨[], [.Tc 5]⟩
    (renderPage g PState.init pgB).1.scs = some (0, 1) ∧
    (renderPage (renderPage g PState.init pgA).2 PState.init pgB).1.scs = some (0, 1) ∧
    (renderPage (renderPageNoCopy g PState.init pgA).2 PState.init pgB).1.scs = some (ICCBASED, 3) := by
  decide +kernel

/-- non-vacuity: interning really grows the table, keeps identities, and re-finds old names -/
example : intern [7, 9] 4 = (2, [7, 9, 4]) ∧ intern [7, 9, 4] 9 = (1, [7, 9, 4]) ∧
    internAll [7] [9, 7, 4, 9] = [7, 9, 4] := by decide +kernel

def exP1 : GPage := ⟨[(2000, .named 4), (2001, .devicen 2)], [.Tc 3, .TL 14, .q, .Tz 90, .cs 2000, .CS 2001, .Tf 2002 12]⟩
def exP2 : GPage := ⟨[], [.Q, .Tw 2, .cs 2000, .unknown 1000]⟩

/-- non-vacuity: a call of two pages; page 1 sets text state, saves it, changes colour spaces through its own
`/CS0`; page 2 (no resources, a stray `Q`) starts from `PDFTextState()` and DeviceGray again; the tables grew -/
example :
    (renderCall (G0 [2000] [7]) PState.init [exP1, exP2]).1.map
        (fun s => (s.ts, s.scs, s.ncs, s.gstack.length, s.csmap.length)) =
      [(⟨12, 3, 0, 90, -14, 0, 0⟩, some (DEVICEN, 2), some (4, 3), 1, 11),
       (⟨0, 0, 2, 100, 0, 0, 0⟩, some (0, 1), some (0, 1), 0, 9)] ∧
    (renderCall (G0 [2000] [7]) PState.init [exP1, exP2]).2.lits = [2000, 2001, 2002] ∧
    (renderCall (G0 [2000] [7]) PState.init [exP1, exP2]).2.kwds = [7, 0, 3, 2, 9, 10, 6, 8, 1, 1000] ∧
    (renderCall (G0 [2000] [7]) PState.init [exP1, exP2]).2.static = (G0 [2000] [7]).static := by
  -- conjunct by conjunct: instance search does not find `Decidable` for the whole conjunction
  refine ⟨?_, ?_, ?_, ?_⟩ <;> decide +kernel

/-- `rg` selects `csmap["DeviceRGB"]` of the PAGE: a page whose resources redefine `/DeviceRGB` as a 4-component
ICC space gets that one — and the next page, without such resources, the predefined 3-component space again -/
example : ((renderCall (G0 [] []) PState.init
      [⟨[(Gen.ProcGlobals.IDX_DEVICERGB, .icc 4)], [.dev false 1, .dev true 2]⟩, ⟨[], [.dev false 1]⟩]).1.map
      (fun s => (s.scs, s.ncs))) =
    [(some (5, 4), some (ICCBASED, 4)), (some (0, 1), some (4, 3))] := by decide +kernel

/-- non-vacuity of the STRICT branch: under `STRICT` the undefined colour space stops the page -/
example : (renderPage { G0 [] [] with strict := true } PState.init ⟨[], [.Tc 3, .cs 2000, .Tw 9]⟩).1.err = true ∧
    (renderPage { G0 [] [] with strict := true } PState.init ⟨[], [.Tc 3, .cs 2000, .Tw 9]⟩).1.ts.wordspace = 0 ∧
    (renderPage { G0 [] [] with strict := true } PState.init ⟨[], [.Tc 3, .cs 2000, .Tw 9]⟩).2.kwds = [0, 9] := by
  decide +kernel

/-- the regenerated tables: 9 predefined colour spaces with DeviceGray first, 26 FONT_METRICS entries, STRICT off -/
example : (G0 [] []).colorspaces.length = 9 ∧ (G0 [] []).colorspaces.head? = some (0, (0, 1)) ∧
    (G0 [] []).strict = false ∧ metricsOf (G0 [] []) 0 = some (314, 188400) ∧ metricsOf (G0 [] []) 26 = none := by
  decide +kernel

end Globals

/-! ## `PDFDocument.getobj` and its cache as a refinement of the pure function (bytes, objid) ↦ object,
with mutable containers (`Model/ProcObjCache.lean`) -/

section ObjCacheSection
open PdfVerif.ObjCache

/-- the object cache refines the pure parse function: after ANY history of callers that read or copy before
they change anything (pdfminer's own discipline), with caching on or off, `getobj n` hands out a value
equal to a fresh parse of object `n` -/
theorem C12_getobj_refines_parse (parse : Nat → Option (List Nat)) (caching : Bool) (hist : List ObjCache.Op)
    (h : ∀ op ∈ hist, op.inPlace = false) (n : Nat) :
    (ObjCache.step parse caching (ObjCache.run parse caching St.init hist) (.get n)).2 = parse n :=
  (getobj_spec caching n (run_inv caching hist h (inv_init parse))).1

/-- without the cache (`caching=False`) that holds for EVERY history, in-place changes by callers included:
every `getobj` is a fresh parse -/
theorem C12_getobj_nocache_pure (parse : Nat → Option (List Nat)) (hist : List ObjCache.Op) (n : Nat) :
    (ObjCache.step parse false (ObjCache.run parse false St.init hist) (.get n)).2 = parse n :=
  (getobj_spec false n (inv_of_cache_nil (run_nocache parse hist St.init))).1

/-- proved counter-example: `getobj` returns the cached container itself, NOT a copy — a caller that changes it
in place changes what every later `getobj` of that object returns (with the cache on; off, it is fresh again).
pdfminer's extraction code never does this (`cache_inv` on the implementation, checked at every close); user code
calling `doc.getobj` could. -/
theorem getobj_alias_cex :
    let parse : Nat → Option (List Nat) := fun n => if n = 5 then some [5] else none
    ObjCache.outputs parse true St.init [.get 5, .mutInPlace 5 99, .get 5] = [some [5], some [5], some [5, 99]] ∧
    ObjCache.outputs parse false St.init [.get 5, .mutInPlace 5 99, .get 5] = [some [5], some [5], some [5]] ∧
    ObjCache.outputs parse true St.init [.get 5, .copyMut 5 99, .get 5] = [some [5], some [5], some [5]] := by
  decide +kernel

/-- non-vacuity: the cache is really used (object 5 is parsed once: one heap cell for two reads, plus the copy) -/
example : ObjCache.run (fun n => if n = 5 then some [5] else none) true St.init [.get 5, .copyMut 5 7, .get 5, .get 6] =
    ⟨[[5], [5, 7]], [(5, 0)]⟩ := by decide +kernel

end ObjCacheSection

end PdfVerif.Props.C12
