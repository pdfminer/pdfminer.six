/-
C09 — Layout grouping follows the documented margins; the result is scale-invariant.

The predicates are `PdfVerif.Gen.Layout.*`, regenerated from pdfminer/layout.py on every run (halign / valign of
group_objects, the word-space tests of LTTextLine*.add, the query and filter of find_neighbors, the sort keys, dist);
the documented predicates are `PdfVerif.Layout.Spec.*` (Spec/Layout.lean, written from
docs/source/topic/converting_pdf_to_text.rst and the docstrings, with interval overlap / gap notions).  Editing a
`<` into a `<=`, a `min` into a `max` or a margin's reference size in layout.py breaks these proofs at the next run.
-/
import PdfVerif.Lemmas.LayoutOrder
import PdfVerif.Lemmas.LayoutScale3
import PdfVerif.Lemmas.LayoutColumns
import PdfVerif.Props.C08

namespace PdfVerif.Props.C09
open PdfVerif PdfVerif.Gen.Layout PdfVerif.Layout

/-- The coded overlap measure is the true length of the common part of the two y-intervals
(for nested boxes too: this is the repaired `voverlap`; the code before the repair returned more). -/
theorem C09_voverlap_true (a b : BB) (h : is_voverlap a b = true) :
    voverlap a b = Spec.overlapLen a.y0 a.y1 b.y0 b.y1 := by
  simp only [voverlap, h, if_true, Spec.overlapLen]

theorem C09_hoverlap_true (a b : BB) (h : is_hoverlap a b = true) :
    hoverlap a b = Spec.overlapLen a.x0 a.x1 b.x0 b.x1 := by
  simp only [hoverlap, h, if_true, Spec.overlapLen]

/-- **Join (horizontal).**  For well-formed glyph boxes the test by which `group_objects` puts consecutive glyphs on
one horizontal line holds exactly when their y-intervals meet, overlap by MORE than `line_overlap · min height`, and
the horizontal gap is LESS than `char_margin · max width`. -/
theorem C09_join_iff (p : LAParams) (a b : BB) (ha : WfBB a) (hb : WfBB b) :
    halign p a b = Spec.joinH p.line_overlap p.char_margin a b :=
  halign_eq_joinH p a b ha hb

/-- **Join (vertical)**, only with `detect_vertical`. -/
theorem C09_join_iff_vertical (p : LAParams) (a b : BB) (ha : WfBB a) (hb : WfBB b) :
    valign p a b = (p.detect_vertical && Spec.joinV p.line_overlap p.char_margin a b) :=
  valign_eq_joinV p a b ha hb

/-- What `group_objects` does with two consecutive glyphs that are not yet on a line: one horizontal line iff the
horizontal test holds and the vertical one does not, one vertical line in the opposite case, else two lines. -/
theorem C09_pair (p : LAParams) (a b : Glyph) :
    groupObjects p [a, b] =
      if valign p a.bb b.bb && !halign p a.bb b.bb then [(newLine true a).add p.word_margin b]
      else if halign p a.bb b.bb && !valign p a.bb b.bb then [(newLine false a).add p.word_margin b]
      else [newLine false a, newLine false b] := rfl

/-- **Space.**  A space annotation is put before a glyph exactly when `word_margin ≠ 0` and the glyph
starts MORE than `word_margin · max(width, height)` (of the new glyph) after the end of the previous one. -/
theorem C09_space_iff (wm last : Rat) (b : BB) : need_space_h wm last b = Spec.spaceH wm last b :=
  need_space_h_eq wm last b

theorem C09_space_iff_vertical (wm last : Rat) (b : BB) : need_space_v wm last b = Spec.spaceV wm last b :=
  need_space_v_eq wm last b

/-- … and that is what `LTTextLine*.add` does with it. -/
theorem C09_add_space (wm : Rat) (l : Line) (g : Glyph) :
    (l.add wm g).elems = l.elems ++ (if needSpace wm l g then [Elem.anno 32] else []) ++ [Elem.ch g] := rfl

/-- **Neighbour relation (predicate).**  The filter of `find_neighbors` together with the strict
overlap test of `Plane.find` on the query rectangle is the documented relation: horizontally
overlapping, vertically closer than `line_margin · height`, same height and left/right/centre aligned
within that tolerance (all three `≤`, the two closeness tests `<`). -/
theorem C09_neighbour_pred (r : Rat) (s o : BB) (id : Nat) :
    (neighbor_filter_h s o true r && Plane.overlaps ⟨id, o.x0, o.y0, o.x1, o.y1⟩ (neighbor_query_h s r))
      = Spec.neighborH r s o :=
  neighbor_h_eq r s o id

theorem C09_neighbour_pred_vertical (r : Rat) (s o : BB) (id : Nat) :
    (neighbor_filter_v s o true r && Plane.overlaps ⟨id, o.x0, o.y0, o.x1, o.y1⟩ (neighbor_query_v s r))
      = Spec.neighborV r s o :=
  neighbor_v_eq r s o id

/-- **Neighbour relation (model).**  What `line.find_neighbors(plane, line_margin)` returns inside
`group_textlines` - through the grid index, for non-empty lines on a well-formed page and `line_margin ≥ 0` - is
exactly the set of lines of the same class that satisfy the documented relation. -/
theorem C09_neighbour_iff (ratio : Rat) (hr : 0 ≤ ratio) (pageBB : BB) (hp : WfPage pageBB) (lines : List Line)
    (hne : ∀ l ∈ lines, l.isEmpty = false) (l : Line) (hl : l ∈ lines) (j : Nat) :
    j ∈ neighbors ratio (mkPlane pageBB (lines.zipIdx.map fun (x : Line × Nat) => x.1.pobj x.2)) lines l ↔
      ∃ m, lines[j]? = some m ∧ m.vertical = l.vertical ∧
        (if l.vertical then Spec.neighborV ratio l.bb m.bb else Spec.neighborH ratio l.bb m.bb) = true :=
  neighbors_iff ratio hr pageBB hp lines hne l hl j

/-- With a negative `line_margin` no line has a neighbour: every line is a box of its own. -/
theorem C09_no_neighbour_if_negative (ratio : Rat) (hr : ratio < 0) (plane : Plane.Plane) (lines : List Line)
    (l : Line) (hl : l.isEmpty = false) : neighbors ratio plane lines l = [] :=
  neighbors_nil_of_neg ratio hr plane lines l hl

/-- **Column order (sort keys).**  Inside a left-to-right group (sorted by `key_lrtb`): of two members with the same
left edge the upper one comes first for every `boxes_flow > -1`; of two members with the same vertical extent the
left one comes first for every `boxes_flow < 1`.  (`_partial`: about the sort key only; that the members of one
column are merged before the columns are is checked on generated column layouts by the harness, not proved.) -/
theorem C09_column_order_partial (bf : Rat) (a b : BB) :
    (-1 < bf → a.x0 = b.x0 → b.y0 + b.y1 < a.y0 + a.y1 → key_lrtb bf a < key_lrtb bf b) ∧
    (bf < 1 → a.y0 + a.y1 = b.y0 + b.y1 → a.x0 < b.x0 → key_lrtb bf a < key_lrtb bf b) :=
  ⟨fun h1 h2 h3 => key_lrtb_column bf h1 a b h2 h3, fun h1 h2 h3 => key_lrtb_columns bf h1 a b h2 h3⟩

/-- **Reading order of a page with two text boxes, numeric `boxes_flow`.**  Whatever the page, the parameters and
the heap tie-break: when the analysis ends with exactly two text boxes `a`, `b` (in output order), `a`'s sort key
(`key_lrtb`; `key_tbrl` when one of them is vertical) is not above `b`'s. -/
theorem C09_order_two_boxes {le : Cmp} (p : LAParams) (bf : Rat) (hbf : p.boxes_flow = some bf) (pageBB : BB)
    (hp : WfPage pageBB) (items : List Item) (a b : Box)
    (hout : boxesOf (analyze le p pageBB items) = [a, b]) :
    groupKey (a.vertical || b.vertical) bf a.bb ≤ groupKey (a.vertical || b.vertical) bf b.bb := by
  rcases analyze_root (le := le) hbf pageBB hp items with h | ⟨g, _, hl, hok⟩
  · rw [h] at hout; cases hout
  · exact root_of_two (hl.trans hout) hok

/-- On a page that ends with two horizontal text boxes: the lower of two boxes with the same left edge is never
first (`bf > -1`), and of two boxes with the same vertical extent the right one is never first (`bf < 1`). -/
theorem C09_column_order_two {le : Cmp} (p : LAParams) (bf : Rat) (hbf : p.boxes_flow = some bf) (pageBB : BB)
    (hp : WfPage pageBB) (items : List Item) (a b : Box) (hout : boxesOf (analyze le p pageBB items) = [a, b])
    (ha : a.vertical = false) (hb : b.vertical = false) :
    (-1 < bf → a.bb.x0 = b.bb.x0 → ¬ (a.bb.y0 + a.bb.y1 < b.bb.y0 + b.bb.y1)) ∧
    (bf < 1 → a.bb.y0 + a.bb.y1 = b.bb.y0 + b.bb.y1 → ¬ (b.bb.x0 < a.bb.x0)) := by
  have h := C09_order_two_boxes (le := le) p bf hbf pageBB hp items a b hout
  simp only [ha, hb, Bool.or_self, groupKey, Bool.false_eq_true, if_false] at h
  exact ⟨fun h1 h2 h3 => not_le.mpr (key_lrtb_column bf h1 b.bb a.bb h2.symm h3) h,
    fun h1 h2 h3 => not_le.mpr (key_lrtb_columns bf h1 b.bb a.bb h2.symm h3) h⟩

/-- **A single column of any number of boxes comes out top to bottom** (`_partial`).  For `boxes_flow = bf > -1`: when
all text boxes of the result are horizontal, share their left edge and have positive height, and every group of the
hierarchy joins two vertically separated runs of boxes (`Node.Separated`, hypothesis `hsep`), each box lies above
every later one.  Not proved: `hsep` itself, i.e. that `group_textboxes` only merges vertically adjacent runs of a
column; the harness checks it on the implementation's group tree of every generated column (`column:separated`). -/
theorem C09_column_order_separated_partial {le : Cmp} (p : LAParams) (bf : Rat) (hbf : p.boxes_flow = some bf)
    (hpos : -1 < bf) (pageBB : BB) (hp : WfPage pageBB) (items : List Item) (c : Rat)
    (hcol : ∀ b ∈ boxesOf (analyze le p pageBB items), b.vertical = false ∧ b.bb.x0 = c ∧ b.bb.y0 < b.bb.y1)
    (hsep : ∀ gs, (analyze le p pageBB items).groups = some gs → ∀ g ∈ gs, g.Separated) :
    (boxesOf (analyze le p pageBB items)).Pairwise (fun a b => b.bb.y1 ≤ a.bb.y0) := by
  rcases analyze_root (le := le) hbf pageBB hp items with h | ⟨g, hg, hl, hok⟩
  · rw [h]; exact List.Pairwise.nil
  · rw [← hl]
    exact column_top_to_bottom hpos c hok (by rw [hl]; exact hcol) (hsep [g] hg g List.mem_cons_self)

/-- The tree-level statement behind it, for any well-formed hierarchy. -/
theorem C09_column_tree (bf : Rat) (hpos : -1 < bf) (c : Rat) (g : Node) (hok : GroupOK bf g)
    (hcol : ∀ a ∈ g.leaves, a.vertical = false ∧ a.bb.x0 = c ∧ a.bb.y0 < a.bb.y1) (hsep : g.Separated) :
    g.leaves.Pairwise (fun a b => b.bb.y1 ≤ a.bb.y0) :=
  column_top_to_bottom hpos c hok hcol hsep

/- a column of three boxes of different widths, merged bottom pair first -/
def exB (y : Rat) (w : Rat) : Box := ⟨0, false, [], ⟨10, y, 10 + w, y + 10⟩, 0⟩
def exTree : Node :=
  .grp false ((exB 200 40).bb.union ((exB 100 30).bb.union (exB 0 50).bb)) (.leaf (exB 200 40))
    (.grp false ((exB 100 30).bb.union (exB 0 50).bb) (.leaf (exB 100 30)) (.leaf (exB 0 50)))

example : GroupOK (1/2) exTree :=
  GroupOK.grp _ _ _ _ (GroupOK.leaf _)
    (GroupOK.grp _ _ _ _ (GroupOK.leaf _) (GroupOK.leaf _) (isUnion_union (isUnion_singleton _) _) rfl (by decide +kernel))
    (isUnion_union (isUnion_singleton _) _) rfl (by decide +kernel)
example : exTree.Separated := (separatedB_iff exTree).mp (by decide +kernel)
example : (exTree.leaves.all fun a => !a.vertical && decide (a.bb.x0 = 10) && decide (a.bb.y0 < a.bb.y1)) = true := by
  decide +kernel
example : exTree.leaves.map (·.bb.y0) = [200, 100, 0] := rfl

/-- **Reading order without the hierarchy (`boxes_flow = None`).**  The text boxes come out sorted by the positional
key: vertical boxes first (by descending right edge, then descending bottom edge), then horizontal boxes by
descending bottom edge - the boxes of a column top to bottom - and, for equal bottom edges, from left to right. -/
theorem C09_order_none {le : Cmp} (p : LAParams) (hbf : p.boxes_flow = none) (pageBB : BB) (items : List Item) :
    (boxesOf (analyze le p pageBB items)).Pairwise (fun a b => tupleLe (getkey a) (getkey b) = true) := by
  cases h : (items.filterMap Item.glyph?).isEmpty with
  | true => rw [boxesOf_of_no_glyphs le p pageBB h]; exact List.Pairwise.nil
  | false =>
    have st := stages le p pageBB items h
    rw [boxesOf_stages st]
    exact finalBoxes_none_sorted p hbf pageBB st.boxes

/-- In particular two horizontal boxes `a` before `b` in the output satisfy `b.y0 ≤ a.y0`. -/
theorem C09_order_none_top_to_bottom (a b : Box) (ha : a.vertical = false) (hb : b.vertical = false)
    (h : tupleLe (getkey a) (getkey b) = true) : b.bb.y0 ≤ a.bb.y0 := by
  rw [tupleLe_iff] at h
  simp only [getkey, ha, hb, Bool.false_eq_true, if_false, getkey_h] at h
  rcases h with h | ⟨-, h | ⟨h, -⟩⟩
  · exact absurd h (lt_irrefl _)
  · exact (neg_lt_neg_iff.mp h).le
  · exact (neg_inj.mp h).ge

/-- **Every predicate and measure is homogeneous**: multiplying all coordinates by `s > 0` changes no
decision (degree 0), multiplies distances/keys by `s` and the area distance by `s²`. -/
theorem C09_scale_predicates {s : Rat} (hs : 0 < s) (p : LAParams) (a b : BB) (wm last r bf : Rat) (c : Bool) :
    halign p (scaleBB s a) (scaleBB s b) = halign p a b
    ∧ valign p (scaleBB s a) (scaleBB s b) = valign p a b
    ∧ need_space_h wm (s * last) (scaleBB s b) = need_space_h wm last b
    ∧ need_space_v wm (s * last) (scaleBB s b) = need_space_v wm last b
    ∧ neighbor_filter_h (scaleBB s a) (scaleBB s b) c r = neighbor_filter_h a b c r
    ∧ neighbor_filter_v (scaleBB s a) (scaleBB s b) c r = neighbor_filter_v a b c r
    ∧ is_empty (scaleBB s a) = is_empty a
    ∧ (scaleBB s a).union (scaleBB s b) = scaleBB s (a.union b)
    ∧ dist (scaleBB s a) (scaleBB s b) = s * s * dist a b
    ∧ key_lrtb bf (scaleBB s a) = s * key_lrtb bf a
    ∧ key_tbrl bf (scaleBB s a) = s * key_tbrl bf a :=
  ⟨halign_scale hs p a b, valign_scale hs p a b, need_space_h_scale hs wm last b, need_space_v_scale hs wm last b,
   neighbor_filter_h_scale hs a b c r, neighbor_filter_v_scale hs a b c r, is_empty_scale hs a, union_scale hs a b,
   dist_scale hs a b, key_lrtb_scale hs bf a, key_tbrl_scale hs bf a⟩

/-- **Scale invariance of the line stage.**  For every factor `s > 0` (not only powers of two) `group_objects` of the
scaled glyphs is the scaled result - same lines, members and word spaces - and the same lines are set aside as empty. -/
theorem C09_scale_lines {s : Rat} (hs : 0 < s) (p : LAParams) (gs : List Glyph) :
    groupObjects p (gs.map (scaleGlyph s)) = (groupObjects p gs).map (scaleLine s)
    ∧ ∀ l, (scaleLine s l).isEmpty = l.isEmpty ∧ (scaleLine s l).text = l.text :=
  ⟨groupObjects_scale hs p gs, fun l => ⟨isEmpty_scale hs l, text_scale hs l⟩⟩

/-- **Scale invariance of the neighbour relation.**  Which lines `find_neighbors` returns for a line (through the
grid index) is the same at every scale `s > 0`.  `neighbors_scale_eq` says more: the two lists are equal, also for
negative `ratio`, where both are empty. -/
theorem C09_scale_neighbours {s : Rat} (hs : 0 < s) (ratio : Rat) (hr : 0 ≤ ratio) (pageBB : BB) (hp : WfPage pageBB)
    (lines : List Line) (hne : ∀ l ∈ lines, l.isEmpty = false) (l : Line) (hl : l ∈ lines) (j : Nat) :
    j ∈ neighbors ratio (mkPlane (scaleBB s pageBB)
          (((lines.map (scaleLine s)).zipIdx).map fun (x : Line × Nat) => x.1.pobj x.2))
        (lines.map (scaleLine s)) (scaleLine s l)
    ↔ j ∈ neighbors ratio (mkPlane pageBB (lines.zipIdx.map fun (x : Line × Nat) => x.1.pobj x.2)) lines l :=
  Iff.of_eq (congrArg (j ∈ ·) (neighbors_scale_eq hs ratio pageBB hp lines hne l hl))

/-- **Order of the neighbours.**  Since the repair of `Plane.find` (objects reported in insertion order)
`find_neighbors` lists the neighbouring lines in the order of the lines - not in the scan order of the 50-unit grid,
which depends on the scale. -/
theorem C09_find_neighbors_order (ratio : Rat) (hr : 0 ≤ ratio) (pageBB : BB) (hp : WfPage pageBB) (lines : List Line)
    (hne : ∀ l ∈ lines, l.isEmpty = false) (l : Line) (hl : l ∈ lines) :
    (neighbors ratio (mkPlane pageBB (lines.zipIdx.map fun (x : Line × Nat) => x.1.pobj x.2)) lines l).Pairwise (· < ·) :=
  neighbors_sorted ratio hr pageBB hp lines hne l hl

/-- **Scale invariance of the box stage.**  `group_textlines` of the scaled lines is the scaled result: the same boxes
with the same member lines in the same order.  (False before the repair of `Plane.find`: the order of equal-key lines
followed the grid; `corpus/C09/scale-equal-key-line-order.json` is kept as a regression test.) -/
theorem C09_scale_textlines {s : Rat} (hs : 0 < s) (p : LAParams) (pageBB : BB) (hp : WfPage pageBB)
    (lines : List Line) (hne : ∀ l ∈ lines, l.isEmpty = false) :
    groupTextlines p (scaleBB s pageBB) (lines.map (scaleLine s)) = (groupTextlines p pageBB lines).map (scaleBox s) :=
  groupTextlines_scale hs p pageBB hp lines hne

/-- **Scale invariance of the whole analysis, `boxes_flow = None`**, for any heap comparison: the analysis of the
scaled page is the scaled analysis - same lines, spaces, boxes, line order, numbering and child order. -/
theorem C09_scale_analyze_none {le : Cmp} {s : Rat} (hs : 0 < s) (p : LAParams) (hbf : p.boxes_flow = none)
    (pageBB : BB) (hp : WfPage pageBB) (items : List Item) :
    analyze le p (scaleBB s pageBB) (items.map (scaleItem s)) = scaleResult s (analyze le p pageBB items) :=
  analyze_none_scale hs p hbf pageBB hp items

/-- **Scale invariance of the hierarchy stage.**  `group_textboxes` on the scaled boxes performs the same merges in
the same order (distances scale by `s²`, so the heap order is unchanged; `isany` asks `Plane.find`, which is grid
independent): same hierarchy, scaled; same flags. -/
theorem C09_scale_textboxes {s : Rat} (hs : 0 < s) (pageBB : BB) (hp : WfPage pageBB) (boxes : List Box)
    (hwf : ∀ b ∈ boxes, WfBB b.bb) :
    groupTextboxes HEntry.le (scaleBB s pageBB) (boxes.map (scaleBox s))
      = ((groupTextboxes HEntry.le pageBB boxes).1.map (scaleNode s), (groupTextboxes HEntry.le pageBB boxes).2) :=
  groupTextboxes_scale hs (hle_scE hs) pageBB hp boxes hwf

/-- **Scale invariance of the whole outcome**, numeric `boxes_flow` included: `analyze` of the page with all
coordinates multiplied by `s > 0` is the scaled result of `analyze`.  The heap is ordered by `HEntry.le`, the
implementation's order. -/
theorem C09_scale {s : Rat} (hs : 0 < s) (p : LAParams) (pageBB : BB) (hp : WfPage pageBB) (items : List Item) :
    analyze HEntry.le p (scaleBB s pageBB) (items.map (scaleItem s)) = scaleResult s (analyze HEntry.le p pageBB items) :=
  analyze_scale hs (hle_scE hs) p pageBB hp items

example : WfBB ⟨10, 100, 16, 110⟩ := by unfold WfBB; decide +kernel
-- a pair exactly ON the char_margin threshold is NOT joined (strict `<`), just below it is
example : halign ⟨1/2, 2, 1/2, 1/8, none, false⟩ ⟨10, 100, 16, 110⟩ ⟨28, 100, 34, 110⟩ = false := by decide +kernel
example : halign ⟨1/2, 2, 1/2, 1/8, none, false⟩ ⟨10, 100, 16, 110⟩ ⟨28 - 1/64, 100, 34, 110⟩ = true := by
  decide +kernel
-- exactly ON the line_overlap threshold: not joined (strict `>`)
example : halign ⟨1/2, 2, 1/2, 1/8, none, false⟩ ⟨10, 100, 16, 110⟩ ⟨17, 105, 23, 115⟩ = false := by decide +kernel
-- a gap exactly equal to word_margin · max(w, h) gives no space, 1/64 more does
example : need_space_h (1/8) 16 ⟨16 + 10/8, 100, 22 + 10/8, 110⟩ = false := by decide +kernel
example : need_space_h (1/8) 16 ⟨16 + 10/8 + 1/64, 100, 22 + 10/8 + 1/64, 110⟩ = true := by decide +kernel

end PdfVerif.Props.C09
