/-
C20 — Geometry helpers obey affine algebra; spatial index equals brute-force search.

The matrix helpers and `drange` are `PdfVerif.Gen.Utils.*`, regenerated from
pdfminer/utils.py on every run; `Plane` is the hand model `PdfVerif.Model.Plane`
(correspondence-checked against the implementation by tools/harness/props/c20.py).
-/
import PdfVerif.Lemmas.Plane
import PdfVerif.Lemmas.UtilsList

namespace PdfVerif.Props.C20
open PdfVerif PdfVerif.Gen.Utils PdfVerif.Plane PdfVerif.UtilsList

theorem mult_assoc (a b c : Matrix) :
    mult_matrix (mult_matrix a b) c = mult_matrix a (mult_matrix b c) := by
  obtain ⟨a1, a2, a3, a4, a5, a6⟩ := a
  obtain ⟨b1, b2, b3, b4, b5, b6⟩ := b
  obtain ⟨c1, c2, c3, c4, c5, c6⟩ := c
  simp only [mult_matrix, Prod.mk.injEq]
  refine ⟨?_, ?_, ?_, ?_, ?_, ?_⟩ <;> grobner

theorem mult_id_left (m : Matrix) : mult_matrix MATRIX_IDENTITY m = m := by
  obtain ⟨a1, a2, a3, a4, a5, a6⟩ := m
  simp only [mult_matrix, MATRIX_IDENTITY, Rat.mul_one, Rat.mul_zero, Rat.add_zero, Rat.zero_add]

theorem mult_id_right (m : Matrix) : mult_matrix m MATRIX_IDENTITY = m := by
  obtain ⟨a1, a2, a3, a4, a5, a6⟩ := m
  simp only [mult_matrix, MATRIX_IDENTITY, Rat.one_mul, Rat.zero_mul, Rat.add_zero, Rat.zero_add]

/-- Applying a composed matrix equals applying its factors in turn (`m1` first, then `m0`). -/
theorem apply_mult (m1 m0 : Matrix) (v : Point) :
    apply_matrix_pt (mult_matrix m1 m0) v = apply_matrix_pt m0 (apply_matrix_pt m1 v) := by
  obtain ⟨a1, a2, a3, a4, a5, a6⟩ := m1
  obtain ⟨b1, b2, b3, b4, b5, b6⟩ := m0
  obtain ⟨x, y⟩ := v
  simp only [mult_matrix, apply_matrix_pt, Prod.mk.injEq]
  refine ⟨?_, ?_⟩ <;> grobner

/-- Translation inside the projection: `translate_matrix m v` is the translation by `v`
followed by `m` (as the docstring says: the origin moves to `v` in `m`'s own coordinates). -/
theorem translate_spec (m : Matrix) (v : Point) :
    translate_matrix m v = mult_matrix (1, 0, 0, 1, v.1, v.2) m := by
  obtain ⟨a1, a2, a3, a4, a5, a6⟩ := m
  obtain ⟨x, y⟩ := v
  simp only [mult_matrix, translate_matrix, Rat.mul_one, Rat.mul_zero, Rat.add_zero, Rat.zero_add, Rat.mul_comm]

/-- …and therefore maps a point `p` like `m` maps `p + v`. -/
theorem translate_apply (m : Matrix) (v p : Point) :
    apply_matrix_pt (translate_matrix m v) p = apply_matrix_pt m (p.1 + v.1, p.2 + v.2) := by
  rw [translate_spec, apply_mult]
  simp only [apply_matrix_pt, Rat.one_mul, Rat.zero_mul, Rat.add_zero, Rat.zero_add]

theorem norm_spec (m : Matrix) (v : Point) :
    apply_matrix_norm m v =
      ((apply_matrix_pt m v).1 - (apply_matrix_pt m (0, 0)).1,
       (apply_matrix_pt m v).2 - (apply_matrix_pt m (0, 0)).2) := by
  obtain ⟨a1, a2, a3, a4, a5, a6⟩ := m
  obtain ⟨x, y⟩ := v
  simp only [apply_matrix_norm, apply_matrix_pt, Rat.mul_zero, Rat.add_zero, Rat.zero_add, Rat.add_sub_cancel]

def corners (r : Rect) : List Point :=
  [(r.1, r.2.1), (r.2.2.1, r.2.1), (r.2.2.1, r.2.2.2), (r.1, r.2.2.2)]

/-- The box of a transformed rectangle contains the image of every corner … -/
theorem rect_hull_contains (m : Matrix) (r : Rect) (c : Point) (hc : c ∈ corners r) :
    (apply_matrix_rect m r).1 ≤ (apply_matrix_pt m c).1 ∧
    (apply_matrix_pt m c).1 ≤ (apply_matrix_rect m r).2.2.1 ∧
    (apply_matrix_rect m r).2.1 ≤ (apply_matrix_pt m c).2 ∧
    (apply_matrix_pt m c).2 ≤ (apply_matrix_rect m r).2.2.2 :=
  (isHull_apply_matrix_rect m r).contains _ (List.mem_map_of_mem hc)

/-- … and is tight: each of its four bounds is attained by the image of some corner. -/
theorem rect_hull_tight (m : Matrix) (r : Rect) :
    (∃ c ∈ corners r, (apply_matrix_pt m c).1 = (apply_matrix_rect m r).1) ∧
    (∃ c ∈ corners r, (apply_matrix_pt m c).2 = (apply_matrix_rect m r).2.1) ∧
    (∃ c ∈ corners r, (apply_matrix_pt m c).1 = (apply_matrix_rect m r).2.2.1) ∧
    (∃ c ∈ corners r, (apply_matrix_pt m c).2 = (apply_matrix_rect m r).2.2.2) := by
  simpa only [corners, exists_mem_map] using (isHull_apply_matrix_rect m r).tight

/-- `Reach p L`: `p` is the state of a `Plane` after some sequence of insertions of fresh,
well-formed boxes, removals of live objects and re-insertions of removed ones, and `L` is, by
construction, the list of live objects in insertion order (the brute-force bookkeeping of the same history). -/
inductive Reach : Plane.Plane → List PObj → Prop
  | init (bbox : Rect) (gs : Int) (hgs : 0 < gs) (hb : WfRect bbox) : Reach (Plane.init bbox gs) []
  | add {p L} (o : PObj) : Reach p L → (∀ o' ∈ p.seq, o'.id ≠ o.id) → WfRect (bboxOf o) →
      Reach (Plane.add p o) (L ++ [o])
  | remove {p L} (o : PObj) : Reach p L → o ∈ L → Reach (Plane.remove p o).1 (L.erase o)
  /-- an object that was added before and removed since is added again: it becomes the LAST live object -/
  | readd {p L} (o : PObj) : Reach p L → o ∈ p.seq → o.id ∉ p.objs → Reach (Plane.addPy p o) (L ++ [o])

/-- The representation invariant tying the fields of `Plane` to the live list: a live object is filed
either under every cell of its box (when those are at most `MAXCELLS`) or, once, in the overflow list. -/
structure Inv (p : Plane.Plane) (L : List PObj) : Prop where
  gs : 0 < p.gridsize
  bx : p.x0 ≤ p.x1
  by' : p.y0 ≤ p.y1
  ids : p.seq.Pairwise (fun a b => a.id ≠ b.id)
  objs_nodup : p.objs.Nodup
  objs_sub : ∀ i ∈ p.objs, ∃ o ∈ p.seq, o.id = i
  live : Plane.iter p = L
  wf : ∀ o ∈ p.seq, WfRect (bboxOf o)
  grid : ∀ k o, List.count (k, o) p.grid =
    if o ∈ L ∧ cells? p (bboxOf o) ≠ none then List.count k (getrange p (bboxOf o)) else 0
  big : ∀ o, List.count o p.big = if o ∈ L ∧ cells? p (bboxOf o) = none then 1 else 0

theorem getrange_add (p : Plane.Plane) (o : PObj) (b : Rect) :
    getrange (Plane.add p o) b = getrange p b := getrange_congr (add_bounds p o) b

theorem getrange_remove (p : Plane.Plane) (o : PObj) (b : Rect) :
    getrange (Plane.remove p o).1 b = getrange p b := getrange_congr (remove_bounds p o) b

theorem cells_add (p : Plane.Plane) (o : PObj) (b : Rect) :
    cells? (Plane.add p o) b = cells? p b := cells?_congr (add_bounds p o) b

theorem cells_remove (p : Plane.Plane) (o : PObj) (b : Rect) :
    cells? (Plane.remove p o).1 b = cells? p b := cells?_congr (remove_bounds p o) b

theorem inv_add {p L} (ih : Inv p L) (o : PObj) (hfresh : ∀ o' ∈ p.seq, o'.id ≠ o.id) (hwf : WfRect (bboxOf o)) :
    Inv (Plane.add p o) (L ++ [o]) := by
  have hnot : o.id ∉ p.objs := not_mem_objs_of_fresh ih.objs_sub hfresh
  have hoL : o ∉ L := fun hmem => hfresh o (mem_iter.mp (ih.live ▸ hmem)).1 rfl
  have hb := add_bounds p o
  refine { gs := hb.1 ▸ ih.gs, bx := hb.2.1 ▸ hb.2.2.2.1 ▸ ih.bx, by' := hb.2.2.1 ▸ hb.2.2.2.2 ▸ ih.by',
           ids := ?_, objs_nodup := ?_, objs_sub := ?_, live := ?_, wf := ?_, grid := ?_, big := ?_ }
  · rw [add_seq, List.pairwise_append]
    exact ⟨ih.ids, List.pairwise_singleton _ _, fun a ha b hb => List.mem_singleton.mp hb ▸ hfresh a ha⟩
  · rw [add_objs, if_neg hnot, List.nodup_append]
    exact ⟨ih.objs_nodup, List.pairwise_singleton _ _, fun a ha b hb h =>
      hnot (by rwa [← List.mem_singleton.mp hb, ← h])⟩
  · rw [add_objs, if_neg hnot, add_seq, List.forall_mem_append, List.forall_mem_singleton]
    refine ⟨fun i hi => ?_, o, List.mem_append_right _ (List.mem_singleton_self o), rfl⟩
    obtain ⟨o', ho', hid⟩ := ih.objs_sub i hi
    exact ⟨o', List.mem_append_left _ ho', hid⟩
  · rw [iter_add p o hnot hfresh, ih.live]
  · rw [add_seq, List.forall_mem_append, List.forall_mem_singleton]
    exact ⟨ih.wf, hwf⟩
  · intro k o'
    rw [count_grid_add, ih.grid, getrange_add, cells_add]
    -- the new object brings its own term, the others keep theirs
    by_cases h : o' = o
    · subst h; simp [hoL]
    · simp [h]
  · intro o'
    rw [count_big_add, ih.big, cells_add]
    by_cases h : o' = o
    · subst h; simp [hoL]
    · simp [h]

/-- Forgetting the stale `_seq` entry of an object that is not live keeps the invariant (same live list). -/
theorem inv_forget {p L} (inv : Inv p L) (o : PObj) (hdead : o.id ∉ p.objs) : Inv (Plane.forget p o) L where
  gs := inv.gs
  bx := inv.bx
  by' := inv.by'
  ids := inv.ids.sublist List.erase_sublist
  objs_nodup := inv.objs_nodup
  objs_sub := fun i hi =>
    have ⟨o', ho', hid⟩ := inv.objs_sub i hi
    ⟨o', (List.mem_erase_of_ne (by rintro rfl; exact hdead (hid ▸ hi))).mpr ho', hid⟩
  live := by
    show (p.seq.erase o).filter (fun o' => decide (o'.id ∈ p.objs)) = L
    rw [filter_erase_of_false _ _ (by simpa using hdead)]
    exact inv.live
  wf := fun o' ho' => inv.wf o' (List.mem_of_mem_erase ho')
  -- `forget` leaves every field but `seq` as it is
  grid := inv.grid
  big := inv.big

theorem inv_of_reach {p L} (h : Reach p L) : Inv p L := by
  induction h with
  | init bbox gs hgs hb =>
    obtain ⟨x0, y0, x1, y1⟩ := bbox
    -- every list of the new index is empty
    refine ⟨hgs, hb.1, hb.2, ?_, ?_, ?_, ?_, ?_, ?_, ?_⟩ <;> simp [Plane.init, Plane.iter]
  | @add p L o _ hfresh hwf ih => exact inv_add ih o hfresh hwf
  | @remove p L o _ hmem ih =>
    have hseq : o ∈ p.seq := (mem_iter.mp (ih.live ▸ hmem)).1
    have hL : L.Nodup := ih.live ▸ (nodup_of_ids ih.ids).filter _
    have hb := remove_bounds p o
    refine { gs := hb.1 ▸ ih.gs, bx := hb.2.1 ▸ hb.2.2.2.1 ▸ ih.bx, by' := hb.2.2.1 ▸ hb.2.2.2.2 ▸ ih.by',
             ids := ?_, objs_nodup := ?_, objs_sub := ?_, live := ?_, wf := ?_, grid := ?_, big := ?_ }
    · rw [remove_seq]; exact ih.ids
    · rw [remove_objs]; exact ih.objs_nodup.erase _
    · intro i hi
      rw [remove_objs] at hi
      rw [remove_seq]
      exact ih.objs_sub i (List.mem_of_mem_erase hi)
    · rw [iter_remove_eq_erase ih.ids ih.objs_nodup hseq, ih.live]
    · rw [remove_seq]; exact ih.wf
    · intro k o'
      rw [count_grid_remove, ih.grid, getrange_remove, cells_remove]
      by_cases h : o' = o
      · subst h; simp [hL.mem_erase_iff, hmem]
      · simp [h, hL.mem_erase_iff]
    · intro o'
      rw [count_big_remove, ih.big, cells_remove]
      by_cases h : o' = o
      · subst h; simp [hL.mem_erase_iff, hmem]
      · simp [h, hL.mem_erase_iff]
  | @readd p L o _ hseq hdead ih =>
    rw [addPy_readd p o hdead hseq]
    refine inv_add (inv_forget ih o hdead) o ?_ (ih.wf o hseq)
    intro o' ho' hid
    have ho'' : o' ≠ o ∧ o' ∈ p.seq := (nodup_of_ids ih.ids).mem_erase_iff.mp ho'
    exact ho''.1 (eq_of_id_eq ih.ids ho''.2 hseq hid)

/-- **find = brute force.**  After any sequence of insertions and removals - objects in the overflow list
included -, for every well-formed query box - also one that covers more than `MAXCELLS` cells -, `find`
returns exactly the live objects that properly overlap it, each once. -/
theorem plane_find {p L} (h : Reach p L) (q : Rect) (hq : WfRect q) :
    (∀ o, o ∈ Plane.find p q ↔ (o ∈ L ∧ overlaps o q = true)) ∧ (Plane.find p q).Nodup := by
  have inv := inv_of_reach h
  refine ⟨fun o => ?_, (find_perm p q).nodup_iff.mpr (List.Pairwise.filter _ (nodup_dedup _))⟩
  rw [(find_perm p q).mem_iff]
  simp only [Plane.findScan, List.mem_filter, mem_dedup]
  cases hcq : cells? p q with
  | none => simp only [inv.live]
  | some ks =>
    simp only [List.mem_append, List.mem_flatMap, mem_cell, (cells?_some hcq).1]
    refine and_congr_left fun hov => ⟨?_, fun hoL => ?_⟩
    · -- whatever is filed is live
      rintro (⟨k, _, hk⟩ | hbig)
      · exact ((mem_iff_of_count_eq_ite (inv.grid k o)).mp hk).1.1
      · exact ((mem_iff_of_count_eq_ite (inv.big o)).mp hbig).1.1
    · -- a live object is in the overflow list or shares a cell with the query
      cases hco : cells? p (bboxOf o) with
      | none => exact .inr ((mem_iff_of_count_eq_ite (inv.big o)).mpr ⟨⟨hoL, hco⟩, Nat.one_pos⟩)
      | some kso =>
        have hseq : o ∈ p.seq := (mem_iter.mp (inv.live ▸ hoL)).1
        obtain ⟨k, hk1, hk2⟩ := overlap_share_cell inv.gs inv.bx inv.by' (inv.wf o hseq) hq hov
        exact .inl ⟨k, hk2, (mem_iff_of_count_eq_ite (inv.grid k o)).mpr
          ⟨⟨hoL, hco ▸ Option.some_ne_none kso⟩, List.count_pos_iff.mpr hk1⟩⟩

/-- **Bounded work per operation.**  The list of grid cells that `_cells` hands out (`cells?`; `cellsTouched` is
its length, 0 when `_cells` answers "too many") has at most `MAXCELLS` (= 1024) entries, for every plane and every
box - however large the coordinates (a form scaled by 1e30, a page box of astronomic size); it is `getrange`, and
the length of `getrange` is the cell count computed from the range bounds.  That `add`, `remove` and `find` reach
the grid through `cells?` only (a box with more cells goes to / is served from the overflow list) is to be read
off their definitions in `Model/Plane.lean`; no theorem states it. -/
theorem plane_cells_bounded (p : Plane.Plane) (b : Rect) :
    cellsTouched p b ≤ PLANE_MAXCELLS ∧ (∀ ks, cells? p b = some ks → ks = getrange p b) ∧
      (getrange p b).length = cellCount p b :=
  ⟨cellsTouched_le p b, fun _ h => (cells?_some h).1, length_getrange p b⟩

/-- `findSpec` is the brute-force search over the live objects; `find` agrees with it. -/
theorem plane_find_eq_bruteforce {p L} (h : Reach p L) (q : Rect) (hq : WfRect q) (o : PObj) :
    o ∈ Plane.find p q ↔ o ∈ Plane.findSpec p q := by
  rw [(plane_find h q hq).1 o]
  simp only [Plane.findSpec, List.mem_filter, (inv_of_reach h).live]

/-- **find = brute force, as a LIST.**  After the repair of `Plane.find` (objects are reported in
insertion order, not in the scan order of the grid cells) the result of `find` is literally the
brute-force list: the live objects that properly overlap the query, in insertion order.  The result
therefore does not depend on the grid size or on where the grid falls. -/
theorem plane_find_order {p L} (h : Reach p L) (q : Rect) (hq : WfRect q) :
    Plane.find p q = Plane.findSpec p q := by
  have hseq : p.seq.Nodup := nodup_of_ids (inv_of_reach h).ids
  have hsub : (Plane.findSpec p q).Sublist p.seq := List.filter_sublist.trans List.filter_sublist
  exact eq_of_rank_sorted_of_perm hseq hsub (sortByKey_sorted _ _)
    ((List.perm_ext_iff_of_nodup (plane_find h q hq).2 (hseq.sublist hsub)).mpr (plane_find_eq_bruteforce h q hq))

/-- **Iteration order.**  Iterating yields the live objects in insertion order. -/
theorem plane_iter {p L} (h : Reach p L) : Plane.iter p = L := (inv_of_reach h).live

-- A concrete reachable state with a hit, a miss and a removed object (`exP_reach` serves an example below).

def exA : PObj := ⟨1, -7/10, -7/10, -3/5, -3/5⟩       -- negative fractional box, outside the bounds
def exB : PObj := ⟨2, 60, 60, 70, 70⟩
def exP : Plane.Plane := (Plane.remove (Plane.add (Plane.add (Plane.init (0, 0, 100, 100) 50) exA) exB) exB).1

theorem exP_reach : Reach exP [exA] := by
  have h0 := Reach.init (0, 0, 100, 100) 50 (by decide) (by unfold WfRect; decide +kernel)
  have h1 := Reach.add exA h0 (by decide +kernel) (by unfold WfRect bboxOf; decide +kernel)
  have h2 := Reach.add exB h1 (by decide +kernel) (by unfold WfRect bboxOf; decide +kernel)
  exact Reach.remove exB h2 (by decide +kernel)

/-- **Removing an absent object** is `KeyError` and changes NOTHING (the grid edits that `remove`
performs before `set.remove` raises find nothing to delete). -/
theorem plane_remove_absent {p L} (h : Reach p L) (o : PObj) (ho : o.id ∉ p.objs) :
    Plane.remove p o = (p, false) := by
  have inv := inv_of_reach h
  have hL : o ∉ L := fun hm => ho (mem_iter.mp (inv.live ▸ hm)).2
  have hg : ∀ k, (k, o) ∉ p.grid := fun k hk => hL ((mem_iff_of_count_eq_ite (inv.grid k o)).mp hk).1.1
  have hb : o ∉ p.big := fun hk => hL ((mem_iff_of_count_eq_ite (inv.big o)).mp hk).1.1
  unfold Plane.remove
  simp only [ho, if_false]
  cases hc : cells? p (bboxOf o) with
  | none => simp only [List.erase_of_not_mem hb]
  | some ks => simp only [foldl_erase_absent ks o p.grid hg]

/-- `remove` succeeds exactly on the objects `__contains__` reports. -/
theorem plane_remove_ok_iff (p : Plane.Plane) (o : PObj) :
    (Plane.remove p o).2 = true ↔ Plane.contains p o = true := by
  unfold Plane.remove Plane.contains
  by_cases h : o.id ∈ p.objs <;> simp [h]

/-- **`__contains__`** = membership (by identity) in the brute-force list of live objects. -/
theorem plane_contains {p L} (h : Reach p L) (o : PObj) :
    Plane.contains p o = true ↔ ∃ o' ∈ L, o'.id = o.id := by
  have inv := inv_of_reach h
  rw [Plane.contains, decide_eq_true_eq, mem_objs_iff inv.objs_sub, inv.live]

/-- For an object that was handed to the index at some point, `obj in plane` is literally `obj ∈ L`. -/
theorem plane_contains_added {p L} (h : Reach p L) (o : PObj) (ho : o ∈ p.seq) :
    Plane.contains p o = true ↔ o ∈ L := by
  rw [← (inv_of_reach h).live, mem_iter, Plane.contains, decide_eq_true_eq, and_iff_right ho]

/-- **`__len__`** = number of live objects. -/
theorem plane_len {p L} (h : Reach p L) : Plane.len p = L.length := by
  have inv := inv_of_reach h
  have hnd : ((Plane.iter p).map (fun o => o.id)).Nodup := by
    rw [List.Nodup, List.pairwise_map]
    exact inv.ids.filter _
  -- `_objs` and the ids of the live objects are duplicate-free lists with the same members
  have := ((List.perm_ext_iff_of_nodup inv.objs_nodup hnd).mpr
    fun _ => (mem_objs_iff inv.objs_sub).trans List.mem_map.symm).length_eq
  rwa [List.length_map, inv.live] at this

/-- **`extend`** = appending the new objects, in order, to the brute-force list. -/
theorem plane_extend {p L} (h : Reach p L) (os : List PObj)
    (hfresh : ∀ o ∈ os, ∀ o' ∈ p.seq, o'.id ≠ o.id)
    (hd : os.Pairwise (fun a b => a.id ≠ b.id))
    (hwf : ∀ o ∈ os, WfRect (bboxOf o)) :
    Reach (Plane.extend p os) (L ++ os) := by
  induction os generalizing p L with
  | nil => simpa [extend_nil] using h
  | cons o os ih =>
    obtain ⟨hfo, hfos⟩ := List.forall_mem_cons.mp hfresh
    obtain ⟨hwo, hwos⟩ := List.forall_mem_cons.mp hwf
    obtain ⟨hdo, hdos⟩ := List.pairwise_cons.mp hd
    rw [extend_cons, addPy_fresh p o (not_mem_objs_of_fresh (inv_of_reach h).objs_sub hfo) (fun hm => hfo o hm rfl)]
    have := ih (Reach.add o h hfo hwo) (fun o2 ho2 => by
      rw [add_seq, List.forall_mem_append, List.forall_mem_singleton]
      exact ⟨hfos o2 ho2, hdo o2 ho2⟩) hdos hwos
    simpa [List.append_assoc] using this

/-- One state-changing call of the public interface. -/
inductive Op
  | add (o : PObj)
  | extend (os : List PObj)
  | remove (o : PObj)

def Op.run (p : Plane.Plane) : Op → Plane.Plane
  | .add o => Plane.addPy p o
  | .extend os => Plane.extend p os
  | .remove o => (Plane.remove p o).1

def Op.spec (L : List PObj) : Op → List PObj
  | .add o => if o ∈ L then L else L ++ [o]      -- set-like: an object that is there stays where it is
  | .extend os => L ++ os
  | .remove o => L.erase o

/-- The domain: `add` inserts a new well-formed object OR an object that was handed to the index before
(still live: duplicate `add`, a no-op; removed since: it is added again); a removal targets a live object OR an
object that is not in the index at all (removed before / never added). -/
def Op.Ok (p : Plane.Plane) : Op → Prop
  | .add o => ((∀ o' ∈ p.seq, o'.id ≠ o.id) ∧ WfRect (bboxOf o)) ∨ o ∈ p.seq
  | .extend os => (∀ o ∈ os, ∀ o' ∈ p.seq, o'.id ≠ o.id) ∧ os.Pairwise (fun a b => a.id ≠ b.id) ∧
      ∀ o ∈ os, WfRect (bboxOf o)
  | .remove o => o ∈ Plane.iter p ∨ o.id ∉ p.objs

def HistOk (p : Plane.Plane) : List Op → Prop
  | [] => True
  | op :: rest => op.Ok p ∧ HistOk (op.run p) rest

/-- **Arbitrary operation histories.**  Whatever interleaving of `add`, `extend` by new objects, `remove` of live objects
and `remove` of absent objects is applied, the index stays tied to the brute-force list (`Reach`), hence
`find` / iteration / `in` / `len` keep agreeing with it (`plane_history_bruteforce`). -/
theorem plane_history {p L} (h : Reach p L) (ops : List Op) (hok : HistOk p ops) :
    Reach (ops.foldl Op.run p) (ops.foldl Op.spec L) := by
  induction ops generalizing p L with
  | nil => exact h
  | cons op ops ih =>
    obtain ⟨h1, h2⟩ := hok
    simp only [List.foldl_cons]
    refine ih ?_ h2
    cases op with
    | add o =>
      have hLiff : o ∈ L ↔ o ∈ p.seq ∧ o.id ∈ p.objs := plane_iter h ▸ mem_iter
      rcases h1 with ⟨hf, hw⟩ | hs
      · -- a new object: `add` is `extend` by that one object
        have hL : o ∉ L := fun hm => hf o (hLiff.mp hm).1 rfl
        simp only [Op.spec, hL, if_false]
        exact plane_extend h [o] (List.forall_mem_singleton.mpr hf) (List.pairwise_singleton _ _)
          (List.forall_mem_singleton.mpr hw)
      · by_cases hlive : o.id ∈ p.objs
        · have hL : o ∈ L := hLiff.mpr ⟨hs, hlive⟩
          simp only [Op.run, Op.spec, addPy_live p o hlive, hL, if_true]
          exact h
        · have hL : o ∉ L := fun hm => hlive (hLiff.mp hm).2
          simp only [Op.run, Op.spec, hL, if_false]
          exact Reach.readd o h hs hlive
    | extend os => exact plane_extend h os h1.1 h1.2.1 h1.2.2
    | remove o =>
      rcases h1 with h1 | h1
      · exact Reach.remove o h (by rw [← plane_iter h]; exact h1)
      · have hL : o ∉ L := fun hm => h1 (mem_iter.mp (plane_iter h ▸ hm)).2
        simp only [Op.run, Op.spec, plane_remove_absent h o h1, List.erase_of_not_mem hL]
        exact h

/-- Everything observable after an arbitrary history on a fresh index equals brute force on the list. -/
theorem plane_history_bruteforce (bbox : Rect) (gs : Int) (hgs : 0 < gs) (hb : WfRect bbox)
    (ops : List Op) (hok : HistOk (Plane.init bbox gs) ops) (q : Rect) (hq : WfRect q) :
    let p := ops.foldl Op.run (Plane.init bbox gs)
    let L := ops.foldl Op.spec []
    Plane.find p q = L.filter (fun o => overlaps o q) ∧ Plane.iter p = L ∧ Plane.len p = L.length ∧
      ∀ o, Plane.contains p o = true ↔ ∃ o' ∈ L, o'.id = o.id := by
  intro p L
  have h : Reach p L := plane_history (Reach.init bbox gs hgs hb) ops hok
  refine ⟨?_, plane_iter h, plane_len h, plane_contains h⟩
  rw [plane_find_order h q hq, Plane.findSpec, plane_iter h]

def exC : PObj := ⟨3, 10, 10, 10, 20⟩        -- zero-width object
/-- extend; remove (live); remove (absent: KeyError); add; remove (never added); add of a live object (no-op);
add of the removed object again (it becomes the last one). -/
def exOps : List Op :=
  [.extend [exA, exB], .remove exB, .remove exB, .add exC, .remove ⟨9, 0, 0, 1, 1⟩, .add exA, .add exB]

example : HistOk (Plane.init (0, 0, 100, 100) 50) exOps := by
  simp only [exOps, HistOk, Op.Ok, Op.run, WfRect, bboxOf, and_true]
  decide +kernel

example : exOps.foldl Op.spec [] = [exA, exC, exB] := by decide +kernel
example : Plane.iter (exOps.foldl Op.run (Plane.init (0, 0, 100, 100) 50)) = [exA, exC, exB] := by decide +kernel
example : Plane.remove exP exB = (exP, false) := plane_remove_absent exP_reach exB (by decide +kernel)

/-- Adding an object that is live is a no-op (set-like). -/
theorem plane_add_live {p L} (h : Reach p L) (o : PObj) (ho : o ∈ L) : Plane.addPy p o = p :=
  addPy_live p o (mem_iter.mp (plane_iter h ▸ ho)).2

/-- Why `Plane.add` needs its guard (the behaviour before the repair, `Plane.add` = the unguarded insertion):
filing a live object a second time leaves, after `remove`, a stale grid entry - `find` reports an object that
is not in the index any more. -/
theorem plane_unguarded_double_add_cex :
    let p := (Plane.remove (Plane.add (Plane.add (Plane.init (0, 0, 100, 100) 50) exB) exB) exB).1
    Plane.find p (55, 55, 75, 75) = [exB] ∧ Plane.iter p = [] ∧ Plane.len p = 0 := by decide +kernel

/-- … and without dropping the stale `_seq` entry a re-added object is iterated twice. -/
theorem plane_unguarded_readd_cex :
    let p := Plane.add (Plane.remove (Plane.add (Plane.init (0, 0, 100, 100) 50) exB) exB).1 exB
    Plane.iter p = [exB, exB] ∧ Plane.len p = 1 := by decide +kernel

/-- The repaired `add` on the same histories. -/
example :
    let p := (Plane.remove (Plane.addPy (Plane.addPy (Plane.init (0, 0, 100, 100) 50) exB) exB) exB).1
    Plane.find p (55, 55, 75, 75) = [] ∧ Plane.iter p = [] := by decide +kernel
example :
    let p := Plane.addPy (Plane.remove (Plane.addPy (Plane.init (0, 0, 100, 100) 50) exB) exB).1 exB
    Plane.iter p = [exB] ∧ Plane.len p = 1 := by decide +kernel

theorem get_bound_nil :
    get_bound [] = (((INF : Int) : Rat), ((INF : Int) : Rat), -((INF : Int) : Rat), -((INF : Int) : Rat)) := rfl

/-- `get_bound` covers every point - for ALL point lists … -/
theorem get_bound_contains (pts : List Point) (p : Point) (hp : p ∈ pts) :
    (get_bound pts).1 ≤ p.1 ∧ p.1 ≤ (get_bound pts).2.2.1 ∧
    (get_bound pts).2.1 ≤ p.2 ∧ p.2 ≤ (get_bound pts).2.2.2 := by
  unfold get_bound
  rw [foldl_get_bound_step]
  exact ⟨(foldl_min_spec (fun p : Point => p.1) pts _).2 p hp, (foldl_max_spec (fun p : Point => p.1) pts _).2 p hp,
    (foldl_min_spec (fun p : Point => p.2) pts _).2 p hp, (foldl_max_spec (fun p : Point => p.2) pts _).2 p hp⟩

/-- … each bound is either attained by a point or still the initial limit `±INF` … -/
theorem get_bound_attained_or_limit (pts : List Point) :
    ((get_bound pts).1 = (INF : Int) ∨ ∃ p ∈ pts, p.1 = (get_bound pts).1) ∧
    ((get_bound pts).2.1 = (INF : Int) ∨ ∃ p ∈ pts, p.2 = (get_bound pts).2.1) ∧
    ((get_bound pts).2.2.1 = -((INF : Int) : Rat) ∨ ∃ p ∈ pts, p.1 = (get_bound pts).2.2.1) ∧
    ((get_bound pts).2.2.2 = -((INF : Int) : Rat) ∨ ∃ p ∈ pts, p.2 = (get_bound pts).2.2.2) := by
  unfold get_bound
  rw [foldl_get_bound_step]
  exact ⟨(foldl_min_spec (fun p : Point => p.1) pts _).1, (foldl_min_spec (fun p : Point => p.2) pts _).1,
    (foldl_max_spec (fun p : Point => p.1) pts _).1, (foldl_max_spec (fun p : Point => p.2) pts _).1⟩

/-- … so for a non-empty list of points inside `[-INF, INF]²` it is the TIGHT hull ("minimal rectangle that
covers all the points"): each of the four bounds is attained. -/
theorem get_bound_tight (pts : List Point) (hne : pts ≠ [])
    (hin : ∀ p ∈ pts, -((INF : Int) : Rat) ≤ p.1 ∧ p.1 ≤ (INF : Int) ∧ -((INF : Int) : Rat) ≤ p.2 ∧ p.2 ≤ (INF : Int)) :
    (∃ p ∈ pts, p.1 = (get_bound pts).1) ∧ (∃ p ∈ pts, p.2 = (get_bound pts).2.1) ∧
    (∃ p ∈ pts, p.1 = (get_bound pts).2.2.1) ∧ (∃ p ∈ pts, p.2 = (get_bound pts).2.2.2) := by
  obtain ⟨p0, hp0⟩ := List.exists_mem_of_ne_nil pts hne
  have hc := get_bound_contains pts p0 hp0
  have hb := hin p0 hp0
  obtain ⟨h1, h2, h3, h4⟩ := get_bound_attained_or_limit pts
  -- a bound that is still at its initial limit is attained by `p0`, which lies inside the limit
  exact ⟨h1.elim (fun h => ⟨p0, hp0, Rat.le_antisymm (h ▸ hb.2.1) hc.1⟩) id,
    h2.elim (fun h => ⟨p0, hp0, Rat.le_antisymm (h ▸ hb.2.2.2) hc.2.2.1⟩) id,
    h3.elim (fun h => ⟨p0, hp0, Rat.le_antisymm hc.2.1 (h ▸ hb.1)⟩) id,
    h4.elim (fun h => ⟨p0, hp0, Rat.le_antisymm hc.2.2.2 (h ▸ hb.2.2.1)⟩) id⟩

/-- The box of a transformed rectangle IS `get_bound` of the four transformed corners (whenever those lie
inside `get_bound`'s limit): the two "hull" helpers of utils.py agree. -/
theorem rect_eq_get_bound (m : Matrix) (r : Rect)
    (hin : ∀ c ∈ corners r, -((INF : Int) : Rat) ≤ (apply_matrix_pt m c).1 ∧ (apply_matrix_pt m c).1 ≤ (INF : Int) ∧
      -((INF : Int) : Rat) ≤ (apply_matrix_pt m c).2 ∧ (apply_matrix_pt m c).2 ≤ (INF : Int)) :
    apply_matrix_rect m r = get_bound ((corners r).map (apply_matrix_pt m)) :=
  IsHull.unique (l := (corners r).map (apply_matrix_pt m)) (isHull_apply_matrix_rect m r)
    ⟨get_bound_contains _, get_bound_tight _ (List.cons_ne_nil _ _) (List.forall_mem_map.mpr hin)⟩

/-- **`uniq`** yields exactly the first occurrences, in order (`firstOcc` is the specification) … -/
theorem uniq_spec (l : List Int) : uniq l = firstOcc l := by
  unfold uniq
  rw [uniqGo_eq]
  simp

/-- … i.e. the same elements, each once, as a sub-sequence of the input. -/
theorem uniq_props (l : List Int) :
    (∀ x, x ∈ uniq l ↔ x ∈ l) ∧ (uniq l).Nodup ∧ (uniq l).Sublist l := by
  rw [uniq_spec]
  exact ⟨fun _ => mem_firstOcc, nodup_firstOcc l, sublist_firstOcc l⟩

theorem uniq_idem (l : List Int) : uniq (uniq l) = uniq l := by
  rw [uniq_spec, uniq_spec, firstOcc_of_nodup (nodup_firstOcc l)]

/-- **`fsplit`** = (the elements satisfying the predicate, the others), both in input order. -/
theorem fsplit_spec (pred : Int → Bool) (l : List Int) :
    fsplit pred l = (l.filter pred, l.filter (fun x => !pred x)) := by
  unfold fsplit
  rw [fsplitGo_eq]
  simp

/-- Nothing is lost or invented by `fsplit`. -/
theorem fsplit_length (pred : Int → Bool) (l : List Int) :
    (fsplit pred l).1.length + (fsplit pred l).2.length = l.length := by
  simp only [fsplit_spec, ← List.countP_eq_length_filter, List.length_eq_countP_add_countP pred (l := l),
    Bool.not_eq_true, Bool.decide_eq_false]

example : get_bound [((3 : Rat), (-7 : Rat) / 2), (-1, 4), (3, 4)] = (-1, (-7 : Rat) / 2, 3, 4) := by decide +kernel
example : uniq [3, 1, 3, 2, 1] = [3, 1, 2] := by decide +kernel
example : fsplit (fun x => decide (x < 2)) [3, 1, 0, 2] = ([1, 0], [3, 2]) := by decide +kernel
example : apply_matrix_rect (0, 1, -1, 0, 5, 0) (0, 0, 2, 1) =
    get_bound ((corners (0, 0, 2, 1)).map (apply_matrix_pt (0, 1, -1, 0, 5, 0))) := by decide +kernel

end PdfVerif.Props.C20
