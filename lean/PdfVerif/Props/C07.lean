/-
C07 — Composite fonts: segmentation, CID, Unicode follow CMap, ToUnicode, W/DW.

Model: `PdfVerif.CIDFont` (hand model of cmapdb.py / pdffont.py / pdfdevice.py, tied to the
implementation by tools/harness/props/c07.py; literal tables regenerated into `Gen/CIDFont.lean`).
Spec: `PdfVerif.CIDFontSpec`.
-/
import PdfVerif.Lemmas.CIDFontGlue
import PdfVerif.Lemmas.CMapLexBytes

namespace PdfVerif.Props.C07
open PdfVerif PdfVerif.CIDFont PdfVerif.CIDFontSpec PdfVerif.CIDFontLemmas
open PdfVerif.Lexer (SepItem sepOK renderSep)

/-! ## Segmentation: identity CMaps -/

/-- Identity-H/V (and DLIdent-H/V): every string, of even or odd length, is split into its complete
big-endian two-byte codes. -/
theorem identity_segment (s : Bytes) : identityDecode s = specIdentity 2 s :=
  match s with
  | [] => by simp [identityDecode, specIdentity]
  | [_] => by simp [identityDecode, specIdentity]
  | a :: b :: rest => by
    rw [identityDecode, identity_segment rest, ← nunpack_two]
    exact (specIdentity_append [a, b] rest (Nat.zero_lt_succ _)).symm

/-- Odd length: the trailing byte is ignored, nothing else changes (no internal error). -/
theorem identity_segment_odd (s : Bytes) (b : UInt8) (h : s.length % 2 = 0) :
    identityDecode (s ++ [b]) = identityDecode s :=
  match s, h with
  | [], _ => rfl
  | [_], h => by simp at h
  | a :: c :: rest, hp => by
    rw [List.length_cons, List.length_cons, Nat.add_assoc, Nat.add_mod_right] at hp
    simp only [List.cons_append, identityDecode, identity_segment_odd rest b hp]

/-- OneByteIdentityH/V: one code per byte. -/
theorem identity_byte_segment (s : Bytes) : identityDecodeByte s = specIdentity 1 s := by
  rw [specIdentity1]; rfl

/-- The names `CMapDB.get_cmap` special-cases, after `IDENTITY_ENCODER` (both tables regenerated from
the Python source): code width and writing mode are what the names say. -/
theorem identity_names :
    identityKind (cmapName "Identity-H") = some (2, 0) ∧ identityKind (cmapName "Identity-V") = some (2, 1) ∧
    identityKind (cmapName "DLIdent-H") = some (2, 0) ∧ identityKind (cmapName "DLIdent-V") = some (2, 1) ∧
    identityKind (cmapName "OneByteIdentityH") = some (1, 0) ∧
    identityKind (cmapName "OneByteIdentityV") = some (1, 1) := by
  decide +kernel

example : identityDecode [0x00, 0x41, 0x30, 0x42, 0x7F] = [0x41, 0x3042] := by decide +kernel
example : specIdentity 2 [0x00, 0x41, 0x30, 0x42, 0x7F] = [0x41, 0x3042] := by decide +kernel

/-! ## Which Unicode map: character collection × writing mode -/

/-- A font without ToUnicode whose collection is not served by an embedded TrueType cmap reads the
collection's CID → Unicode table **of the writing mode of its encoding CMap** (vertical CMaps have their own
CIDs for rotated punctuation and brackets).  `COLLECTION_MAP_USES_WMODE` and `TTF_CODINGS` are regenerated
from `PDFCIDFont.__init__`. -/
theorem collection_map_follows_wmode (ordering coding enc : String) (hasTTF vertical : Bool)
    (h : Gen.CIDFont.TTF_CODINGS.contains coding = false) :
    selectUnicodeMap .absent ordering coding enc hasTTF vertical true = .collection coding vertical := by
  unfold selectUnicodeMap
  simp only [h, Gen.CIDFont.COLLECTION_MAP_USES_WMODE, Bool.false_eq_true, if_false, if_true, Bool.true_and]

/-- A ToUnicode stream always wins; Adobe-Identity / Adobe-UCS use the embedded TrueType cmap. -/
theorem unicode_map_priority (ordering coding enc : String) (hasTTF v shipped : Bool) :
    selectUnicodeMap .stream ordering coding enc hasTTF v shipped = .file ∧
    selectUnicodeMap .absent "Identity" "Adobe-Identity" enc true v shipped = .ttf ∧
    selectUnicodeMap .absent "UCS" "Adobe-UCS" enc true v shipped = .ttf := by
  refine ⟨rfl, ?_, ?_⟩ <;> simp [selectUnicodeMap, Gen.CIDFont.TTF_CODINGS]

example : selectUnicodeMap .absent "Japan1" "Adobe-Japan1" "90ms-RKSJ-V" false true true
    = .collection "Adobe-Japan1" true := by decide +kernel

/-! ## Segmentation: table (trie) CMaps -/

/-- A string that is a concatenation of codes of the CMap, followed by an incomplete code (possibly
empty), decodes to exactly the CIDs of those codes.  "`c` is a code with CID `n`" and "`p` is an
incomplete code" are read off the trie by `walk`. -/
theorem trie_decode_spec (root : TDict) (cs : List (Bytes × Nat)) (p : Bytes) (d' : TDict)
    (hcs : ∀ e ∈ cs, walk root e.1 = some (.leaf e.2)) (hp : walk root p = some (.node d')) :
    trieDecode root ((cs.map (·.1)).flatten ++ p) = cs.map (·.2) := by
  induction cs with
  | nil => simpa [trieDecode, trieDecodeAux] using decode_walk root p root _ [] hp
  | cons e rest ih =>
    have ih := ih (fun x hx => hcs x (List.mem_cons_of_mem _ hx))
    simp only [List.map_cons, List.flatten_cons, List.append_assoc, trieDecode] at ih ⊢
    rw [decode_walk root e.1 root _ _ (hcs e (List.mem_cons_self ..)), ih]

/-- Without a trailing incomplete code. -/
theorem trie_decode_codes (root : TDict) (cs : List (Bytes × Nat))
    (hcs : ∀ e ∈ cs, walk root e.1 = some (.leaf e.2)) :
    trieDecode root (cs.map (·.1)).flatten = cs.map (·.2) := by
  simpa using trie_decode_spec root cs [] root hcs rfl

/-- A trie built by `FileCMap.add_code2cid` from a prefix-free code table has the table's codes: every entry is a
code with its CID (the converse, that a byte sequence related to no entry finds nothing, is the second half of
`buildTrie_walk` and is not restated here) … -/
theorem trie_build_codes (tab : List (Bytes × Nat)) (t : TDict) (hp : PrefixFree tab)
    (hb : buildTrie tab [] = .ok t) : ∀ e ∈ tab, walk t e.1 = some (.leaf e.2) :=
  (buildTrie_walk tab [] t hp hb).1

/-- … hence a string made of codes of the table decodes, with the trie built from the table, to their CIDs
(segmentation by the flat code table = `CMap.decode` on the built trie). -/
theorem trie_build_decode (tab : List (Bytes × Nat)) (t : TDict) (hp : PrefixFree tab)
    (hb : buildTrie tab [] = .ok t) (cs : List (Bytes × Nat)) (hcs : ∀ e ∈ cs, e ∈ tab) :
    trieDecode t (cs.map (·.1)).flatten = cs.map (·.2) :=
  trie_decode_codes t cs (fun e he => trie_build_codes tab t hp hb e (hcs e he))

/-- non-vacuity: a mixed one/two-byte CMap (0x41 ↦ 1, 0x81 0x40 ↦ 7), string `41 8140 41 81`. -/
example :
    let root : TDict := [(0x41, .leaf 1), (0x81, .node [(0x40, .leaf 7)])]
    trieDecode root [0x41, 0x81, 0x40, 0x41, 0x81] = [1, 7, 1] := by decide +kernel

/-! ## ToUnicode CMaps: parsed map = specified map -/

/-- Full statement for ToUnicode: for every program of bfchar / bfrange sections in the domain
(`inDomain`: start and end codes of a range have equal length, an incremented destination is
non-empty and its last `min 4 len` bytes do not overflow, no code is redefined from U+0020 to U+00A0),
running `CMapParser` on the CMap's tokens yields exactly the specified map: every bfchar pair, every
bfrange increment (carry form) and every bfrange array element, later definitions overriding
earlier ones. -/
theorem tounicode_parse_spec (secs : List Sec) (h : inDomain secs = true) :
    parseToUnicode (render secs) = .ok (specMap secs) := by
  rw [parse_render secs (Bool.and_eq_true_iff.mp h).1, putAll_specPairs secs h]

/-- Without the U+00A0 hypothesis: the parsed map is the sequence of `add_cid2unichr` assignments of the
specified pairs (the assignment ignores U+00A0 for a code that currently maps to a space). -/
theorem tounicode_parse_assignments (secs : List Sec) (h : secs.all secOk = true) :
    parseToUnicode (render secs) = .ok (putAll (specPairs secs) []) :=
  parse_render secs h

/-- bfchar: each `<src> <dst>` pair of one section maps code `src` to the UTF-16BE text `dst`
(handler level, any prior map `m`). -/
theorem bfchar_map (es : List (Bytes × Bytes)) (m : UMap) :
    foldEntries bfcharEntry (chop2 (es.flatMap (fun e => [Tok.str e.1, Tok.str e.2]))) m
      = .ok (putAll (es.map (fun e => ((nunpack e.1 : Int), utf16Ignore e.2))) m) :=
  bfchar_fold es m

/-- bfrange, both forms (handler level): `<lo> <hi> <dst>` maps code `lo + i` to `dst` with its last
`min 4 len` bytes incremented by `i` as a big-endian number; `<lo> <hi> [d0 d1 …]` maps `lo + i` to `dᵢ`. -/
theorem bfrange_map (es : List REntry) (m : UMap) (h : es.all entryOk = true) :
    foldEntries bfrangeEntry (chop3 (es.flatMap renderREntry)) m = .ok (putAll (es.flatMap rangePairs) m) :=
  bfrange_fold es m h

/-- bfrange increment in ISO 32000-1 9.10.3 wording ("the last byte of the string shall be incremented"):
wherever that is defined (the last byte does not pass 0xFF), the carry form used by `specMap` — and by
`tounicode_parse_spec`, hence by the parser — is exactly that string. -/
theorem bfrange_inc (d x : Bytes) (k : Nat) (h : incLast d k = some x) : incBE d k = x := by
  rcases List.eq_nil_or_concat d with rfl | ⟨init, b, rfl⟩
  · cases h
  · rw [List.concat_eq_append] at h ⊢
    simp only [incLast, List.getLast?_concat, List.dropLast_concat] at h
    split at h
    next hb => cases h; exact incBE_snoc init b k hb
    next => cases h

/-- … so for a range whose last byte never overflows, every code `lo + i` gets the destination with only its
last byte incremented by `i`. -/
theorem bfrange_inc_pairs (lo hi d : Bytes) (hov : ∀ i, i < nunpack hi + 1 - nunpack lo → (incLast d i).isSome) :
    rangePairs ⟨lo, hi, .inc d⟩ =
      (List.range (nunpack hi + 1 - nunpack lo)).map
        (fun i => (((nunpack lo + i : Nat) : Int), utf16Ignore ((incLast d i).getD []))) := by
  simp only [rangePairs]
  apply List.map_congr_left
  intro i hi'
  have hlt := List.mem_range.mp hi'
  obtain ⟨x, hx⟩ := Option.isSome_iff_exists.mp (hov i hlt)
  rw [bfrange_inc d x i hx, hx]
  rfl

example : incLast [0x30, 0x42] 3 = some [0x30, 0x45] ∧ incBE [0x30, 0x42] 3 = [0x30, 0x45] ∧
    incLast [0x00, 0xFE] 2 = none ∧ incBE [0x00, 0xFE] 2 = [0x01, 0x00] := by decide +kernel

/-- non-vacuity: a program with a bfchar section (1- and 2-byte sources, a surrogate pair target), a
bfrange increment that carries out of the low byte, and an array. -/
def exampleSecs : List Sec :=
  [.chars [([0x41], [0x00, 0x41]), ([0x00, 0x02], [0xD8, 0x3D, 0xDE, 0x00])],
   .ranges [⟨[0x00, 0x10], [0x00, 0x12], .inc [0x00, 0xFE]⟩,
            ⟨[0x00, 0x20], [0x00, 0x21], .arr [[0x30, 0x42], [0x00, 0x66, 0x00, 0x69]]⟩]]

example : inDomain exampleSecs = true := by decide +kernel
example : (parseToUnicode (render exampleSecs)).toOption = some
    [(0x21, [0x66, 0x69]), (0x20, [0x3042]), (0x12, [0x100]), (0x11, [0xFF]), (0x10, [0xFE]),
     (2, [0x1F600]), (0x41, [0x41])] := by decide +kernel

/-- code 1 is first given U+0020, then U+00A0. -/
def nbspSecs : List Sec := [.chars [([0x01], [0x00, 0x20]), ([0x01], [0x00, 0xA0])]]

/-- The U+00A0 rule of `add_cid2unichr` is real: outside `inDomain` the parsed map differs from the
specified one (the later definition is ignored). -/
theorem tounicode_nbsp_cex :
    inDomain nbspSecs = false ∧ (parseToUnicode (render nbspSecs)).toOption ≠ some (specMap nbspSecs) := by
  decide +kernel

/-! ## Widths: W / DW -/

/-- For any interleaving of the two `W` syntaxes (`c [w1 w2 …]` and `c1 c2 w`, integer cids, integer or
real widths, cid 0 included), `get_widths` builds exactly the specified dictionary. -/
theorem widths_map_spec (es : List WEntry) :
    getWidths (renderW es) = toWMap (specWidthPairs es).reverse := by
  rw [getWidths, widths_fold es [], List.append_nil]

/-- … and the width used for a cid is the latest `W` entry covering it, else `DW`, else 1000
(the default is the constant regenerated from pdffont.py). -/
theorem widths_spec (es : List WEntry) (dw : Option Rat) (cid : Nat) :
    glyphWidth (getWidths (renderW es)) dw cid = specWidth es dw cid := by
  rw [widths_map_spec, glyphWidth_toWMap]
  rfl

/-- non-vacuity: `[1 [500 600] 10 12 700 0 [5] 1 1 250.5]`, cid 1 is redefined by the last entry. -/
def exampleW : List WEntry :=
  [.list 1 [(500, true), (600, true)], .range 10 12 (700, true), .list 0 [(5, true)], .range 1 1 (501 / 2, false)]

example : (List.range 14).map (specWidth exampleW none) =
    [5, 501 / 2, 600, 1000, 1000, 1000, 1000, 1000, 1000, 1000, 700, 700, 700, 1000] := by decide +kernel

/-! ## Vertical metrics: W2 / DW2 -/

/-- For any interleaving of the two `W2` syntaxes (`c [w1y vx vy …]` and `c1 c2 w1y vx vy`), `get_widths2`
succeeds and builds exactly the specified dictionary. -/
theorem widths2_map_spec (es : List W2Entry) :
    getWidths2 (renderW2 es) = .ok (toW2Map (specWidth2Pairs es).reverse) := by
  rw [getWidths2, widths2_fold es [], List.append_nil]

/-- The vertical advance `w1y` used for a cid is the latest `W2` entry covering it, else `DW2[1]`, else
−1000 (default regenerated from pdffont.py). -/
theorem widths2_spec (es : List W2Entry) (dw2 : Option (Rat × Rat)) (cid : Nat) :
    (getWidths2 (renderW2 es)).toOption.map (fun m => glyphWidthV m dw2 cid) = some (specWidthV es dw2 cid) := by
  rw [widths2_map_spec]
  exact congrArg some (glyphWidthV_toW2Map _ dw2 cid)

/-- Vertical placement: the position vector used for a cid is the one of the font's own latest `W2` entry
covering it, else the default `(none, DW2[0])` with 880 when `DW2` is absent (a function of this font's
arrays only). -/
theorem disp2_spec (es : List W2Entry) (dw2 : Option (Rat × Rat)) (cid : Nat) :
    (getWidths2 (renderW2 es)).toOption.map (fun m => glyphDispV m dw2 cid) = some (specDispV es dw2 cid) := by
  rw [widths2_map_spec]
  exact congrArg some (glyphDispV_toW2Map _ dw2 cid)

/-- non-vacuity: `[1 [-500 250 800 -600 300 810] 10 12 -700 500 880]`. -/
def exampleW2 : List W2Entry :=
  [.list 1 [((-500, true), (250, true), (800, true)), ((-600, true), (300, true), (810, true))],
   .range 10 12 ((-700, true), (500, true), (880, true))]

example : (List.range 13).map (specWidthV exampleW2 (some (880, -900))) =
    [-900, -500, -600, -900, -900, -900, -900, -900, -900, -900, -700, -700, -700] := by decide +kernel

example : specDispV exampleW2 none 2 = (some 300, 810) ∧ specDispV exampleW2 none 3 = (none, 880) ∧
    specDispV exampleW2 (some (800, -900)) 65535 = (none, 800) := by decide +kernel

/-! ## Advances (pen movement) -/

/-- Vertical writing: after showing the cids `cs` at pen `(x, y)` the pen is at
`(x, y + Σ w1y(c)/1000 · fs)` (`w1y` from W2/DW2, negative = downwards); x does not move. -/
theorem vertical_advance (fs : Rat) (w : Nat → Rat) (cs : List Nat) (x y : Rat) :
    (showCids true fs w cs (x, y)).2 = (x, y + advSum fs w cs) := by
  simpa using showCids_snd true fs w cs x y

/-- Horizontal writing: the pen moves by `Σ w(c)/1000 · fs` in x. -/
theorem horizontal_advance (fs : Rat) (w : Nat → Rat) (cs : List Nat) (x y : Rat) :
    (showCids false fs w cs (x, y)).2 = (x + advSum fs w cs, y) := by
  simpa using showCids_snd false fs w cs x y

/-- Every glyph is placed at the pen position reached after the glyphs before it, with advance
`w(c)/1000 · fs`: the glyphs of `a ++ c :: b` are those of `a`, then `c` at the pen after `a`. -/
theorem glyph_placement (v : Bool) (fs : Rat) (w : Nat → Rat) (a b : List Nat) (c : Nat) (p : Rat × Rat) :
    (showCids v fs w (a ++ c :: b) p).1 =
      (showCids v fs w a p).1 ++
        ⟨c, (showCids v fs w a p).2.1, (showCids v fs w a p).2.2, w c * (1 / 1000) * fs⟩ ::
          (showCids v fs w b (showCids v fs w [c] (showCids v fs w a p).2).2).1 := by
  rw [showCids_append]
  simp only
  congr 1

/-- Two instances of the default case of the model's vertical width function: with no `W2` entry and no `DW2` the
regenerated default −1000, with `DW2 = [800, −900]` its second number.  (For every `W2` and `DW2`:
`widths2_spec`.) -/
theorem vertical_default (cid : Nat) : glyphWidthV [] none cid = -1000 ∧ glyphWidthV [] (some (800, -900)) cid = -900 :=
  ⟨rfl, rfl⟩

/-! ## Ill-formed arrays, `PDFCIDFont.__init__` glue, cidchar / cidrange / codespace sections -/

/-- `get_widths2` is total: on EVERY element list (ill-formed arrays included: stray lists, non-numbers,
real-valued or reversed range ends, truncated groups) it returns a dictionary, never an exception.
(`get_widths` is total by its type: `getWidths : List WElem → WMap`.) -/
theorem widths2_total (seq : List WElem) : ∃ m, getWidths2 seq = .ok m :=
  getWidths2Aux_total seq _

/-- … hence every CID font has a width and a displacement for every cid, whatever `W`, `DW`, `W2`, `DW2` hold. -/
theorem cidfont_metrics_total (v : Bool) (w : List WElem) (dw : Option WVal) (w2 : List WElem)
    (dw2 : Option (List WVal)) (cid : Nat) :
    (∃ r, cidCharWidth v w dw w2 dw2 cid = .ok r) ∧ ∃ d, cidCharDisp v w2 dw2 cid = .ok d := by
  obtain ⟨m, hm⟩ := widths2_total w2
  cases v <;> simp [cidCharWidth, cidCharDisp, hm]

/-- The number a `DW` entry contributes: itself when it is a number, nothing otherwise. -/
def dwNumber : Option WVal → Option Rat
  | some (.num v) => some v
  | _ => none

/-- The pair a `DW2` entry contributes: a list of exactly two numbers, nothing otherwise. -/
def dw2Pair : Option (List WVal) → Option (Rat × Rat)
  | some [.num vy, .num w] => some (vy, w)
  | _ => none

theorem dw2Value_eq (d : Option (List WVal)) : dw2Value d = (dw2Pair d).getD Gen.CIDFont.DW2_DEFAULT := by
  unfold dw2Value dw2Pair
  split <;> simp

/-- `PDFCIDFont.char_width` of a horizontal font, from the font dictionary: the latest `W` entry covering the cid,
else `DW` when `DW` is a number, else 1000 — for every well-formed `W`, EVERY value of `DW` (absent, number, any other
object), and independently of `W2` / `DW2`. -/
theorem cidfont_width_spec (es : List WEntry) (dw : Option WVal) (w2 : List WElem) (dw2 : Option (List WVal))
    (cid : Nat) : cidCharWidth false (renderW es) dw w2 dw2 cid = .ok (specWidth es (dwNumber dw) cid) := by
  have hdw : (some (dwValue dw)).getD 1000 = (dwNumber dw).getD 1000 := by
    cases dw with
    | none => rfl
    | some v => cases v <;> rfl
  simp only [cidCharWidth, Bool.false_eq_true, if_false, widths_spec, specWidth, hdw]

/-- The same for a vertical font: advance `w1y` and position vector come from the latest `W2` entry, else from `DW2`
when that is a list of exactly two numbers, else from the regenerated default `[880 -1000]`; `W` / `DW` are not read. -/
theorem cidfont_width2_spec (es : List W2Entry) (w : List WElem) (dw : Option WVal) (dw2 : Option (List WVal))
    (cid : Nat) :
    cidCharWidth true w dw (renderW2 es) dw2 cid = .ok (specWidthV es (dw2Pair dw2) cid) ∧
    cidCharDisp true (renderW2 es) dw2 cid =
      .ok (.vec (specDispV es (dw2Pair dw2) cid).1 (specDispV es (dw2Pair dw2) cid).2) := by
  simp only [cidCharWidth, cidCharDisp, if_true, widths2_map_spec, glyphWidthV_toW2Map, glyphDispV_toW2Map, dw2Value_eq]
  exact ⟨rfl, rfl⟩

/-- The writing mode of the encoding CMap alone decides which arrays are read: a horizontal font ignores
`W2` / `DW2` and has displacement 0, a vertical font ignores `W` / `DW`. -/
theorem writing_mode_selects_arrays (w w' : List WElem) (dw dw' : Option WVal) (w2 w2' : List WElem)
    (dw2 dw2' : Option (List WVal)) (cid : Nat) :
    cidCharWidth false w dw w2 dw2 cid = cidCharWidth false w dw w2' dw2' cid ∧
    cidCharWidth true w dw w2 dw2 cid = cidCharWidth true w' dw' w2 dw2 cid ∧
    cidCharDisp false w2 dw2 cid = .ok .zero :=
  ⟨rfl, rfl, rfl⟩

/-- `cidcoding` (the key of the collection's CID → Unicode table): Registry and Ordering with surrounding white
space removed, joined by `-`. -/
theorem cidcoding_spec (a1 r b1 a2 o b2 : Bytes)
    (hs : ∀ c ∈ a1 ++ b1 ++ a2 ++ b2, isPySpace c = true)
    (hr : (∀ x, r.head? = some x → isPySpace x = false) ∧ ∀ x, r.getLast? = some x → isPySpace x = false)
    (ho : (∀ x, o.head? = some x → isPySpace x = false) ∧ ∀ x, o.getLast? = some x → isPySpace x = false) :
    cidCoding (some (a1 ++ r ++ b1)) (some (a2 ++ o ++ b2)) = r ++ [45] ++ o := by
  simp only [cidCoding, Option.getD_some, Gen.CIDFont.CIDCODING_SEP]
  rw [pyStrip_pad a1 r b1 (fun c hc => hs c (by simp [hc])) (fun c hc => hs c (by simp [hc])) hr.1 hr.2,
    pyStrip_pad a2 o b2 (fun c hc => hs c (by simp [hc])) (fun c hc => hs c (by simp [hc])) ho.1 ho.2]

/-- The keywords the model treats as "discard the operands" are exactly the `self.popall(); return` branches of
`CMapParser.do_keyword`, regenerated from cmapdb.py on every run (an edit there breaks this proof, and with it
`codespace_ignored`'s link to the code). -/
theorem popall_keywords_tied : popallKeywords = Gen.CIDFont.POPALL_KEYWORDS := rfl

/-- From the raw `CIDSystemInfo`: a font without ToUnicode whose Registry / Ordering — written with any surrounding
white space — name a collection that is not served by the TrueType cmap reads the table `Registry-Ordering` of the
writing mode of its encoding CMap. -/
theorem unicode_map_from_cidsysteminfo (a1 r b1 a2 o b2 : Bytes) (enc : String) (hasTTF v : Bool)
    (hs : ∀ c ∈ a1 ++ b1 ++ a2 ++ b2, isPySpace c = true)
    (hr : (∀ x, r.head? = some x → isPySpace x = false) ∧ ∀ x, r.getLast? = some x → isPySpace x = false)
    (ho : (∀ x, o.head? = some x → isPySpace x = false) ∧ ∀ x, o.getLast? = some x → isPySpace x = false)
    (hn : Gen.CIDFont.TTF_CODINGS.contains (latin1 (r ++ [45] ++ o)) = false) :
    fontUnicodeMap .absent (some (a1 ++ r ++ b1)) (some (a2 ++ o ++ b2)) enc hasTTF v true
      = .collection (latin1 (r ++ [45] ++ o)) v := by
  unfold fontUnicodeMap
  rw [cidcoding_spec a1 r b1 a2 o b2 hs hr ho]
  exact collection_map_follows_wmode _ _ _ _ _ hn

example : fontUnicodeMap .absent (some [32, 65, 100, 111, 98, 101]) (some [74, 97, 112, 97, 110, 49, 10]) "90ms-RKSJ-V"
    false true true = .collection "Adobe-Japan1" true := by decide +kernel

/-- A missing or ill-typed Registry / Ordering reads as `unknown`. -/
theorem cidcoding_unknown : cidCoding none none = unknownBytes ++ [45] ++ unknownBytes := by decide +kernel

/-- cidchar (handler level, any prior map): each `cid <code>` pair gives `cid ↦` the UTF-16BE text of the string. -/
theorem cidchar_map (es : List (Int × Bytes)) (m : UMap) :
    foldEntries cidcharEntry (chop2 (es.flatMap (fun e => [Tok.int e.1, Tok.str e.2]))) m
      = .ok (putAll (es.map (fun e => (e.1, utf16Ignore e.2))) m) :=
  foldEntries_pairs cidcharEntry _ _ _ (fun _ _ => rfl) es m

/-- cidrange (handler level): `<lo> <hi> cid` with codes of equal length that agree before their last four bytes
gives `cid + i ↦` text of the code `lo + i` (carry form over the last `min 4 len` bytes), for every `i` up to
`hi − lo`; no exception for any such entry (codes of any length, negative cids included). -/
theorem cidrange_map (lo hi : Bytes) (cid : Int) (m : UMap) (hlen : lo.length = hi.length) (hne : lo ≠ [])
    (hpre : dropLast4 lo = dropLast4 hi) :
    cidrangeEntry m (Tok.str lo, Tok.str hi, Tok.int cid) = .ok (putAll
      ((List.range (nunpack (takeLast 4 hi) + 1 - nunpack (takeLast 4 lo))).map
        (fun i => (cid + ((i : Nat) : Int), utf16Ignore (incBE lo i)))) m) := by
  -- both ends are below `256 ^ (their common length) ≤ 2 ^ 32`: no `struct.error` in the loop
  have hpow := pow256_le _ (takeLast4_length lo).1
  have hs := nunpack_lt (takeLast 4 lo)
  have he := nunpack_lt (takeLast 4 hi)
  have hlen4 : (takeLast 4 hi).length = (takeLast 4 lo).length := by
    simp only [takeLast, show (4 : Nat) ≠ 0 by decide, if_false, List.length_drop, hlen]
  rw [hlen4] at he
  simp only [cidrangeEntry, hlen, hpre, ne_eq, not_true_eq_false, if_false]
  rw [← hpre]
  exact rangeLoop_incBE lo hne cid _ m (by omega)

/-- Codespace ranges — of one width or of several (`<00> <80> <8140> <9FFC> …`) — and notdef ranges have no effect
on the parsed map: whatever operands stand between the keywords, the section leaves the map as it was and the
operand stack empty. -/
theorem codespace_ignored (ops : List Tok) (hops : ops.all notKw = true) (st : PState) (hc : st.inCmap = true) :
    runToks (Tok.kw "begincodespacerange" :: ops ++ [Tok.kw "endcodespacerange"]) st = .ok { st with stack := [] } ∧
    runToks (Tok.kw "beginnotdefrange" :: ops ++ [Tok.kw "endnotdefrange"]) st = .ok { st with stack := [] } := by
  obtain ⟨s, c, m⟩ := st
  simp only at hc
  subst hc
  constructor <;>
    exact (runToks_section [] ops rfl hops _ _ (by simp [popallKeywords]) s m).trans
      (doKw_popall _ (by simp [popallKeywords]) _ m)

/-- `/Name usecmap` and `/Key value def` inside a ToUnicode CMap change neither the map nor (net) the operand stack:
the parser pops the operands and goes on (`use_cmap` / `set_attr` do not touch `cid2unichr`). -/
theorem usecmap_def_ignored (n k : Bytes) (v : Tok) (hv : notKw v = true) (st : PState) (hc : st.inCmap = true) :
    runToks [Tok.name n, Tok.kw "usecmap"] st = .ok st ∧ runToks [Tok.name k, v, Tok.kw "def"] st = .ok st := by
  obtain ⟨stack, inCmap, map⟩ := st
  simp only at hc
  subst hc
  constructor
  · exact (runToks_ops_kw [.name n] rfl _ _).trans (by simp [doKeyword])
  · exact (runToks_ops_kw [.name k, v] (by rw [List.all_cons, List.all_cons, List.all_nil, hv]; rfl) _ _).trans
      (by simp [doKeyword])

example : (parseToUnicode [.name [72], .kw "usecmap", .name [87], .int 1, .kw "def", .str [0x41], .str [0, 0x42],
    .kw "endbfchar"]).toOption = some [(0x41, [0x42])] := by decide +kernel

/-- non-vacuity: an ill-formed W2 array (stray list, non-number, real range end, incomplete triple) still parses. -/
example : (getWidths2 [.list [.num 1], .other, .num 1 true, .list [.num (-5), .other, .num 2, .num 7],
    .num 3 true, .num (5 / 2) false, .num 1 true, .num 2 true, .num 3 true, .num 9 true]).toOption = some [] := by
  decide +kernel

/-- non-vacuity: ill-typed `DW` falls back to 1000, a numeric one is used, `W2`/`DW2` are irrelevant. -/
example : (cidCharWidth false (renderW exampleW) (some .other) [.other] (some []) 3).toOption = some 1000 ∧
    (cidCharWidth false (renderW exampleW) (some (.num 250)) [] none 3).toOption = some 250 ∧
    (cidCharWidth false (renderW exampleW) none [] none 2).toOption = some 600 := by decide +kernel

example : (cidCharWidth true [] none (renderW2 exampleW2) (some [.num 700, .num (-800), .num 1]) 3).toOption = some (-1000) ∧
    (cidCharWidth true [] none (renderW2 exampleW2) (some [.num 700, .num (-800)]) 3).toOption = some (-800) ∧
    (cidCharDisp true (renderW2 exampleW2) (some [.num 700, .other]) 3).toOption = some (.vec none 880) ∧
    (cidCharDisp true (renderW2 exampleW2) none 2).toOption = some (.vec (some 300) 810) := by decide +kernel

/-- non-vacuity: `" Adobe "` / `"\tJapan1\n"` ↦ `Adobe-Japan1`. -/
example : cidCoding (some ([32] ++ [65, 100, 111, 98, 101] ++ [32])) (some ([9] ++ [74, 97, 112, 97, 110, 49] ++ [10]))
    = [65, 100, 111, 98, 101, 45, 74, 97, 112, 97, 110, 49] := by decide +kernel

/-- non-vacuity: a cidrange that carries out of the low byte, a cidchar pair, a two-width codespace section. -/
example : (parseToUnicode [.kw "begincodespacerange", .str [0], .str [0x80], .str [0x81, 0x40], .str [0x9F, 0xFC],
      .kw "endcodespacerange", .str [0x30, 0xFF], .str [0x31, 0x01], .int 7, .kw "endcidrange",
      .int 3, .str [0x00, 0x41], .kw "endcidchar"]).toOption
    = some [(3, [0x41]), (9, [0x3101]), (8, [0x3100]), (7, [0x30FF])] := by decide +kernel

/-! ## ToUnicode CMaps from the BYTES of the stream -/

/-- From bytes, not tokens: take any program of bfchar / bfrange sections in the domain, write each section's count
as ANY digit string (`cntOK`; the parser discards it), write the CMap file — header, sections, trailer — object by
object (hex strings in hexadecimal, integers in decimal, `/Name`s, keywords, arrays of hex strings) with ANY non-empty
separator `g` of white space and comments after every object; then the tokenizer (`Lexer.specLex`, the model proved
equal to the buffered `PSBaseParser` for every buffer size in C14), the object grouping of `PSStackParser.nextobject`
(`groupToks`) and `CMapParser` together yield exactly the specified map. -/
theorem tounicode_bytes_spec (g : List SepItem) (hg : sepOK g) (hne : g ≠ []) (ps : List CSec)
    (hc : ps.all (fun p => cntOK p.1) = true) (h : inDomain (ps.map (·.2)) = true) :
    parseToUnicodeBytes ((progS ps).flatMap (STok.spell (renderSep g))) = some (.ok (specMap (ps.map (·.2)))) := by
  unfold parseToUnicodeBytes
  rw [group_lex_prog g hg hne ps hc, Option.map_some, parse_renderN ps (Bool.and_eq_true_iff.mp h).1,
    putAll_specPairs _ h]

/-- The same without the U+00A0 hypothesis (result as the sequence of `add_cid2unichr` assignments). -/
theorem tounicode_bytes_assignments (g : List SepItem) (hg : sepOK g) (hne : g ≠ []) (ps : List CSec)
    (hc : ps.all (fun p => cntOK p.1) = true) (h : (ps.map (·.2)).all secOk = true) :
    parseToUnicodeBytes ((progS ps).flatMap (STok.spell (renderSep g)))
      = some (.ok (putAll (specPairs (ps.map (·.2))) [])) := by
  unfold parseToUnicodeBytes
  rw [group_lex_prog g hg hne ps hc, Option.map_some, parse_renderN ps h]

/-- The grouping of `PSStackParser.nextobject` inverts the flattening of objects into tokens: for every sequence of
strings, integers, names, reals, non-bracket keywords and flat arrays. -/
theorem stackparser_groups_objects (bts : List BTok) (h : bts.all BTok.plain = true) :
    groupToks (bts.flatMap BTok.flat) = some (bts.map BTok.toTok) :=
  groupToks_flat bts h

/-- non-vacuity of the hypotheses: counts `2`, `007`; separator = a space, a comment, a newline. -/
def exampleCSecs : List CSec :=
  [([50], .chars [([0x41], [0x00, 0x41]), ([0x00, 0x02], [0xD8, 0x3D, 0xDE, 0x00])]),
   ([48, 48, 55], .ranges [⟨[0x00, 0x10], [0x00, 0x12], .inc [0x00, 0xFE]⟩,
                           ⟨[0x00, 0x20], [0x00, 0x21], .arr [[0x30, 0x42], [0x00, 0x66, 0x00, 0x69]]⟩])]

example : sepOK [.ws 32, .comment [99, 32, 60] 13, .ws 10] ∧ exampleCSecs.all (fun p => cntOK p.1) = true ∧
    inDomain (exampleCSecs.map (·.2)) = true := by
  simp only [sepOK, List.forall_mem_cons, Lexer.SepItem.ok, List.not_mem_nil, false_implies, implies_true]
  decide +kernel

/-- … and the byte-level model computes on a stream in quite another spelling (minimal delimiters, upper-case hex
with inner white space, a literal string with octal escapes, comments, CR / LF):
`… 2 beginbfchar <41> <0041> <0002>(\330=\336\000) endbfchar 1 beginbfrange<0010><0012>[<3042><00660069>]endbfrange …`. -/
example : (parseToUnicodeBytes [47, 67, 73, 68, 73, 110, 105, 116, 32, 47, 80, 114, 111, 99, 83, 101, 116, 32, 102, 105, 110, 100, 114, 101, 115, 111, 117, 114, 99, 101, 32, 98, 101, 103, 105, 110, 32, 49, 50, 32, 100, 105, 99, 116, 32, 98, 101, 103, 105, 110, 32, 98, 101, 103, 105, 110, 99, 109, 97, 112, 32, 47, 67, 77, 97, 112, 78, 97, 109, 101, 47, 65, 100, 111, 98, 101, 45, 73, 100, 101, 110, 116, 105, 116, 121, 45, 85, 67, 83, 32, 100, 101, 102, 10, 49, 32, 98, 101, 103, 105, 110, 99, 111, 100, 101, 115, 112, 97, 99, 101, 114, 97, 110, 103, 101, 60, 48, 48, 48, 48, 62, 60, 70, 70, 32, 70, 70, 62, 101, 110, 100, 99, 111, 100, 101, 115, 112, 97, 99, 101, 114, 97, 110, 103, 101, 32, 37, 32, 116, 119, 111, 13, 50, 32, 98, 101, 103, 105, 110, 98, 102, 99, 104, 97, 114, 32, 60, 52, 49, 62, 32, 60, 48, 48, 52, 49, 62, 32, 60, 48, 48, 48, 50, 62, 40, 92, 51, 51, 48, 61, 92, 51, 51, 54, 92, 48, 48, 48, 41, 32, 101, 110, 100, 98, 102, 99, 104, 97, 114, 10, 49, 32, 98, 101, 103, 105, 110, 98, 102, 114, 97, 110, 103, 101, 60, 48, 48, 49, 48, 62, 60, 48, 48, 49, 50, 62, 91, 60, 51, 48, 52, 50, 62, 60, 48, 48, 54, 54, 48, 48, 54, 57, 62, 93, 101, 110, 100, 98, 102, 114, 97, 110, 103, 101, 32, 101, 110, 100, 99, 109, 97, 112, 32, 101, 110, 100, 32, 101, 110, 100]
    ).map Except.toOption = some (some [(0x11, [0x66, 0x69]), (0x10, [0x3042]), (2, [0x1F600]), (0x41, [0x41])]) := by
  decide +kernel

/-! ## ToUnicode is consulted with the CID (open finding `tounicode-keyed-by-cid`) -/

/-- What ISO 32000-1 9.10.3 demands: the text of each character CODE of the string, looked up in the ToUnicode map
by the code. -/
def specText (codes : List Bytes) (m : UMap) : List (Option (List Nat)) := codes.map (fun c => m.lookup (nunpack c : Int))

/-- `_partial`: holds for the identity CMaps only (Identity-H/V, DLIdent-H/V), where the CID **is** the code: the
text of every shown string is the ToUnicode text of its two-byte codes.  Missing: every table CMap (the predefined
CJK CMaps) — see `tounicode_keyed_by_cid_cex`. -/
theorem tounicode_text_identity_partial (m : UMap) (s : Bytes) :
    shownText identityDecode m s = (specIdentity 2 s).map (fun (code : Nat) => m.lookup (code : Int)) := by
  simp [shownText, toUnichr, identity_segment]

def cexRoot : TDict := [(0x82, .node [(0xA2, .leaf 845)])]
def cexMap : UMap := [(0x82A2, [0x3044])]

/-- Proved counter-example for the full statement (behaviour of the modelled version, finding `tounicode-keyed-by-cid`): with the
encoding 90ms-RKSJ-H (code `82A2` ↦ CID 845) and a ToUnicode CMap `<82A2> <3044>`, the shown string `82A2` gets no
text at all (`(cid:845)`), although its code is mapped to U+3044. -/
theorem tounicode_keyed_by_cid_cex :
    trieDecode cexRoot [0x82, 0xA2] = [845] ∧
    shownText (trieDecode cexRoot) cexMap [0x82, 0xA2] = [none] ∧ specText [[0x82, 0xA2]] cexMap = [some [0x3044]] := by
  decide +kernel

example : shownText identityDecode [(0x3042, [0x3042]), (0x41, [0x66, 0x69])] [0x00, 0x41, 0x30, 0x42, 0x00, 0x07]
    = [some [0x66, 0x69], some [0x3042], none] := by decide +kernel

/-! ## Word spacing never applies to a composite font's multi-byte codes -/

/-- Between glyph k and k+1 of a composite-font string the pen moves by `width(cid)·Tfs/1000 + Tc` (times Th when the
writing mode is horizontal) — for every cid, CID 32 included, and independently of the word spacing Tw
(ISO 32000-1 9.3.3: word spacing concerns the single-byte code 32 only).  Proved over the regenerated guard
`if font.is_multibyte(): wordspace = 0` of `render_string`. -/
theorem composite_advance_ignores_tw (v : Bool) (fs : Rat) (ts : TState) (w : Nat → Rat) (c : Nat) :
    penStep v true fs ts w c =
      if v then w c * (1 / 1000) * fs + ts.tc else (w c * (1 / 1000) * fs + ts.tc) * ts.th := by
  have hws : (if c = 32 then wordspaceOf true ts else 0) = 0 := by
    simp only [wordspaceOf, Gen.CIDFont.MULTIBYTE_ZEROES_WORDSPACE, Bool.and_self, if_true, ite_self]
  cases v <;> simp only [penStep, hws, Rat.add_zero, Rat.add_mul, Bool.false_eq_true, if_false, if_true]

/-- … hence the pen after a whole string does not depend on Tw either. -/
theorem composite_pen_ignores_tw (v : Bool) (fs : Rat) (tc tw tw' th : Rat) (w : Nat → Rat) (cs : List Nat) (p : Rat) :
    penAfter v true fs ⟨tc, tw, th⟩ w cs p = penAfter v true fs ⟨tc, tw', th⟩ w cs p := by
  induction cs generalizing p with
  | nil => rfl
  | cons c cs ih =>
    simp only [penAfter]
    rw [composite_advance_ignores_tw, composite_advance_ignores_tw, ih]

/-- non-vacuity: `<0041 0020 0042>` in a vertical font, widths −1000, Tw = 3: the pen ends at −30, not −27. -/
example : penAfter true true 10 ⟨0, 3, 1⟩ (fun _ => -1000) [0x41, 32, 0x42] 0 = -30 := by decide +kernel

end PdfVerif.Props.C07
