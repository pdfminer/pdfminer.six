/-
C04 — Page tree: order, inheritance, rotation/box normalisation, page selection.

Model: `PdfVerif.Model.PageTree` (hand model of pdfpage.py, tied to the implementation by the
correspondence check of tools/harness/props/c04.py) on top of `PdfVerif.Gen.PageTree`
(regenerated from pdfpage.py / pdfinterp.py / converter.py on every run).
Specification: `PdfVerif.Spec.PageTree`.
-/
import PdfVerif.Lemmas.PageOrder
import PdfVerif.Lemmas.PageSelect
import PdfVerif.Lemmas.PageDevice

namespace PdfVerif.Props.C04
open PdfVerif PdfVerif.PageTree PdfVerif.Gen.PageTree PdfVerif.Gen.Utils

/-- **Order.** If the object graph contains the page tree `t` (each node once, Kids = references to
the children) and `catalog["Pages"]` refers to its root, then `depth_first_search` yields exactly
the Page leaves of `t` in depth-first Kids order and ends without exception; the recursion budget
"number of nodes of the tree" is never exhausted. -/
theorem C04_order (g : Store) (t : PTree) (catalog : Dict) (fuel : Nat)
    (hE : Embeds g t) (hroot : dget catalog "Pages" = some (.atom (.ref t.id)))
    (hcat : ∀ k ∈ INHERITABLE_ATTRS, dget catalog k = none)
    (hnd : t.ids.Nodup) (hf : t.ids.length ≤ fuel) :
    (treeWalk g fuel catalog).err = none ∧
    (treeWalk g fuel catalog).pages.map (·.id) = (specLeaves t []).map (fun sp => some sp.1) := by
  have h := treeWalk_tree g t catalog fuel hE hroot hcat hnd hf
  refine ⟨h.err, ?_⟩
  have := congrArg (List.map Prod.fst) h.pages
  simpa [List.map_map, rawKey, specKey, Function.comp_def] using this

/-- **Inheritance.** Under the same hypotheses, for every page and every inheritable attribute
(the regenerated `INHERITABLE_ATTRS`), the overlaid dictionary handed to `PDFPage` holds the page's
own value or else that of its nearest ancestor defining it — at any depth. -/
theorem C04_inherit (g : Store) (t : PTree) (catalog : Dict) (fuel : Nat)
    (hE : Embeds g t) (hroot : dget catalog "Pages" = some (.atom (.ref t.id)))
    (hcat : ∀ k ∈ INHERITABLE_ATTRS, dget catalog k = none)
    (hnd : t.ids.Nodup) (hf : t.ids.length ≤ fuel) :
    (treeWalk g fuel catalog).pages.map (fun rp => (rp.id, INHERITABLE_ATTRS.map (dget rp.attrs))) =
      (specLeaves t []).map (fun sp => (some sp.1, INHERITABLE_ATTRS.map (inherited sp.2))) :=
  (treeWalk_tree g t catalog fuel hE hroot hcat hnd hf).pages

/-- **Pages.** Hence the `PDFPage` objects (Rotate reduced, boxes parsed/normalised/defaulted,
Resources) built by `create_pages` are exactly those the specification builds from
own-or-inherited attributes, in the same order (constructing a page raises nothing: ill-typed
boxes take the default). Needs all four attributes to be in `INHERITABLE_ATTRS`. -/
theorem C04_pages (g : Store) (t : PTree) (catalog : Dict) (fuel : Nat)
    (hE : Embeds g t) (hroot : dget catalog "Pages" = some (.atom (.ref t.id)))
    (hcat : ∀ k ∈ INHERITABLE_ATTRS, dget catalog k = none)
    (hnd : t.ids.Nodup) (hf : t.ids.length ≤ fuel) :
    finish (pageOfRaw g) (treeWalk g fuel catalog).pages (treeWalk g fuel catalog).err = specPages g t := by
  have h := treeWalk_tree g t catalog fuel hE hroot hcat hnd hf
  rw [h.err]
  exact finish_of_keys g none _ _ h.pages

/-- `create_pages` itself (with its fallback scan) on a tree that has at least one page. -/
theorem C04_create_pages (g : Store) (ids : List Nat) (t : PTree) (catalog : Dict) (fuel : Nat)
    (hE : Embeds g t) (hroot : dget catalog "Pages" = some (.atom (.ref t.id)))
    (hcat : ∀ k ∈ INHERITABLE_ATTRS, dget catalog k = none)
    (hnd : t.ids.Nodup) (hf : t.ids.length ≤ fuel) (hne : specLeaves t [] ≠ []) :
    createPages g ids fuel catalog = specPages g t := by
  have h := treeWalk_tree g t catalog fuel hE hroot hcat hnd hf
  have hp : (treeWalk g fuel catalog).pages.isEmpty = false :=
    List.isEmpty_eq_false_iff.mpr fun hl => hne (List.map_eq_nil_iff.mp (by rw [← h.pages, hl]; rfl))
  unfold createPages
  simp only [hp, Bool.false_and, Bool.false_eq_true, if_false]
  exact C04_pages g t catalog fuel hE hroot hcat hnd hf

/-- The documents which the driver's `spec.pages` operation accepts (`docTree`) satisfy the
hypotheses above: what the harness compares the implementation with is what the theorems are about. -/
theorem C04_driver_domain (g : Store) (ids : List Nat) (catalog : Dict) (fuel : Nat) (t : PTree)
    (h : docTree g fuel catalog = some t) (hf : t.ids.length ≤ fuel) (hne : specLeaves t [] ≠ []) :
    createPages g ids fuel catalog = specPages g t := by
  obtain ⟨hE, hroot, hcat, hnd⟩ := docTree_sound g fuel catalog t h
  exact C04_create_pages g ids t catalog fuel hE hroot hcat hnd hf hne

/-- With attributes in the catalog the walk inherits from it as from a page-tree node; the
hypothesis `hcat` above is needed. -/
theorem C04_catalog_attr_cex :
    let g : Store := [(2, .node [("Type", .atom (.name "Page"))])]
    let catalog : Dict := [("Pages", .atom (.ref 2)), ("Rotate", .atom (.int 90))]
    (createPages g [2] 2 catalog).1.map (·.rotate) = [90] ∧
    (specPages g (.page 2 [("Type", .atom (.name "Page"))])).1.map (·.rotate) = [0] := by
  decide +kernel

/-- Non-vacuity: a three-level tree (grandparent defines Rotate and MediaBox, parent Resources,
one page overrides Rotate) is contained in its graph, and both sides give these pages. -/
def exStore : Store :=
  [(2, .node [("Type", .atom (.name "Pages")), ("Kids", .arr [.atom (.ref 5), .atom (.ref 3)]),
      ("Rotate", .atom (.int (-90))),
      ("MediaBox", .arr [.atom (.int 0), .atom (.int 0), .atom (.ref 9), .atom (.int 100)])]),
   (3, .node [("Type", .atom (.name "Pages")), ("Kids", .atom (.ref 8)),
      ("Resources", .dict [("Marker", .atom (.int 7))])]),
   (8, .val (.arr [.atom (.ref 4)])),
   (9, .val (.atom (.int 200))),
   (4, .node [("Type", .atom (.name "Page"))]),
   (5, .node [("type", .atom (.name "Page")), ("Rotate", .atom (.int 450))])]

def exCatalog : Dict := [("Type", .atom (.name "Catalog")), ("Pages", .atom (.ref 2))]

example : ∃ t, docTree exStore 7 exCatalog = some t ∧ t.ids = [2, 5, 3, 4] ∧
    createPages exStore [2, 3, 4, 5, 8, 9] 7 exCatalog =
      ([⟨some 5, 90, (0, 0, 200, 100), (0, 0, 200, 100), none⟩,
        ⟨some 4, 270, (0, 0, 200, 100), (0, 0, 200, 100), some 7⟩], none) := by
  have h : (docTree exStore 7 exCatalog).map PTree.ids = some [2, 5, 3, 4] := by decide +kernel
  obtain ⟨t, ht, hids⟩ := Option.map_eq_some_iff.mp h
  exact ⟨t, ht, hids, by decide +kernel⟩

/-- **Termination.** On every object graph (any Kids: cycles, self loops, repeated or shared nodes,
dangling references, direct dictionaries) the walk with the visited set never exhausts the
recursion budget "number of objects + 1", never visits a node twice, and yields no object twice. -/
theorem C04_terminates (g : Store) (catalog : Dict) :
    (treeWalk g (g.length + 1) catalog).err ≠ some .fuel ∧
    (treeWalk g (g.length + 1) catalog).visited.Nodup ∧
    ((treeWalk g (g.length + 1) catalog).pages.filterMap (·.id)).Nodup := by
  have key : ∀ kid, (visit g (g.length + 1) kid catalog []).err ≠ some .fuel ∧
      (visit g (g.length + 1) kid catalog []).visited.Nodup ∧
      ((visit g (g.length + 1) kid catalog []).pages.filterMap (·.id)).Nodup := fun kid =>
    ⟨visit_fuel g _ kid catalog [] (Nat.lt_succ_of_le (unvisited_le g [])),
      (visit_from_empty g _ kid catalog).1, (visit_from_empty g _ kid catalog).2.2⟩
  fun_cases treeWalk g (g.length + 1) catalog
  case case2 | case3 => exact key _
  all_goals exact ⟨nofun, List.nodup_nil, List.nodup_nil⟩

/-- **Completeness and order on graphs.** For a root reference `r`, when the walk ends normally
(the only exception left is `PDFObjectNotFound` for an integer kid naming nothing):
everything reachable from `r` along Kids is visited, and the pages yielded (those that are
indirect objects) are exactly the visited Page nodes, each once, in the order of their first
visit. Hence every reachable Page is yielded exactly once. -/
theorem C04_graph (g : Store) (catalog : Dict) (r : Nat)
    (hroot : dget catalog "Pages" = some (.atom (.ref r)))
    (herr : (treeWalk g (g.length + 1) catalog).err = none) :
    let w := treeWalk g (g.length + 1) catalog
    (∀ n, Reach g r n → n ∈ w.visited) ∧
    w.pages.filterMap (·.id) = w.visited.reverse.filter (isPageNode g) ∧
    (∀ n, Reach g r n → isPageNode g n = true →
      (w.pages.filterMap (·.id)).count n = 1) := by
  simp only
  rw [treeWalk_ref g _ r catalog hroot] at herr ⊢
  have hreach := reach_visited g (g.length + 1) r catalog herr
  obtain ⟨_, hp, hnd⟩ := visit_from_empty g (g.length + 1) (.atom (.ref r)) catalog
  refine ⟨hreach, hp, fun n hr hpn => ?_⟩
  rw [hnd.count, if_pos]
  rw [hp]
  exact List.mem_filter.mpr ⟨List.mem_reverse.mpr (hreach n hr), hpn⟩

/-- **Inheritance on graphs.** Whatever the graph (shared nodes, cycles), every yielded page that is
an indirect object was reached along a chain of Kids entries from the root `r`, and each of its
inheritable attributes is its own or that of the nearest node on that chain defining it (the
chain on which the page is first reached). -/
theorem C04_graph_inherit (g : Store) (catalog : Dict) (r fuel : Nat)
    (hroot : dget catalog "Pages" = some (.atom (.ref r)))
    (hcat : ∀ k ∈ INHERITABLE_ATTRS, dget catalog k = none) :
    ∀ rp ∈ (treeWalk g fuel catalog).pages, ∀ p, rp.id = some p →
      ∃ path, path.head? = some p ∧ path.getLast? = some r ∧ IsChain g path ∧
        ∀ k ∈ INHERITABLE_ATTRS, dget rp.attrs k = inherited (path.map (nodeDict g)) k := by
  intro rp hrp p hp
  rw [treeWalk_ref g fuel r catalog hroot] at hrp
  obtain ⟨id, chain, hk, h1, ⟨pre, rfl⟩, h3, h4⟩ := visit_attrs g fuel (.atom (.ref r)) catalog [] []
    (fun k hk => by rw [hcat k hk]; rfl) (fun _ _ => trivial) rp hrp p hp
  cases hk
  exact ⟨pre ++ [r], h1, List.getLast?_concat, h3, h4⟩

/-- **Depth-first order on graphs, against an algorithm-independent specification.** Whatever the
Kids graph (shared nodes, repeated kids, cycles, self loops, direct dictionaries), when the walk
ends normally the indirect pages it yields are exactly `specOrder g r`: the Page nodes in the order
in which the depth-first enumeration of *all simple Kids paths* from the root first arrives at
them. That specification has no visited set and no state shared between branches (a branch ends
only where it would return to one of its own ancestors); the visited set of the code is shown to
be an optimisation that never changes the result. -/
theorem C04_graph_order (g : Store) (catalog : Dict) (r : Nat)
    (hroot : dget catalog "Pages" = some (.atom (.ref r)))
    (herr : (treeWalk g (g.length + 1) catalog).err = none) :
    (treeWalk g (g.length + 1) catalog).pages.filterMap (·.id) = specOrder g r := by
  rw [treeWalk_ref g _ r catalog hroot] at herr ⊢
  exact (visit_order g (g.length + 1) (.atom (.ref r)) catalog [] [] nofun (List.nil_subset _) herr).1

/-- The path budget of `specOrder` cuts no simple path: any larger budget lists the same. -/
theorem C04_path_budget (g : Store) (r d : Nat) :
    pathLeaves g (g.length + 1 + d) [] r = pathLeaves g (g.length + 1) [] r :=
  pathLeaves_stable g [] r d

/-- On a page tree the graph specification is the leaf order of the tree specification. -/
theorem C04_order_specs_agree (g : Store) (t : PTree) (catalog : Dict)
    (hE : Embeds g t) (hroot : dget catalog "Pages" = some (.atom (.ref t.id)))
    (hcat : ∀ k ∈ INHERITABLE_ATTRS, dget catalog k = none)
    (hnd : t.ids.Nodup) (hf : t.ids.length ≤ g.length + 1) :
    specOrder g t.id = (specLeaves t []).map (·.1) := by
  obtain ⟨he, hp⟩ := C04_order g t catalog (g.length + 1) hE hroot hcat hnd hf
  rw [← C04_graph_order g catalog t.id hroot he]
  have := congrArg (List.filterMap id) hp
  simpa only [List.filterMap_map, Function.comp_def, id, List.filterMap_eq_map'] using this

/-- A cycle `2 → 3 → 2` with pages hanging behind the point where it closes, and a Page (6) shared
by two nodes: the path enumeration arrives at 5 (below 3) before 4 and 6, as the walk does. -/
example :
    let g : Store :=
      [(2, .node [("Type", .atom (.name "Pages")), ("Kids", .arr [.atom (.ref 3), .atom (.ref 4), .atom (.ref 6)])]),
       (3, .node [("Type", .atom (.name "Pages")), ("Kids", .arr [.atom (.ref 2), .atom (.ref 5), .atom (.ref 6)])]),
       (4, .node [("Type", .atom (.name "Page"))]),
       (5, .node [("Type", .atom (.name "Page"))]),
       (6, .node [("Type", .atom (.name "Page"))])]
    pathLeaves g 6 [] 2 = [5, 6, 4, 6] ∧ specOrder g 2 = [5, 6, 4] ∧
    (treeWalk g 6 [("Pages", .atom (.ref 2))]).err = none ∧
    (treeWalk g 6 [("Pages", .atom (.ref 2))]).pages.map (·.id) = [some 5, some 6, some 4] := by
  decide +kernel

/-- A Page (6) shared by two Pages nodes with different Rotate: it is yielded once, with the Rotate
of the node through which it is reached first (3), not of the later one (4). -/
example :
    let g : Store :=
      [(2, .node [("Type", .atom (.name "Pages")), ("Kids", .arr [.atom (.ref 3), .atom (.ref 4)])]),
       (3, .node [("Type", .atom (.name "Pages")), ("Kids", .arr [.atom (.ref 6)]), ("Rotate", .atom (.int 90))]),
       (4, .node [("Type", .atom (.name "Pages")), ("Kids", .arr [.atom (.ref 6), .atom (.ref 7)]),
            ("Rotate", .atom (.int 180))]),
       (6, .node [("Type", .atom (.name "Page"))]),
       (7, .node [("Type", .atom (.name "Page"))])]
    (createPages g [2, 3, 4, 6, 7] 6 [("Pages", .atom (.ref 2))]).1.map (fun p => (p.id, p.rotate))
      = [(some 6, 90), (some 7, 180)] := by
  decide +kernel

/-- A two-node cycle with a repeated kid, a self loop, a direct Page dictionary and a direct Pages
dictionary in Kids: the walk ends, pages 3 and 5 come once, the direct Page is yielded without
object number, the direct Pages node is ignored. -/
example :
    let g : Store :=
      [(2, .node [("Type", .atom (.name "Pages")),
            ("Kids", .arr [.atom (.ref 3), .atom (.ref 2), .dict [("Type", .atom (.name "Page"))], .atom (.ref 3),
              .dict [("Type", .atom (.name "Pages")), ("Kids", .atom (.ref 2))], .atom (.ref 4)])]),
       (3, .node [("Type", .atom (.name "Page"))]),
       (4, .node [("Type", .atom (.name "Pages")), ("Kids", .arr [.atom (.ref 2), .atom (.ref 5)])]),
       (5, .node [("Type", .atom (.name "Page"))])]
    ((treeWalk g 5 [("Pages", .atom (.ref 2))]).pages.map (·.id),
     (treeWalk g 5 [("Pages", .atom (.ref 2))]).visited,
     (treeWalk g 5 [("Pages", .atom (.ref 2))]).err)
      = ([some 3, none, some 5], [5, 4, 3, 2], none) := by
  decide +kernel

/-- **Values nest to any depth.** A Page dictionary written directly into Kids — with a direct
MediaBox array, a direct Resources dictionary holding a direct Font dictionary — is yielded without
object number, its attributes being its own or the inherited ones; an array written into Kids is
ignored, whatever it contains. (Outside the property's domain; part of the model's value space.) -/
theorem C04_direct_kid (g : Store) (f : Nat) (kvs : Flat) (xs : List Val) (P : Dict) (vis : List Nat)
    (hty : isName (nodeType kvs) "Page" = true) :
    visit g (f + 1) (.dict kvs) P vis = ⟨[⟨none, overlay P kvs⟩], vis, none⟩ ∧
    visit g (f + 1) (.arr xs) P vis = ⟨[], vis, none⟩ := by
  have hne := isName_page_not_pages _ hty
  constructor
  · simp [visit, nodeOf, liftFlat, nodeType_overlay, hty, hne]
  · have h1 : nodeType (overlay P []) = none := by rw [nodeType_overlay]; rfl
    simp [visit, nodeOf, h1, isName]

example :
    let g : Store :=
      [(2, .node [("Type", .atom (.name "Pages")), ("Rotate", .atom (.int 90)),
            ("Kids", .arr [.arr [.atom (.ref 2)],
              .dict [("Type", .atom (.name "Page")),
                     ("MediaBox", .arr [.atom (.int 300), .atom (.int 2), .atom (.int 100), .atom (.int 10)]),
                     ("Resources", .dict [("Font", .dict [("F1", .atom (.ref 3))]), ("Marker", .atom (.int 7))])],
              .atom (.ref 5)])]),
       (5, .node [("Type", .atom (.name "Page")),
            ("CropBox", .arr [.atom (.int 0), .atom (.int 0), .arr [.atom (.int 1)], .atom (.int 9)])])]
    (createPages g [2, 5] 3 [("Pages", .atom (.ref 2))]).1 =
      [⟨none, 90, (100, 2, 300, 10), (100, 2, 300, 10), some 7⟩,
       ⟨some 5, 90, US_LETTER, US_LETTER, none⟩] := by
  decide +kernel

/-- `catalog["Pages"]` written as a direct Page dictionary: one page without object number. -/
example : (createPages [] [] 1 [("Pages", .dict [("Type", .atom (.name "Page")), ("Rotate", .atom (.int 90))])]).1.map
    (fun p => (p.id, p.rotate)) = [(none, 90)] := by decide +kernel

/-- **`resolve1` terminates.** The loop with the `seen` set never exhausts the budget "number of
objects + 1", whatever the chains of references (circular ones resolve to null). -/
theorem C04_resolve_total (g : Store) (v : Val) : resolveAux g (g.length + 1) [] v ≠ none :=
  resolveAux_total g _ [] v (Nat.lt_succ_of_le (unvisited_le g []))

example : resolve [(6, .val (.atom (.ref 7))), (7, .val (.atom (.ref 6)))] (.atom (.ref 6)) = .val (.atom .null) := by
  decide +kernel
example : resolve [(6, .val (.atom (.ref 7))), (7, .val (.atom (.ref 8))), (8, .val (.atom (.int 3)))]
    (.atom (.ref 6)) = .val (.atom (.int 3)) := by decide +kernel

/-- For every integer `Rotate` the stored value lies in 0..359 and is congruent to it mod 360. -/
theorem C04_rotate (r : Int) :
    0 ≤ norm_rotate r ∧ norm_rotate r < 360 ∧ (norm_rotate r - r) % 360 = 0 := by
  rw [norm_rotate, pyMod_360]
  omega

example : norm_rotate (-90) = 270 ∧ norm_rotate 450 = 90 ∧ norm_rotate (-720) = 0 := by decide +kernel

/-- The `rotation` option of `extract_text_to_fp` (regenerated arithmetic): the Rotate used for the
page is again in 0..359 and congruent to `Rotate + rotation` mod 360, for all integers; so for
multiples of 90 the page lands as `C04_ctm`/`C04_ctm_bbox` say for that total rotation. -/
theorem C04_rotation_option (rotate rotation : Int) :
    0 ≤ add_rotation rotate rotation ∧ add_rotation rotate rotation < 360 ∧
    (add_rotation rotate rotation - (rotate + rotation)) % 360 = 0 := by
  rw [add_rotation, pyMod_360]
  omega

example : add_rotation 270 180 = 90 ∧ add_rotation 0 (-90) = 270 := by decide +kernel

/-- `get_pages(pagenos, maxpages)` yields exactly the pages whose zero-based index is selected
(an empty selection selects all) and below the limit (0 = no limit), in order. -/
theorem C04_select {α : Type} (sel : List Nat) (maxpages : Nat) (pages : List α) :
    getPages sel maxpages 0 pages = specSelect sel maxpages 0 pages := by
  rw [getPages, select_stream sel maxpages pages none 0 (by omega)]

/-- **Selection with a pending exception.** When `create_pages` would raise after its last page,
`get_pages` yields the same pages and raises exactly when the loop asks for a page beyond the
last one, i.e. when the index of the failing page is below the limit (or there is no limit). -/
theorem C04_select_pending {α : Type} (sel : List Nat) (maxpages : Nat) (pages : List α) (e : Option Err) :
    getPagesS sel maxpages 0 pages e =
      (specSelect sel maxpages 0 pages, if maxpages = 0 ∨ pages.length < maxpages then e else none) := by
  simpa only [Nat.zero_add] using select_stream sel maxpages pages e 0 (by omega)

example : getPagesS [] 2 0 [10, 11] (some Err.objectNotFound) = ([10, 11], none) := by decide +kernel
example : getPagesS [0] 3 0 [10, 11] (some Err.objectNotFound) = ([10], some Err.objectNotFound) := by decide +kernel

example : getPages [5, 1] 2 0 [10, 11, 12, 13, 14, 15] = [11] := by decide +kernel
example : getPages [] 0 0 [10, 11, 12] = [10, 11, 12] := by decide +kernel

/-- **Selection through the Python interface.** For `page_numbers` = `None` or *any* container of
integers (empty, with duplicates, in any order, with negative numbers or numbers beyond the last
page) and every `maxpages ≥ 0`, `get_pages` — and with it `extract_text`, `extract_pages`,
`extract_text_to_fp`, which pass both arguments on unchanged — yields exactly the pages whose
zero-based index is wanted (`None`/empty: all) and below the limit (0: no limit), in order; a pending
exception of `create_pages` is raised iff the failing page's index is below the limit. -/
theorem C04_select_py {α : Type} (pagenos : Option (List Int)) (maxpages : Int) (hmp : 0 ≤ maxpages)
    (pages : List α) (e : Option Err) :
    getPagesPy pagenos maxpages 0 pages e =
      (specSelectPy pagenos maxpages pages,
        if maxpages = 0 ∨ (pages.length : Int) < maxpages then e else none) := by
  obtain ⟨m, rfl⟩ := Int.eq_ofNat_of_zero_le hmp
  rw [select_stream_py pagenos m pages e 0 (by omega), specSelectPy_nat]
  have hc : (m = 0 ∨ 0 + pages.length < m) ↔ ((m : Int) = 0 ∨ (pages.length : Int) < (m : Int)) := by omega
  simp only [hc]

/-- Duplicates, order and the kind of container do not matter: two containers with the same
members select the same pages (for every `maxpages`, negative ones included). -/
theorem C04_select_members {α : Type} (l1 l2 : List Int) (h : ∀ z, z ∈ l1 ↔ z ∈ l2) (maxpages : Int)
    (pages : List α) (e : Option Err) :
    getPagesPy (some l1) maxpages 0 pages e = getPagesPy (some l2) maxpages 0 pages e := by
  apply getPagesPy_congr
  · have : l1.isEmpty = l2.isEmpty :=
      Bool.eq_iff_iff.mpr (by simp only [List.isEmpty_iff, List.eq_nil_iff_forall_not_mem, h])
    simp only [pagenosTruthy, this]
  · intro i
    simp only [pagenoIn, List.contains_eq_mem, h]

/-- `page_numbers=None` and an empty container are the same request. -/
theorem C04_select_none_empty {α : Type} (maxpages : Int) (pages : List α) (e : Option Err) :
    getPagesPy none maxpages 0 pages e = getPagesPy (some []) maxpages 0 pages e :=
  getPagesPy_congr none (some []) maxpages rfl (fun _ => rfl) pages 0 e

/-- A non-empty container none of whose members is a page index (negative, or beyond the last
page) selects nothing — it does *not* fall back to "all pages". -/
theorem C04_select_out_of_range {α : Type} (l : List Int) (hne : l ≠ []) (maxpages : Int) (hmp : 0 ≤ maxpages)
    (pages : List α) (e : Option Err) (hout : ∀ z ∈ l, z < 0 ∨ (pages.length : Int) ≤ z) :
    (getPagesPy (some l) maxpages 0 pages e).1 = [] := by
  rw [C04_select_py (some l) maxpages hmp pages e]
  simp only [specSelectPy, List.map_eq_nil_iff, List.filter_eq_nil_iff]
  intro pi hpi
  have hlt : pi.2 < pages.length := by simpa using List.snd_lt_of_mem_zipIdx hpi
  have hnot : (pi.2 : Int) ∉ l := fun hm => by rcases hout _ hm with h | h <;> omega
  simp [wanted, List.isEmpty_eq_false_iff.mpr hne, hnot]

/-- Outside the property's domain but part of the code: a negative `maxpages` acts like 1. -/
theorem C04_select_negative_limit {α : Type} (pagenos : Option (List Int)) (maxpages : Int) (hneg : maxpages < 0)
    (p : α) (ps : List α) (e : Option Err) :
    getPagesPy pagenos maxpages 0 (p :: ps) e = (if wanted pagenos 0 then [p] else [], none) := by
  have hb : select_break maxpages ((0 : Nat) : Int) = true := by
    simp only [select_break, Bool.and_eq_true, bne_iff_ne, ne_eq, decide_eq_true_eq]
    omega
  simp only [getPagesPy, hb, if_true, select_yield_py]

example : getPagesPy (some [5, 1, 1, -3, 40]) 2 0 [10, 11, 12, 13, 14, 15] (some Err.objectNotFound)
    = ([11], none) := by decide +kernel
example : getPagesPy (some [-1]) 0 0 [10, 11, 12] none = ([], none) := by decide +kernel
example : getPagesPy (some []) 0 0 [10, 11, 12] none = ([10, 11, 12], none) := by decide +kernel
example : getPagesPy none (-4) 0 [10, 11, 12] none = ([10], none) := by decide +kernel
example : specSelectPy (some [2, 0, 2, 7]) 0 [10, 11, 12] = [10, 12] := by decide +kernel

/-- The pinned `get_pages` (`continue` before the limit test) on `page_numbers = {5}`,
`maxpages = 2`: page 5 is yielded although its index is not below the limit. -/
def getPagesPinned {α : Type} (sel : List Nat) (maxpages : Nat) : Nat → List α → List α
  | _, [] => []
  | i, p :: ps =>
    if !sel.isEmpty && !sel.contains i then getPagesPinned sel maxpages (i + 1) ps
    else if maxpages != 0 && maxpages ≤ i + 1 then [p]
    else p :: getPagesPinned sel maxpages (i + 1) ps

theorem C04_select_pinned_cex :
    getPagesPinned [5] 2 0 [10, 11, 12, 13, 14, 15] ≠ specSelect [5] 2 0 [10, 11, 12, 13, 14, 15] := by
  decide +kernel

/-- For `Rotate` ∈ {0, 90, 180, 270} and every MediaBox over ℚ, the regenerated CTM table sends
every point of default user space where the specification puts it: MediaBox origin to (0,0),
then `Rotate/90` clockwise quarter turns of the sheet. -/
theorem C04_ctm (rot : Int) (hrot : rot = 0 ∨ rot = 90 ∨ rot = 180 ∨ rot = 270) (mb : Rect) (p : Point) :
    apply_matrix_pt (page_ctm rot mb) p = (specDevice rot mb p).1 := by
  obtain ⟨x0, y0, x1, y1⟩ := mb
  obtain ⟨x, y⟩ := p
  rcases hrot with rfl | rfl | rfl | rfl <;>
    simp [page_ctm, apply_matrix_pt, specDevice, turn, rot90cw] <;>
    (try constructor) <;> grind

/-- … and `begin_page` gives the `LTPage` the box `(0, 0, w', h')` of the turned sheet
(for a normalised MediaBox, which `PDFPage` guarantees: `C04_page_values`). -/
theorem C04_ctm_bbox (rot : Int) (hrot : rot = 0 ∨ rot = 90 ∨ rot = 180 ∨ rot = 270) (mb : Rect)
    (hx : mb.1 ≤ mb.2.2.1) (hy : mb.2.1 ≤ mb.2.2.2) (p : Point) :
    begin_page_bbox (page_ctm rot mb) mb =
      (0, 0, (specDevice rot mb p).2.1, (specDevice rot mb p).2.2) :=
  bbox_of_pointwise (page_ctm rot mb) rot hrot mb hx hy (C04_ctm rot hrot mb) p

/-- What the harness observes per page (`LTPage.bbox` and the matrix of one glyph) is what the
specification demands. -/
theorem C04_render (rot : Int) (hrot : rot = 0 ∨ rot = 90 ∨ rot = 180 ∨ rot = 270) (mb : Rect)
    (hx : mb.1 ≤ mb.2.2.1) (hy : mb.2.1 ≤ mb.2.2.2) (p : Point) :
    render rot mb p = specRender rot mb p :=
  render_of_pointwise rot mb p (C04_ctm rot hrot mb) (C04_ctm_bbox rot hrot mb hx hy p)

/-- The four corners of a box, clockwise from the lower-left one. -/
def cornersCW (r : Rect) : List Point :=
  [(r.1, r.2.1), (r.1, r.2.2.2), (r.2.2.1, r.2.2.2), (r.2.2.1, r.2.1)]

/-- Move the first `k` elements to the end. -/
def rotl {α : Type} : Nat → List α → List α
  | 0, l => l
  | _ + 1, [] => []
  | k + 1, x :: xs => rotl k (xs ++ [x])

/-- The MediaBox lands on `(0, 0, w', h')` (the size of the sheet after `k = Rotate/90` clockwise
quarter turns) with its corners moved clockwise by `k` places: the image of the `j`-th corner
of the MediaBox is corner `j + k` of the turned sheet (lower-left goes to upper-left after one
quarter turn). By `C04_ctm_bbox` that box is `LTPage.bbox`. -/
theorem C04_ctm_corners (k : Nat) (hk : k < 4) (mb : Rect) :
    (cornersCW mb).map (apply_matrix_pt (page_ctm (90 * k) mb)) =
      rotl k (cornersCW (0, 0, (turn k (mb.2.2.1 - mb.1, mb.2.2.2 - mb.2.1) (0, 0)).2.1,
                               (turn k (mb.2.2.1 - mb.1, mb.2.2.2 - mb.2.1) (0, 0)).2.2)) := by
  obtain ⟨x0, y0, x1, y1⟩ := mb
  have hpt := fun rot h => C04_ctm rot h (x0, y0, x1, y1)
  have : k = 0 ∨ k = 1 ∨ k = 2 ∨ k = 3 := by omega
  rcases this with rfl | rfl | rfl | rfl <;>
    simp only [cornersCW, rotl, turn, List.map, List.cons_append, List.nil_append, Int.cast_ofNat_Int, Int.reduceMul,
      Int.mul_zero, hpt 0 (by decide), hpt 90 (by decide), hpt 180 (by decide), hpt 270 (by decide),
      specDevice, Int.reduceDiv, Int.reduceToNat, rot90cw, Rat.sub_self, rat_sub_zero]

example : apply_matrix_pt (page_ctm 90 (10, 20, 310, 420)) (10, 20) = (0, 300) := by
  decide +kernel

/-- `PDFPage._normalize_rect` (regenerated) returns a normalised box with the same corner set. -/
theorem C04_box_normalised (r : Rect) :
    (normalize_rect r).1 ≤ (normalize_rect r).2.2.1 ∧ (normalize_rect r).2.1 ≤ (normalize_rect r).2.2.2 ∧
    ((normalize_rect r).1 = r.1 ∧ (normalize_rect r).2.2.1 = r.2.2.1 ∨
     (normalize_rect r).1 = r.2.2.1 ∧ (normalize_rect r).2.2.1 = r.1) ∧
    ((normalize_rect r).2.1 = r.2.1 ∧ (normalize_rect r).2.2.2 = r.2.2.2 ∨
     (normalize_rect r).2.1 = r.2.2.2 ∧ (normalize_rect r).2.2.2 = r.2.1) :=
  ⟨(rat_min_max r.1 r.2.2.1).1, (rat_min_max r.2.1 r.2.2.2).1, (rat_min_max r.1 r.2.2.1).2,
    (rat_min_max r.2.1 r.2.2.2).2⟩

/-- Every `PDFPage` that is constructed has Rotate in 0..359 and normalised MediaBox and CropBox
(whatever the attribute values: defaults, wrong-length arrays, swapped corners). -/
theorem C04_page_values (g : Store) (id : Option Nat) (res mb cb rot : Option Val) :
    0 ≤ (mkPage g id res mb cb rot).rotate ∧ (mkPage g id res mb cb rot).rotate < 360 ∧
    Normalised (mkPage g id res mb cb rot).mediabox ∧ Normalised (mkPage g id res mb cb rot).cropbox := by
  have hm : Normalised (mkPage g id res mb cb rot).mediabox := by
    rw [mkPage_mediabox]; exact box_default g mb _ us_letter_normalised
  refine ⟨(C04_rotate _).1, (C04_rotate _).2.1, hm, ?_⟩
  rw [mkPage_cropbox]; exact box_default g cb _ hm

/-- **Defaults of `PDFPage.__init__`** (on the regenerated `_parse_mediabox` / `_parse_cropbox`
structure): a missing or ill-formed MediaBox gives US Letter; a missing or ill-formed CropBox gives
the page's MediaBox (whatever that turned out to be); a well-formed box gives its normalised value. -/
theorem C04_box_defaults (g : Store) (id : Option Nat) (res mb cb rot : Option Val) :
    ((mb = none ∨ ∃ v, mb = some v ∧ parseBox g v = none) → (mkPage g id res mb cb rot).mediabox = US_LETTER) ∧
    ((cb = none ∨ ∃ v, cb = some v ∧ parseBox g v = none) →
      (mkPage g id res mb cb rot).cropbox = (mkPage g id res mb cb rot).mediabox) ∧
    (∀ v r, mb = some v → parseBox g v = some r → (mkPage g id res mb cb rot).mediabox = r) ∧
    (∀ v r, cb = some v → parseBox g v = some r → (mkPage g id res mb cb rot).cropbox = r) := by
  rw [mkPage_cropbox, mkPage_mediabox]
  refine ⟨?_, ?_, ?_, ?_⟩
  · rintro (rfl | ⟨v, rfl, hp⟩)
    · rfl
    · rw [Option.bind_some, hp]; rfl
  · rintro (rfl | ⟨v, rfl, hp⟩)
    · rfl
    · rw [Option.bind_some, hp]; rfl
  · rintro v r rfl hp; rw [Option.bind_some, hp]; rfl
  · rintro v r rfl hp; rw [Option.bind_some, hp]; rfl

example : (mkPage [] none none none (some (.arr [.atom (.int 1)])) none).cropbox = US_LETTER ∧
    (mkPage [] none none (some (.arr [.atom (.int 9), .atom (.int 8), .atom (.int 1), .atom (.int 2)])) none none).cropbox
      = (1, 2, 9, 8) := by decide +kernel

/-- An integer `Rotate` that is a multiple of 90 (negative, beyond 360, …) is stored as one of the
four quarter turns. -/
theorem C04_rotate_quarter (r : Int) (h : r % 90 = 0) :
    norm_rotate r = 0 ∨ norm_rotate r = 90 ∨ norm_rotate r = 180 ∨ norm_rotate r = 270 :=
  quarter_of_range _ (C04_rotate r).1 (C04_rotate r).2.1 (by
    rw [norm_rotate, pyMod_360, Int.emod_emod_of_dvd _ (by decide : (90 : Int) ∣ 360),
      show (360 : Int) = 90 * 4 from rfl, Int.add_mul_emod_self_left, h])

/-- **Every constructed page lands on its turned sheet.** No hypothesis on the boxes is left: for
every page `PDFPage.__init__` builds (whatever the entries: missing, swapped corners, ill-formed)
whose Rotate is a multiple of 90, `process_page`/`begin_page` map every point of the (normalised)
MediaBox coordinate system where the specification puts it, `LTPage.bbox` is `(0,0,w',h')` of the
turned sheet, and the harness observation equals the specification. -/
theorem C04_page_lands (g : Store) (id : Option Nat) (res mb cb rot : Option Val)
    (hq : (mkPage g id res mb cb rot).rotate % 90 = 0) (p : Point) :
    let pg := mkPage g id res mb cb rot
    apply_matrix_pt (page_ctm pg.rotate pg.mediabox) p = (specDevice pg.rotate pg.mediabox p).1 ∧
    begin_page_bbox (page_ctm pg.rotate pg.mediabox) pg.mediabox =
      (0, 0, (specDevice pg.rotate pg.mediabox p).2.1, (specDevice pg.rotate pg.mediabox p).2.2) ∧
    render pg.rotate pg.mediabox p = specRender pg.rotate pg.mediabox p := by
  intro pg
  obtain ⟨h0, h1, hn, _⟩ := C04_page_values g id res mb cb rot
  have hrot := quarter_of_range pg.rotate h0 h1 hq
  exact ⟨C04_ctm pg.rotate hrot pg.mediabox p, C04_ctm_bbox pg.rotate hrot pg.mediabox hn.1 hn.2 p,
    C04_render pg.rotate hrot pg.mediabox hn.1 hn.2 p⟩

/-- A page with `Rotate -90` and a MediaBox given by its upper-right and lower-left corners. -/
example :
    let pg := mkPage [] none none (some (.arr [.atom (.int 310), .atom (.int 420), .atom (.int 10), .atom (.int 20)]))
      none (some (.atom (.int (-90))))
    pg.rotate = 270 ∧ pg.rotate % 90 = 0 ∧ pg.mediabox = (10, 20, 310, 420) := by
  decide +kernel

end PdfVerif.Props.C04
