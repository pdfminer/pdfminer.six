/-
C02 — Cross-reference resolution: newest definition wins, in every physical form.

Histories are NEWEST FIRST.  `Rep whole objs secs whole` says that the loaded sections `secs`
(newest first, as `read_xref_from` chains them: table → XRefStm → Prev) together with the object
store `objs` represent the history `whole`, one section per (sub-)revision; its executable form
`repOK` is evaluated by the harness on the description of every file handed to pdfminer.
-/
import PdfVerif.Lemmas.Xref
import PdfVerif.Lemmas.XrefBytes
import PdfVerif.Lemmas.XrefTable
import PdfVerif.Lemmas.XrefScan
import PdfVerif.Lemmas.XrefFind
import PdfVerif.Lemmas.XrefHist
import PdfVerif.Lemmas.XrefChain
import PdfVerif.Lemmas.XrefLists

namespace PdfVerif.Props.C02

open PdfVerif PdfVerif.Xref PdfVerif.Gen.Xref

/-! ## Newest definition wins -/

/-- `getobj` (newest-first search with fall-through and object-stream members at `2·N + index`)
returns, for EVERY object number, the value given by the most recent revision defining it, and
`PDFObjectNotFound` when no revision defines it — for any number of revisions and any mix of
table / stream sections and direct / compressed objects. -/
theorem C02_newest_wins {whole : History} {objs : List (Nat × Nat × Nat × Val)} {secs : List Section}
    (h : Rep whole objs secs whole) (n : Nat) :
    getobj objs secs n = specGetobj whole n :=
  getobjF_spec h (getobjFuel - 2) n

/-- The same with the executable hypothesis the harness checks per file. -/
theorem C02_newest_wins_checked {whole : History} {objs : List (Nat × Nat × Nat × Val)} {secs : List Section}
    {bound : Nat} (h : repOK objs bound secs whole = true) (n : Nat) :
    getobj objs secs n = specGetobj whole n :=
  C02_newest_wins (rep_of_alignedOK h) n

/-- On a represented history `getobjF` answers alike for every fuel from 2 on: two levels of container
look-up suffice (object streams are stored directly).  That the common answer is `specGetobj`, and so
never the error that stands for exhausted fuel, is `C02_newest_wins`. -/
theorem C02_getobj_fuel {whole : History} {objs : List (Nat × Nat × Nat × Val)} {secs : List Section}
    (h : Rep whole objs secs whole) (f n : Nat) :
    getobjF objs secs (f + 2) [] n = getobjF objs secs 2 [] n := by
  rw [getobjF_spec h f n, getobjF_spec h 0 n]

/-- The numbers the newest revision names as `/Root` and `/Info` are resolved newest-first like every
other number: `C02_newest_wins` at `r.root` and at `i`.  That the document takes its catalog and Info
from the newest trailer (`rootInfo`) is not part of the statement. -/
theorem C02_catalog_info {r : Revision} {older : History} {objs : List (Nat × Nat × Nat × Val)}
    {secs : List Section} (h : Rep (r :: older) objs secs (r :: older)) :
    getobj objs secs r.root = specGetobj (r :: older) r.root ∧
    ∀ i, r.info = some i → getobj objs secs i = specGetobj (r :: older) i :=
  ⟨C02_newest_wins h _, fun i _ => C02_newest_wins h i⟩

/-- Splitting a hybrid revision into its table part (searched first) and its stream part does
not change what the history means. -/
theorem C02_hybrid_split (a b : List (Nat × Val)) (root : Nat) (info : Option Nat) (older : History) (n : Nat) :
    resolve (⟨a ++ b, root, info⟩ :: older) n = resolve (⟨a, root, info⟩ :: ⟨b, root, info⟩ :: older) n := by
  simp only [resolve, Revision.lookup, lookupNat_append]
  cases lookupNat a n <;> rfl

/-- Form independence: two files whose sections represent histories with the same meaning give
the same answer for every object number, whatever physical form each revision uses. -/
theorem C02_form_independent {h1 h2 : History} {objs1 objs2 : List (Nat × Nat × Nat × Val)}
    {secs1 secs2 : List Section} (r1 : Rep h1 objs1 secs1 h1) (r2 : Rep h2 objs2 secs2 h2)
    (n : Nat) (same : resolve h1 n = resolve h2 n) :
    getobj objs1 secs1 n = getobj objs2 secs2 n := by
  rw [C02_newest_wins r1, C02_newest_wins r2]
  unfold specGetobj
  rw [same]

/-! ## The object cache is transparent -/

/-- Any sequence of `getobj` calls on one document gives, with `caching=True` (`_cached_objs`
filled along the way, container look-ups included), exactly the answers of `caching=False`.
Invariant: every cached pair lies in the graph of `resolve`. -/
theorem C02_cache_transparent {whole : History} {objs : List (Nat × Nat × Nat × Val)} {secs : List Section}
    (h : Rep whole objs secs whole) (qs : List Nat) :
    queriesC objs secs qs [] = qs.map (getobj objs secs) := by
  rw [queriesC_spec h qs [] (cacheOK_nil whole)]
  apply List.map_congr_left
  intro n _
  exact (C02_newest_wins h n).symm

/-! ## Cross-reference stream rows (`W`, multi-range `/Index`) -/

/-- `get_pos` on the encoded rows: for ANY number of `/Index` ranges and any field widths
(0 included, with the `nunpack` defaults), the entry of object `n` is the row that the
range-by-range reading of `/Index` assigns to `n`. -/
theorem C02_xrefstm_entry (ranges : List (Nat × Nat)) (w1 w2 w3 : Nat) (rows : List Row)
    (hf : ∀ r ∈ rows, FitsRow w1 w2 w3 r) (hlen : sumCounts ranges ≤ rows.length) (n : Nat) :
    (XStream.mk ranges w1 w2 w3 (encodeRows w1 w2 w3 rows)).getPos n =
      (rowSpec ranges rows n).bind rowEntry := by
  rw [getPos_encodeRows ranges w1 w2 w3 rows hf hlen n, funext rowEntry_eq_spec]

/-- `get_objids` (repaired: running row index) reports exactly the numbers whose row is of type
1 or 2, range by range — the in-use numbers of the section. -/
theorem C02_xrefstm_objids (ranges : List (Nat × Nat)) (w1 w2 w3 : Nat) (rows : List Row)
    (hf : ∀ r ∈ rows, FitsRow w1 w2 w3 r) (hpos : 0 < w1 + w2 + w3) (hlen : sumCounts ranges ≤ rows.length) :
    (XStream.mk ranges w1 w2 w3 (encodeRows w1 w2 w3 rows)).getObjids = objidsSpec ranges rows := by
  have := objidsAux_spec ranges w1 w2 w3 rows hf hpos ranges 0 (by rw [Nat.zero_add]; exact hlen)
  simpa [XStream.getObjids] using this

/-- The pinned `get_objids` (row index restarted per range) is wrong on `Index [0 1 5 2]` with a
free row 0: it reports `{6}` (twice wrong) where the section defines `{5, 6}`. -/
theorem C02_objids_pinned_cex :
    let rows : List Row := [(0, 0, 255), (1, 100, 0), (1, 200, 0)]
    let x : XStream := ⟨[(0, 1), (5, 2)], 1, 2, 1, encodeRows 1 2 1 rows⟩
    objidsPinned x x.ranges = [6] ∧ objidsSpec x.ranges rows = [5, 6] ∧ x.getObjids = [5, 6] := by
  decide +kernel

example : FitsRow 0 2 0 (1, 515, 0) := ⟨Or.inl ⟨rfl, by decide⟩, Or.inr ⟨by decide, by decide⟩, Or.inl ⟨rfl, by decide⟩⟩

example : (XStream.mk [(3, 1), (7, 2)] 0 2 0 (encodeRows 0 2 0 [(1, 515, 0), (1, 9, 0), (1, 300, 0)])).getPos 8
    = some ⟨none, 300, 0⟩ := by decide +kernel

/-! ## The regenerated fragments mean what ISO 32000-1 says

`Gen/Xref.lean` is rewritten from the Python source on every run; these theorems fail to check
when one of the translated fragments changes its meaning. -/

/-- The `if f1 == 1 … elif f1 == 2 …` chain of `get_pos` is Table 18 of ISO 32000-1. -/
theorem C02_row_types (r : Nat × Nat × Nat) : rowEntry r = specRowEntry r :=
  rowEntry_eq_spec r

/-- `get_objids` counts exactly the row types that `get_pos` resolves. -/
theorem C02_inuse_types (t a b : Nat) : inUseType t = (specRowEntry (t, a, b)).isSome := by
  match t with
  | 0 => rfl
  | 1 => rfl
  | 2 => rfl
  | n + 3 => simp [inUseType, specRowEntry]

/-- Member `index` of an object stream with `N` members stands after the `N` pairs of integers. -/
theorem C02_objstm_index (n index : Nat) : objstmIndex n index = 2 * n + index := by
  rw [objstmIndex, Nat.mul_comm]

/-- Field defaults (7.5.8.2: a zero-width type field means type 1; other fields default to 0), the
`/Index` default `[0 Size]`, and both readers of the type field agree. -/
theorem C02_defaults (size : Nat) :
    typeDefault = 1 ∧ field2Default = 0 ∧ field3Default = 0 ∧ objidsTypeDefault = typeDefault ∧
    defaultIndex size = [0, size] ∧ widthsArity = 3 ∧
    (∀ a b c, zeroLengthRows a b c = true ↔ a + b + c = 0) ∧
    (∀ off len, rowInData off len = true ↔ off < len) := by
  refine ⟨rfl, rfl, rfl, rfl, rfl, rfl, ?_, ?_⟩
  · intro a b c; simp [zeroLengthRows]
  · intro off len; simp [rowInData]

/-- Row addressing regenerated from `PDFXRefStream.load/get_pos/get_objids` means ISO 32000-1
7.5.8.2–3: rows of `W1 + W2 + W3` bytes stored back to back, row `i` at `entlen · i`, the three
fields cut in order; both readers address rows the same way; the `/Index` walk starts at row 0,
a range `[s, s + c)` holding `n` gives row `acc + (n − s)`, any other range skips `c` rows. -/
theorem C02_row_layout :
    (∀ a b c, entlenOf a b c = a + b + c) ∧
    (∀ e i, rowOffset e i = e * i ∧ objidsRowOffset e i = e * i) ∧
    (∀ d off len, rowBytes d off len = (d.drop off).take len ∧ objidsRowBytes d off len = (d.drop off).take len) ∧
    (∀ ent a b c, field1 ent a b c = ent.take a ∧ field2 ent a b c = (ent.drop a).take b ∧
      field3 ent a b c = ent.drop (a + b) ∧ objidsField1 ent a b c = ent.take a) ∧
    indexStart = 0 ∧
    (∀ s c n, inRange s c n = true ↔ s ≤ n ∧ n < s + c) ∧
    (∀ acc s c n, indexHit acc s c n = acc + (n - s) ∧ indexMiss acc s c n = acc + c) := by
  refine ⟨fun _ _ _ => rfl, fun _ _ => ⟨rfl, rfl⟩, ?_, ?_, rfl, ?_, fun _ _ _ _ => ⟨rfl, rfl⟩⟩
  · intro d off len
    exact ⟨pySlice_window d off len, pySlice_window d off len⟩
  · intro ent a b c
    refine ⟨pySlice_prefix ent a, ?_, rfl, pySlice_prefix ent a⟩
    exact pySlice_window ent a b
  · intro s c n
    simp [inRange]

/-- `W = [1 2 1]`, row 1 of the data `00 0000 ff | 01 0123 00`: type 1, offset 0x0123, generation 0;
object 7 in `/Index [3 2 7 4]` is row 2 + 0. -/
example : (XStream.mk [(3, 2), (7, 4)] 1 2 1 [0, 0, 0, 255, 1, 1, 35, 0]).row 1 = (1, 291, 0) ∧
    findIndex [(3, 2), (7, 4)] 7 indexStart = some 2 ∧ findIndex [(3, 2), (7, 4)] 5 indexStart = none := by
  decide +kernel

/-- Entry lines of the classic table regenerated from `PDFXRef.load` mean ISO 32000-1 7.5.4:
`nnnnnnnnnn ggggg n` — first field the byte offset, second the generation, third the keyword; the stored
tuple is `(None, offset, generation)`; a subsection `start count` numbers its lines `start … start+count−1`. -/
theorem C02_table_entry_layout :
    (∀ a b c : Bytes, entryTuple a b c = (a, b, c)) ∧
    (∀ p g, mkEntry (tableEntryOf p g) = ⟨none, p, g⟩) ∧
    (∀ s n : Int, subsectionFirst s n = s ∧ subsectionStop s n = s + n ∧ subCount s n = n.toNat) := by
  refine ⟨fun _ _ _ => rfl, fun _ _ => rfl, fun s n => ⟨rfl, rfl, subCount_eq s n⟩⟩

/-- `0000000017 00003 n` as object 7: offset 17, generation 3. -/
example : (match tableEntries 1 7 [48, 48, 48, 48, 48, 48, 48, 48, 49, 55, 32, 48, 48, 48, 48, 51, 32, 110, 32, 10] 0 [] with
    | .ok (offs, rest, pos) => offs == [((7 : Int), (⟨none, 17, 3⟩ : Entry))] && rest.isEmpty && pos == 20
    | .error _ => false) = true := by decide +kernel

/-- Keywords and field shapes of the classic table, and the chaining order (7.5.8.4: the
table of a hybrid file is consulted first, then its `XRefStm`, then `Prev`). -/
theorem C02_literals :
    kwTrailer = "trailer".toList.map (fun c => c.toNat.toUInt8) ∧
    kwStartxref = "startxref".toList.map (fun c => c.toNat.toUInt8) ∧
    inUseMarker = [110] ∧ fieldSep = 32 ∧ headerFields = 2 ∧ entryFields = 3 ∧
    chainOrder = ["XRefStm", "Prev"] := by
  decide +kernel

/-! ## Loaders invert the writers, byte for byte -/

/-- `table_load`: `read_xref_from` + `PDFXRef.load` on the text of ANY classic table
(any number of subsections, any entries, every EOL style of header and entry lines, `trailer`
alone or followed by the dictionary on its line) returns exactly the in-use entries written
— `f` lines skipped, numbering `start + i` — and stops on the `trailer` line. -/
theorem C02_table_load (pre post : Bytes) (eol : LineEol) (ee : EntEol) (subs : List Sub)
    (hf : ∀ sb ∈ subs, SubFits sb) (hpost : TrailerLine post) :
    tableLoad (pre ++ (eol.bytes ++ (renderTable eol ee subs ++ (kwTrailer ++ post)))) pre.length =
      .ok (insSubs subs [], pre.length + eol.bytes.length + (renderTable eol ee subs).length) :=
  tableLoad_renderTable pre post eol ee subs hf hpost

/-- …and `get_pos` on the loaded table answers with the last in-use line written for `n`. -/
theorem C02_table_lookup (subs : List Sub) (n : Nat) :
    (Section.table (insSubs subs [])).getPos n = specSubs subs (n : Int) none := by
  simp [Section.getPos, lookup_insSubs, lookupOff]

/-- The `trailer` keyword line as the writer emits it satisfies `TrailerLine`. -/
theorem C02_trailer_line (eol : LineEol) (mid y : Bytes) (hm : noEol mid) (hy : StartsNonLF y) :
    TrailerLine (mid ++ (eol.bytes ++ y)) := trailerLine_eol eol mid y hm hy

def flattenRanges : List (Nat × Nat) → List Nat
  | [] => []
  | (s, c) :: rest => s :: c :: flattenRanges rest

theorem choplist2_flatten (ranges : List (Nat × Nat)) : choplist2 (flattenRanges ranges) = ranges := by
  induction ranges with
  | nil => rfl
  | cons r rest ih => obtain ⟨s, c⟩ := r; simp [flattenRanges, choplist2, ih]

theorem flatten_even (ranges : List (Nat × Nat)) : (flattenRanges ranges).length % 2 = 0 := by
  induction ranges with
  | nil => rfl
  | cons r rest ih =>
    obtain ⟨s, c⟩ := r
    rw [flattenRanges, List.length_cons, List.length_cons, Nat.add_assoc, Nat.add_mod_right]
    exact ih

/-- `stream_load`: `PDFXRefStream.load` + `get_pos` + `get_objids` on the dictionary entries
`/W [w1 w2 w3]`, `/Index` (any number of ranges) and the encoded rows give back the written rows,
end to end. -/
theorem C02_stream_load (size : Nat) (ranges : List (Nat × Nat)) (w1 w2 w3 : Nat) (rows : List Row)
    (hf : ∀ r ∈ rows, FitsRow w1 w2 w3 r) (hpos : 0 < w1 + w2 + w3) (hlen : sumCounts ranges ≤ rows.length) :
    ∃ x, xsLoad size (some (flattenRanges ranges)) [w1, w2, w3] (encodeRows w1 w2 w3 rows) = .ok x ∧
      (∀ n, x.getPos n = (rowSpec ranges rows n).bind specRowEntry) ∧
      x.getObjids = objidsSpec ranges rows := by
  refine ⟨⟨ranges, w1, w2, w3, encodeRows w1 w2 w3 rows⟩, ?_, getPos_encodeRows ranges w1 w2 w3 rows hf hlen,
    C02_xrefstm_objids ranges w1 w2 w3 rows hf hpos hlen⟩
  rw [xsLoad_ok size _ w1 w2 w3 _ (flattenRanges ranges) rfl (flatten_even ranges) hpos, choplist2_flatten]

/-- Without `/Index` the rows are those of objects `0 … Size-1`. -/
theorem C02_stream_load_default (size w1 w2 w3 : Nat) (rows : List Row)
    (hf : ∀ r ∈ rows, FitsRow w1 w2 w3 r) (hpos : 0 < w1 + w2 + w3) (hlen : size ≤ rows.length) (n : Nat) :
    ∃ x, xsLoad size none [w1, w2, w3] (encodeRows w1 w2 w3 rows) = .ok x ∧
      x.getPos n = (if n < size then rows[n]? else none).bind specRowEntry := by
  refine ⟨⟨[(0, size)], w1, w2, w3, encodeRows w1 w2 w3 rows⟩, xsLoad_ok size none w1 w2 w3 _ [0, size] rfl (Nat.mod_self 2) hpos, ?_⟩
  rw [getPos_encodeRows [(0, size)] w1 w2 w3 rows hf (by simpa [sumCounts] using hlen) n]
  by_cases h : n < size <;> simp [rowSpec, h]

/-- `hybrid_load` / chaining: from the table of a hybrid revision `read_xref_from` appends the
table, then the section at `XRefStm`, then the section at `Prev` — and a position met twice
(circular `Prev`) is not loaded again. -/
theorem C02_chain_order (ph : Phys) (p1 p2 p3 : Nat) (d1 d2 d3 : SecDesc) (s1 s2 s3 : Section)
    (root : Option Nat) (info : Option Nat) (fuel : Nat)
    (h1 : lookupNat ph.secs p1 = some d1) (h2 : lookupNat ph.secs p2 = some d2) (h3 : lookupNat ph.secs p3 = some d3)
    (l1 : loadSection ph d1 = .ok (s1, ⟨some p3, some p2, root, info⟩))
    (l2 : loadSection ph d2 = .ok (s2, ⟨none, none, none, none⟩))
    (l3 : loadSection ph d3 = .ok (s3, ⟨some p1, none, root, info⟩))
    (d12 : p1 ≠ p2) (d13 : p1 ≠ p3) (d23 : p2 ≠ p3) :
    (readXrefFrom ph (fuel + 3) p1 ([], [])).map (fun r => r.1.map (·.1)) = .ok [s1, s2, s3] := by
  have v2 : p2 ∉ [p1] := fun h => d12 (List.mem_singleton.mp h).symm
  have v3 : p3 ∉ [p2, p1] := by
    intro h
    rcases List.mem_cons.mp h with h | h
    · exact d23 h.symm
    · exact d13 (List.mem_singleton.mp h).symm
  rw [readXrefFrom_hybrid List.not_mem_nil v2 h1 l1 rfl h2 l2 rfl rfl, follow, readXrefFrom_plain v3 h3 l3 rfl, follow,
    readXrefFrom_visited (List.mem_cons_of_mem _ (List.mem_cons_of_mem _ List.mem_cons_self))]
  rfl

/-- The trailer chain of ANY number of revisions: starting at `start` (what `find_xref` returned),
every revision being a plain section (classic table or cross-reference stream, `/Prev` → older one)
or a hybrid pair (table with `/XRefStm` and `/Prev`; its stream carries neither), at pairwise different
positions (the oldest one possibly with a circular `/Prev` pointing at itself), `read_xref_from` returns the
sections newest first, the table of a hybrid revision directly before its stream, and has visited exactly
their positions. -/
theorem C02_chain (ph : Phys) (start : Nat) (ps : List Nat) (L : List (Section × Trailer))
    (h : Chain ph (some start) ps L) (hnd : ps.Nodup) (fuel : Nat) (hf : ps.length < fuel) :
    readXrefFrom ph fuel start ([], []) = .ok (L, ps.reverse) := by
  have := follow_chain h fuel [] [] hf (by intro p _ hm; cases hm) hnd
  simpa [follow] using this

/-- Non-vacuity: newest revision at 300 (`/Prev 200`), a hybrid revision at 200 (`/XRefStm 150`,
`/Prev 100`), the original at 100. -/
def exChainPh : Phys :=
  ⟨[], [(100, .stream 2 none [1, 1, 1] [] ⟨none, none, some 1, none⟩),
        (150, .stream 2 none [1, 1, 1] [] ⟨none, none, none, none⟩),
        (200, .stream 2 none [1, 1, 1] [] ⟨some 100, some 150, some 1, none⟩),
        (300, .stream 2 none [1, 1, 1] [] ⟨some 200, none, some 1, none⟩)], []⟩

example : (readXrefFrom exChainPh 5 300 ([], [])).map (fun r => (r.1.map (·.2.prev), r.2)) =
    .ok ([some 200, some 100, none, none], [100, 150, 200, 300]) := by
  have hc : Chain exChainPh (some 300) [300, 200, 150, 100] _ :=
    Chain.plain (p := 300) rfl rfl rfl
      (Chain.hybrid (p := 200) (x := 150) rfl rfl rfl rfl rfl rfl rfl
        (Chain.plain (p := 100) rfl rfl rfl Chain.done))
  rw [C02_chain exChainPh 300 _ _ hc (by decide) 5 (by decide)]
  rfl

/-- The same with the executable hypothesis the harness evaluates per file (`q.chain`). -/
theorem C02_chain_checked (ph : Phys) (start fuel' fuel : Nat) (ps : List Nat) (L : List (Section × Trailer))
    (h : chainOf ph fuel' (some start) = some (ps, L)) (hn : nodupNat ps = true) (hf : ps.length < fuel) :
    readXrefFrom ph fuel start ([], []) = .ok (L, ps.reverse) :=
  C02_chain ph start ps L (chainOf_sound ph fuel' _ _ _ h) (nodupNat_sound ps hn) fuel hf

example : (chainOf exChainPh 9 (some 300)).map (·.1) = some [300, 200, 150, 100] := by decide +kernel

/-- Non-vacuity for the loaders: `0 2` (free head, object 1) and `5 1`, CR-only line ends, entries
ending in space-CR, `trailer` followed by the dictionary on the same line. -/
def exSubs : List Sub := [⟨0, 1, 1, [⟨0, 65535, false⟩, ⟨15, 0, true⟩]⟩, ⟨5, 2, 1, [⟨70, 3, true⟩]⟩]

example : ∀ sb ∈ exSubs, SubFits sb := by
  intro sb hsb
  simp only [exSubs, List.mem_cons, List.not_mem_nil, or_false] at hsb
  rcases hsb with rfl | rfl <;> simp [SubFits, EntryFits]

example : TrailerLine ([32, 60, 60, 62, 62] ++ (LineEol.cr.bytes ++ [115])) :=
  C02_trailer_line .cr [32, 60, 60, 62, 62] [115] (by intro b hb; revert b; decide) ⟨115, [], rfl, by decide⟩

example : (match tableLoad ([120, 114, 101, 102] ++ (LineEol.cr.bytes ++ (renderTable .cr .spCr exSubs ++
      (kwTrailer ++ ([32, 60, 60, 62, 62] ++ (LineEol.cr.bytes ++ [115])))))) 4 with
    | .ok (offs, tpos) => offs == [((1 : Int), (⟨none, 15, 0⟩ : Entry)), (5, ⟨none, 70, 3⟩)] && tpos == 4 + 1 + 69
    | .error _ => false) = true := by decide +kernel

/-- `SecLists` (hypothesis of `C02_written_rep`) DERIVED for classic tables: the table loaded from the
text of ANY subsections (any grouping into runs, any order, `f` lines anywhere) answers like the writer's
entry list as soon as both hold the same `(number, entry)` pairs, every number once — down to the bytes
`PDFXRef.load` read. -/
theorem C02_table_lists (pre post : Bytes) (eol : LineEol) (ee : EntEol) (subs : List Sub)
    (ents : List (Nat × Entry)) (hf : ∀ sb ∈ subs, SubFits sb) (hpost : TrailerLine post)
    (h : sameAssocB (flatSubs subs) (entsInt ents) = true) :
    ∃ offs tp, tableLoad (pre ++ (eol.bytes ++ (renderTable eol ee subs ++ (kwTrailer ++ post)))) pre.length =
      .ok (offs, tp) ∧ SecLists (.table offs) ents :=
  ⟨_, _, C02_table_load pre post eol ee subs hf hpost, secLists_table subs ents h⟩

/-- objects 5, 1 (file order of the body) against the table `0 2` (free head, object 1) + `5 1` -/
example : sameAssocB (flatSubs exSubs) (entsInt [(5, ⟨none, 70, 3⟩), (1, ⟨none, 15, 0⟩)]) = true := by decide +kernel

/-- From the written lines to `Rep`: a loaded classic table represents revision `r` as soon as
the written subsections do (last in-use line per number leads to `r`'s value) — the hypothesis of
`C02_newest_wins` follows from what the writer wrote, not from what the loader returned. -/
theorem C02_table_represents (whole : History) (objs : List (Nat × Nat × Nat × Val)) (subs : List Sub) (r : Revision)
    (h : ∀ n, match r.lookup n with
              | none => specSubs subs (n : Int) none = none
              | some v => ∃ e, specSubs subs (n : Int) none = some e ∧ entryOK whole objs n v e = true) :
    SecRep whole objs (.table (insSubs subs [])) r := by
  intro n
  have := h n
  rw [← C02_table_lookup subs n] at this
  exact this

/-- The same for a cross-reference stream section written as `W`, `/Index` ranges and rows. -/
theorem C02_stream_represents (whole : History) (objs : List (Nat × Nat × Nat × Val)) (ranges : List (Nat × Nat))
    (w1 w2 w3 : Nat) (rows : List Row) (r : Revision)
    (hf : ∀ row ∈ rows, FitsRow w1 w2 w3 row) (hlen : sumCounts ranges ≤ rows.length)
    (h : ∀ n, match r.lookup n with
              | none => (rowSpec ranges rows n).bind specRowEntry = none
              | some v => ∃ e, (rowSpec ranges rows n).bind specRowEntry = some e ∧ entryOK whole objs n v e = true) :
    SecRep whole objs (.stream ⟨ranges, w1, w2, w3, encodeRows w1 w2 w3 rows⟩) r := by
  intro n
  rw [Section.getPos, getPos_encodeRows ranges w1 w2 w3 rows hf hlen n]
  exact h n

/-! ## `Rep` derived for every file the (structural) writer lays out -/

/-- For EVERY file body — any number of (sub-)revisions, objects of the parts of a hybrid revision
interleaved, direct objects of any positive length separated by any gaps, object-stream members —
if each loaded section answers like the entry list the writer put into it (`SecLists`: what
`C02_table_lists` / `C02_stream_lists` give from the bytes) then the sections represent the history
the file means.  The only side conditions left are `WFile.ok`: lengths positive, members as their
containers hold them. -/
theorem C02_written_rep (f : WFile) (secsOld : List Section) (hs : SecsList secsOld f.ents)
    (hok : f.ok = true) : Rep f.history f.store secsOld.reverse f.history := by
  have hall : ∀ o ∈ f.objs, wobjOK f.history o = true := List.all_eq_true.mp hok
  refine subRevs_rep f.history f.store f.objs f.start f.trailers 0 secsOld hs
    (placeObjs_lookup f.objs f.start fun o ho gap len gen hp => ?_) fun o ho c idx hp => ?_
  · simpa only [wobjOK, hp, decide_eq_true_eq] using hall o ho
  · simpa only [wobjOK, hp] using hall o ho

/-- Newest definition wins END TO END on the writer's output: no per-file hypothesis about offsets
or sections is left. -/
theorem C02_written_newest_wins (f : WFile) (secsOld : List Section) (hs : SecsList secsOld f.ents)
    (hok : f.ok = true) (n : Nat) : getobj f.store secsOld.reverse n = specGetobj f.history n :=
  C02_newest_wins (C02_written_rep f secsOld hs hok) n

/-- Non-vacuity: two revisions; the older one is hybrid-like (objects of sub-revisions 0 and 1
interleaved), object 3 lives in object stream 5, revision 2 overrides object 2. -/
def exFile : WFile :=
  ⟨9, [⟨1, .plain 10, .direct 0 20 0, 0⟩, ⟨5, .objstm 50 1 [.num 3, .num 0, .val 30], .direct 2 40 0, 1⟩,
       ⟨2, .plain 20, .direct 0 15 0, 0⟩, ⟨3, .plain 30, .member 5 0, 1⟩,
       ⟨2, .plain 22, .direct 120 18 1, 2⟩],
   [(1, none), (1, none), (1, some 2)]⟩

example : exFile.ok = true ∧ exFile.store.map (·.1) = [9, 31, 71, 206] ∧
    exFile.ents = [[(1, ⟨none, 9, 0⟩), (2, ⟨none, 71, 0⟩)], [(5, ⟨none, 31, 0⟩), (3, ⟨some 5, 0, 0⟩)],
      [(2, ⟨none, 206, 1⟩)]] := by decide +kernel

example : getobj exFile.store ((exFile.ents.map (fun e => Section.table (e.map (fun p => ((p.1 : Int), p.2))))).reverse) 3 =
    .ok (.plain 30) := by decide +kernel

/-- `SecLists` DERIVED for cross-reference streams: the section written as ANY non-overlapping `/Index`
ranges, widths and rows (free rows and rows of unknown type anywhere) answers like the writer's entry list
as soon as its in-use rows are that list (any order). -/
theorem C02_stream_lists (ranges : List (Nat × Nat)) (w1 w2 w3 : Nat) (rows : List Row) (ents : List (Nat × Entry))
    (hf : ∀ row ∈ rows, FitsRow w1 w2 w3 row) (hlen : sumCounts ranges ≤ rows.length)
    (h : streamListsB ranges rows ents = true) :
    SecLists (.stream ⟨ranges, w1, w2, w3, encodeRows w1 w2 w3 rows⟩) ents := by
  intro n
  rw [Section.getPos, getPos_encodeRows ranges w1 w2 w3 rows hf hlen n]
  exact rowSpec_lists ranges rows ents hlen h n

/-- `/Index [0 2 5 2]`, rows free / direct@15 / member 1 of stream 5 / direct@90: three in-use rows. -/
example : streamListsB [(0, 2), (5, 2)] [(0, 0, 255), (1, 15, 0), (2, 5, 1), (1, 90, 0)]
    [(6, ⟨none, 90, 0⟩), (1, ⟨none, 15, 0⟩), (5, ⟨some 5, 1, 0⟩)] = true := by decide +kernel

/-! ## Termination of the line loops, and the body scan -/

/-- `PDFXRef.load` terminates within one iteration per byte: the fuel of the model is never
the reason for its answer. -/
theorem C02_table_fuel (data : Bytes) (afterKw : Nat) : tableLoad data afterKw ≠ .error .recursion :=
  tableLoad_fuel data afterKw

/-- The same for the body scan: beyond `bytes left`, more fuel changes nothing. -/
theorem C02_fallback_fuel (data : Bytes) (ends : List (Nat × Nat × Val)) (fuel pos : Nat)
    (offs : List (Int × Entry)) (h : data.length < pos + fuel) :
    fallbackLoop data ends (fuel + 1) pos offs = fallbackLoop data ends fuel pos offs :=
  fallbackLoop_fuel data ends fuel pos offs h

/-- For a body made of plain lines and indirect objects whose first byte stands at a
line start — whether the line read there ends inside the object or beyond it (`1 0 obj<<…>>endobj`) —
(and no other line looks like a header or starts with `trailer`), the body scan
registers every object at its true offset, in file order, and stops on the `trailer` line. -/
theorem C02_fallback (ends : List (Nat × Nat × Val)) (items : List Item) (tail : Bytes)
    (hok : ItemsOK ends 0 items tail)
    (htail : ∃ l k, takeLine tail = some (l, k) ∧ startsWith l kwTrailer = true) :
    fallbackLoad (itemsBytes items ++ tail) ends = .ok (scanSpec 0 items [], some (itemsBytes items).length) :=
  fallbackLoad_items ends items tail hok htail

/-- A header `n g obj` with the numbers written in any digit widths, followed by any byte that is not a
word byte (the EOL the writer emits, or `<`), is recognised by the cue with its own numbers. -/
theorem C02_cue_header (w1 w2 n g : Nat) (hw1 : 0 < w1) (hw2 : 0 < w2) (hn : n < 10 ^ w1) (hg : g < 10 ^ w2)
    (c : UInt8) (t : Bytes) (hc : isWordByte c = false) :
    matchCue (renderDec w1 n ++ 32 :: (renderDec w2 g ++ 32 :: 111 :: 98 :: 106 :: c :: t)) = some (n, g) := by
  rw [matchCue_digits _ _ (renderDec_ne_nil hw1 n) (renderDec_ne_nil hw2 g) (renderDec_digits w1 n) (renderDec_digits w2 g)
    c t hc, decNat_renderDec _ _ hn, decNat_renderDec _ _ hg]

/-- Non-vacuity: `%A⏎ 1 0 obj⏎ 7⏎endobj ⏎ 12 0 obj<<>>endobj ⏎ trailer⏎` (the second object on one line) -/
def exItems : List Item :=
  [.line [37, 65, 10],
   .obj 1 0 [49, 32, 48, 32, 111, 98, 106, 10, 55, 10, 101, 110, 100, 111, 98, 106],
   .line [10],
   .obj 12 0 [49, 50, 32, 48, 32, 111, 98, 106, 60, 60, 62, 62, 101, 110, 100, 111, 98, 106],
   .line [10]]
def exEnds : List (Nat × Nat × Val) := [(3, 19, .plain 1), (20, 38, .plain 2)]

example : ItemsOK exEnds 0 exItems (kwTrailer ++ [10]) :=
  itemsOK_of_itemsOKb exEnds exItems 0 _ (by decide +kernel)

example : scanSpec 0 exItems [] = [((1 : Int), (⟨none, 3, 0⟩ : Entry)), (12, ⟨none, 20, 0⟩)] := by decide +kernel

/-! ## Locating `startxref`: independence of the read-buffer size -/

/-- The chunked backward reader yields, for EVERY buffer size `b ≥ 1`, exactly the lines of a
single right-to-left pass over the bytes. -/
theorem C02_revreadlines_bufsize (b : Nat) (hb : 1 ≤ b) (data : Bytes) :
    revreadlines b data = revLines data := by
  unfold revreadlines revLines
  rw [revLoop_spec b hb data _ _ [] (Nat.lt_succ_self _) (Nat.le_refl _) noEol_nil]
  simp

/-- Hence `find_xref` returns the same offset (or the same error) for every buffer size. -/
theorem C02_startxref_bufsize (b : Nat) (hb : 1 ≤ b) (data : Bytes) :
    findXref b data = findXref 1 data := by
  unfold findXref
  rw [C02_revreadlines_bufsize b hb, C02_revreadlines_bufsize 1 (Nat.le_refl 1)]

/-- "…startxref⏎123⏎%%EOF⏎" after an older "startxref⏎7⏎": the number before the LAST keyword. -/
example : (match findXref 3 ([115, 116, 97, 114, 116, 120, 114, 101, 102, 10, 55, 10, 37, 37, 69, 79, 70, 10] ++
    [120, 10] ++ [115, 116, 97, 114, 116, 120, 114, 101, 102, 13, 10, 49, 50, 51, 13, 10, 37, 37, 69, 79, 70, 13, 10])
    with | .ok n => n == 123 | .error _ => false) = true := by decide +kernel

/-! ## Locating `startxref`: the backward scan finds the LAST one, for every tail layout -/

/-- `find_xref` on ANY file whose end consists of well-formed lines — the keyword line `kw`, blank
lines `middle`, the first non-blank line `num`, then any lines `after` none of which is the keyword —
returns the number on `num` (or `PDFNoValidXRef` when it is not all digits), whatever precedes the
keyword line (`pre`: older revisions with their own `startxref` lines included) and for every read
buffer size. -/
theorem C02_find_xref (b : Nat) (hb : 1 ≤ b) (pre : Bytes) (kw num : RLine) (middle after : List RLine)
    (hk : kw.OK) (hn : num.OK) (hm : ∀ l ∈ middle, l.OK) (ha : ∀ l ∈ after, l.OK)
    (hkw : strip kw.bytes = kwStartxref) (hmid : ∀ l ∈ middle, strip l.bytes = [])
    (hnum1 : strip num.bytes ≠ []) (hnum2 : strip num.bytes ≠ kwStartxref)
    (hafter : ∀ l ∈ after, strip l.bytes ≠ kwStartxref) :
    findXref b (pre ++ rlinesBytes (kw :: middle ++ num :: after)) =
      if isDigits (strip num.bytes) then .ok (decNat (strip num.bytes)) else .error .noValidXRef := by
  unfold findXref
  rw [C02_revreadlines_bufsize b hb]
  exact findXref_layout_bytes pre kw num middle after hk hn hm ha hkw hmid hnum1 hnum2 hafter

/-- No line of the file is the keyword: `PDFNoValidXRef("Unexpected EOF")` (the body scan follows). -/
theorem C02_find_xref_none (b : Nat) (hb : 1 ≤ b) (data : Bytes)
    (h : ∀ l ∈ revLines data, strip l ≠ kwStartxref) : findXref b data = .error .noValidXRef := by
  unfold findXref
  rw [C02_revreadlines_bufsize b hb]
  exact findXrefLines_none _ _ h

/-- The writer's tail in full generality: after any bytes `pre` ending in an EOL byte, the keyword,
the offset written with `w` digits and `%%EOF`, each followed by any number of blanks, separated by
one or more EOLs of the file's style and ended by any number (also zero) of EOLs:
`find_xref` returns exactly the offset written. -/
theorem C02_find_xref_tail (b : Nat) (hb : 1 ≤ b) (pre : Bytes) (e0 : UInt8) (he0 : isEol e0 = true)
    (eol : LineEol) (s1 s2 s3 k1 k2 k3 w n : Nat) (hw : 0 < w) (hn : n < 10 ^ w) :
    findXref b (pre ++ e0 :: renderTailG eol s1 s2 s3 k1 k2 k3 w n) = .ok n := by
  unfold findXref
  rw [C02_revreadlines_bufsize b hb]
  unfold renderTailG
  have hsp : ∀ k, ∀ x ∈ blanks k, x = 32 := fun _ _ hx => List.eq_of_mem_replicate hx
  rw [findXref_tail_bytes pre e0 he0 (blanks s1) (blanks s2) (blanks s3) (eolRep eol (k1 + 1))
    (eolRep eol (k2 + 1)) (eolRep eol k3) (renderDec w n) (hsp s1) (hsp s2) (hsp s3)
    (eolRep_eol eol _) (eolRep_eol eol _) (eolRep_eol eol _) (eolRep_succ_ne eol k1) (eolRep_succ_ne eol k2)
    (renderDec_ne_nil hw n) (renderDec_digits w n), decNat_renderDec w n hn]

/-- The four tails of the harness writer (compared byte for byte with what it wrote: `q.tail`). -/
theorem C02_find_xref_written (b : Nat) (hb : 1 ≤ b) (pre : Bytes) (e0 : UInt8) (he0 : isEol e0 = true)
    (ts : TailStyle) (eol : LineEol) (w n : Nat) (hw : 0 < w) (hn : n < 10 ^ w) :
    findXref b (pre ++ e0 :: renderTail ts eol w n) = .ok n := by
  cases ts <;> exact C02_find_xref_tail b hb pre e0 he0 eol _ _ _ _ _ _ w n hw hn

/-- Non-vacuity: an older revision's `startxref⏎7⏎%%EOF⏎` stands before; CR LF tail with blanks and
a blank line; the offset 123 of the LAST keyword is returned. -/
example : findXref 4 (([115, 116, 97, 114, 116, 120, 114, 101, 102, 10, 55, 10, 37, 37, 69, 79, 70] : Bytes) ++
    10 :: renderTail .blank .crlf 3 123) = .ok 123 :=
  C02_find_xref_written 4 (by decide) _ 10 (by decide) .blank .crlf 3 123 (by decide) (by decide)

example : renderTail .spaces .cr 2 45 =
    [115, 116, 97, 114, 116, 120, 114, 101, 102, 32, 13, 52, 53, 32, 32, 13, 37, 37, 69, 79, 70, 32, 13] := by decide +kernel

/-- a number line that is not all digits → `PDFNoValidXRef` (hypotheses of `C02_find_xref` satisfiable) -/
example : findXref 2 ([37, 10] ++ rlinesBytes [⟨10, kwStartxref⟩, ⟨13, []⟩, ⟨10, [49, 120]⟩, ⟨10, kwEOF⟩]) =
    .error .noValidXRef := by
  exact (C02_find_xref 2 (by decide) [37, 10] ⟨10, kwStartxref⟩ ⟨10, [49, 120]⟩ [⟨13, []⟩] [⟨10, kwEOF⟩]
    (by decide) (by decide) (by decide) (by decide) (by decide) (by decide) (by decide) (by decide)
    (by decide)).trans rfl

example : findXref 3 [37, 80, 68, 70, 10, 120, 114, 101, 102, 10] = .error .noValidXRef :=
  C02_find_xref_none 3 (by decide) _ (by decide)

/-! ## End to end: the document opened on a written file answers "newest wins" -/

/-- Capstone.  A file that ends (after any bytes and an EOL byte) with one of the writer's tails giving
offset `start`; whose sections form a chain of plain / hybrid revisions from `start`; whose body is laid
out by the Lean file writer `f` and whose loaded sections list what `f` wrote into them: opening it —
backward scan for `startxref` with ANY read-buffer size, `read_xref_from` along the whole chain — and
asking for ANY object number gives the value of the newest revision defining it (`PDFObjectNotFound`
when none does). -/
theorem C02_end_to_end (b : Nat) (hb : 1 ≤ b) (pre : Bytes) (e0 : UInt8) (he0 : isEol e0 = true)
    (ts : TailStyle) (eol : LineEol) (w start : Nat) (hw : 0 < w) (hst : start < 10 ^ w)
    (secs : List (Nat × SecDesc)) (f : WFile) (ps : List Nat) (L : List (Section × Trailer))
    (hchain : Chain ⟨pre ++ e0 :: renderTail ts eol w start, secs, f.store⟩ (some start) ps L)
    (hnd : ps.Nodup) (hfuel : ps.length < secs.length + 2)
    (hs : SecsList (L.map (·.1)).reverse f.ents) (hok : f.ok = true) (n : Nat) :
    (openPhys ⟨pre ++ e0 :: renderTail ts eol w start, secs, f.store⟩ b).map
      (fun d => getobj f.store (d.map (·.1)) n) = .ok (specGetobj f.history n) := by
  unfold openPhys
  simp only [C02_find_xref_written b hb pre e0 he0 ts eol w start hw hst]
  rw [C02_chain _ start ps L hchain hnd _ hfuel]
  have := C02_written_newest_wins f (L.map (·.1)).reverse hs hok n
  rw [List.reverse_reverse] at this
  simp only [Except.map, this]

/-- Non-vacuity of the capstone: a one-revision file (object 1 at offset 9, 20 bytes long, listed by a
cross-reference stream with `/Index [1 1]`, `W [1 1 1]` at offset 40), tail `startxref⏎40⏎%%EOF⏎`. -/
def exE2EFile : WFile := ⟨9, [⟨1, .plain 10, .direct 0 20 0, 0⟩], [(1, none)]⟩
def exE2ESecs : List (Nat × SecDesc) := [(40, .stream 2 (some [1, 1]) [1, 1, 1] [1, 9, 0] ⟨none, none, some 1, none⟩)]

theorem exE2E_lists : SecLists (.stream ⟨[(1, 1)], 1, 1, 1, [1, 9, 0]⟩) [(1, ⟨none, 9, 0⟩)] :=
  C02_stream_lists [(1, 1)] 1 1 1 [(1, 9, 0)] _
    (by intro r hr; rw [List.mem_singleton.mp hr]; unfold FitsRow Fits; decide) (by decide) (by decide)

example (pre : Bytes) (b : Nat) (hb : 1 ≤ b) (n : Nat) :
    (openPhys ⟨pre ++ 10 :: renderTail .plain .lf 2 40, exE2ESecs, exE2EFile.store⟩ b).map
      (fun d => getobj exE2EFile.store (d.map (·.1)) n) = .ok (specGetobj exE2EFile.history n) :=
  C02_end_to_end b hb pre 10 (by decide) .plain .lf 2 40 (by decide) (by decide) exE2ESecs exE2EFile [40]
    [(.stream ⟨[(1, 1)], 1, 1, 1, [1, 9, 0]⟩, ⟨none, none, some 1, none⟩)]
    (Chain.plain (p := 40) rfl rfl rfl Chain.done) (by decide) (by decide)
    (SecsList.cons exE2E_lists SecsList.nil) (by decide) n

/-! ## Open finding: cross-reference data that parses but is wrong is never rebuilt -/

/-- Full statement of the damaged-file clause at model level: whatever the (parsable) table
says, every object written in the body is found. -/
def C02_damaged_statement : Prop :=
  ∀ (objs : List (Nat × Nat × Nat × Val)) (secs : List Section) (pos n g : Nat) (v : Val),
    lookupNat objs pos = some (n, g, v) → getobj objs secs n = .ok v

/-- Counter-example (replayed on the implementation by corpus/C02/table-offsets.json): a
well-formed table whose offset for object 1 is 18 instead of 15.  `getobj` has no body-scan step,
so the object is not found. -/
theorem C02_damaged_cex : ¬ C02_damaged_statement := by
  intro h
  have := h [(15, 1, 0, .plain 10)] [.table [(1, ⟨none, 18, 0⟩)]] 15 1 0 (.plain 10) (by decide)
  revert this
  decide +kernel

/-- What does hold (`_partial`: restricted to tables whose offsets are right, i.e. `Rep`): see
`C02_newest_wins`.  The body scan itself (`PDFXRefFallback`) is modelled (`fallbackLoad`) and tied
by correspondence; what it finds on a well-formed body is `C02_fallback`. -/
theorem C02_damaged_partial {whole : History} {objs : List (Nat × Nat × Nat × Val)} {secs : List Section}
    (h : Rep whole objs secs whole) (n : Nat) (v : Val) (hv : resolve whole n = some v) :
    getobj objs secs n = .ok v := by
  rw [C02_newest_wins h n]; simp [specGetobj, hv]

/-! ### Non-vacuity: a two-revision history in two physical forms -/

/-- newest first: revision 1 overrides object 2 and adds 4; revision 0 defines 1,2,3 -/
def exHist : History :=
  [⟨[(2, .plain 22), (4, .plain 40)], 1, none⟩, ⟨[(1, .plain 10), (2, .plain 20), (3, .plain 30)], 1, none⟩]

/-- form A: both revisions as classic tables -/
def exObjsA : List (Nat × Nat × Nat × Val) :=
  [(15, 1, 0, .plain 10), (40, 2, 0, .plain 20), (60, 3, 0, .plain 30), (200, 2, 0, .plain 22), (230, 4, 0, .plain 40)]
def exSecsA : List Section :=
  [.table [(2, ⟨none, 200, 0⟩), (4, ⟨none, 230, 0⟩)],
   .table [(1, ⟨none, 15, 0⟩), (2, ⟨none, 40, 0⟩), (3, ⟨none, 60, 0⟩)]]

/-- form B: revision 0 as a cross-reference stream with objects 2,3 inside object stream 5
(W = [1 1 1], Index [0 4 5 2]: rows 0 free, 1 direct@15, 2 → (5,0), 3 → (5,1), 5 direct@90, 6 = the xref
stream itself @120); revision 1 as a cross-reference stream with Index [2 1 4 1 7 1]. -/
def exStm : Val := .objstm 50 2 [.num 2, .num 0, .num 3, .num 3, .val 20, .val 30]
def exHistB : History :=
  [⟨[(2, .plain 22), (4, .plain 40), (7, .plain 70)], 1, none⟩,
   ⟨[(1, .plain 10), (2, .plain 20), (3, .plain 30), (5, exStm), (6, .plain 60)], 1, none⟩]
def exObjsB : List (Nat × Nat × Nat × Val) :=
  [(15, 1, 0, .plain 10), (90, 5, 0, exStm), (120, 6, 0, .plain 60),
   (200, 2, 0, .plain 22), (230, 4, 0, .plain 40), (250, 7, 0, .plain 70)]
def exSecsB : List Section :=
  [.stream ⟨[(2, 1), (4, 1), (7, 1)], 1, 1, 1, [1, 200, 0, 1, 230, 0, 1, 250, 0]⟩,
   .stream ⟨[(0, 4), (5, 2)], 1, 1, 1, [0, 0, 255, 1, 15, 0, 2, 5, 0, 2, 5, 1, 1, 90, 0, 1, 120, 0]⟩]

example : repOK exObjsA 10 exSecsA exHist = true := by decide +kernel
example : repOK exObjsB 10 exSecsB exHistB = true := by decide +kernel
example : getobj exObjsB exSecsB 2 = .ok (.plain 22) ∧ getobj exObjsB exSecsB 3 = .ok (.plain 30) ∧
    getobj exObjsB exSecsB 9 = .error .notFound := by decide +kernel
example : ∀ n, n ∈ [1, 2, 3, 4] → getobj exObjsA exSecsA n = getobj exObjsB exSecsB n := by decide +kernel
example : queriesC exObjsB exSecsB [3, 2, 5, 3, 9, 2] [] =
    [.ok (.plain 30), .ok (.plain 22), .ok exStm, .ok (.plain 30), .error .notFound, .ok (.plain 22)] := by decide +kernel

end PdfVerif.Props.C02
