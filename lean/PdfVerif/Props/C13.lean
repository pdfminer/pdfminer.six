/-
C13 — Damaged input: errors stay in the library's family and work stays bounded.

Model: `PdfVerif.Model.Lenient` (hand model of pdfminer's lenient object access, tied to the
implementation by tools/harness/props/c13_model.py on random ill-typed / cyclic object graphs);
tables regenerated from the sources on every run: `PdfVerif.Gen.Lenient` (exception class
hierarchy, the `except` clauses of casting.safe_*, INHERITABLE_ATTRS, presence of the cycle guards).

`Allowed r` = `r` is a value or an error whose Python class descends from `PSException`
according to the regenerated class table.  `Err.fuel` (loop not finished within its fuel) and
`Err.internal _` (TypeError, KeyError, …) are not allowed, so every `C13_family_*` theorem
also says that the component terminates within the stated fuel.

Only property theorems live here (lemmas: `Lemmas/Lenient.lean`, `Lemmas/LenientCodec.lean`, `Lemmas/LenientTree.lean`).
The stream decoders / predictors / `PDFStream.decode` on damaged payloads are covered through C03's model
`PdfVerif.Filters` (tied to the code by `drv_c13` ops `dec` / `pred` / `sdec`, tools/harness/props/c13_codec.py), and
the work of `resolve1` / the xref chain / `resolve_all` is stated in `getobj` calls and sections loaded.
Components that are NOT modelled (parser, CCITT/Flate internals, name-tree walks, fonts, interpreter, layout,
converters, encryption) are covered by the fault enumeration of the harness only.
-/
import PdfVerif.Lemmas.Lenient
import PdfVerif.Lemmas.LenientCodec
import PdfVerif.Lemmas.LenientTree

namespace PdfVerif.Props.C13
open PdfVerif PdfVerif.Lenient

/-- Every error class the model can raise on purpose descends from `PSException` in the class
table regenerated from pdfminer/*.py. -/
theorem C13_family_classes :
    Err.isFamily .pdfTypeError = true ∧ Err.isFamily .pdfValueError = true ∧
    Err.isFamily .pdfObjectNotFound = true ∧ Err.isFamily .pdfSyntaxError = true ∧
    Err.isFamily .pdfNoValidXRef = true :=
  ⟨isFamily_pdfTypeError, isFamily_pdfValueError, isFamily_pdfObjectNotFound, isFamily_pdfSyntaxError,
    isFamily_pdfNoValidXRef⟩

/-- …and no builtin error (nor the fuel outcome) does. -/
theorem C13_internal_not_family : (∀ k, Err.isFamily (.internal k) = false) ∧ Err.isFamily .fuel = false :=
  ⟨fun _ => isFamily_eq _, isFamily_eq _⟩

/-- Each flag is regenerated as `true` only if the translator finds the visited-set test in the source of the walk.
The termination theorems below take the guard of their walk from here, so a guard removed from pdfminer breaks them. -/
theorem C13_guards_present :
    Gen.Lenient.resolve1Guard = true ∧ Gen.Lenient.resolveAllGuard = true ∧
    Gen.Lenient.pageTreeGuard = true ∧ Gen.Lenient.xrefChainGuard = true := by decide

/-- `NumberTree._parse` carries a visited set that also records the indirect `/Kids` array (test with exit,
growth, handed on to every recursive call) — regenerated from data_structures.py.  Presence only; what the guard
achieves in the modelled walk is `C13_numtree_visits_once`.  The defect it repairs (a directly written node naming the
array it sits in as its `/Kids`) is a corpus regression and an enumerated fault of the `basic` seed. -/
theorem C13_numtree_guard_present : Gen.Lenient.numberTreeGuard = true := by decide

/-- Termination: for EVERY object graph (self references, 2-cycles, long chains, missing objects) the
`while isinstance(x, PDFObjRef)` loop does not use up a fuel of `number of objects + 1` iterations.  (The bound on
the work is `C13_calls_resolve1`.) -/
theorem C13_fuel_resolve1 (strict : Bool) (g : Graph) (x : Obj) :
    resolve1Fuel strict g (g.length + 1) [] x ≠ .error .fuel :=
  (resolve1_allowed C13_guards_present.1 strict g x).ne_fuel

/-- `resolve1` returns a value or raises a family error (PDFValueError, STRICT mode only). -/
theorem C13_family_resolve1 (strict : Bool) (g : Graph) (x : Obj) : Allowed (resolve1 strict g x) :=
  resolve1_allowed C13_guards_present.1 strict g x

/-- In the default (non-STRICT) mode `resolve1` always returns a value. -/
theorem C13_total_resolve1 (g : Graph) (x : Obj) : ∃ v, resolve1 false g x = .ok v := by
  have h := resolve1_outcome C13_guards_present.1 false g x
  cases hr : resolve1 false g x with
  | ok v => exact ⟨v, rfl⟩
  | error e => exact absurd (h.error_of hr).1 Bool.false_ne_true

/-- Bounded work in the unit the document pays for: `resolve1` calls `getobj` (which may parse an object or unpack
an object stream) at most `number of distinct object numbers + 1` times — every followed reference is a new number,
and all but the last exist.  The harness counts the calls of the implementation (`calls` op): equal to the model's
count, hence within this bound. -/
theorem C13_calls_resolve1 (g : Graph) (x : Obj) : resolve1Calls g x ≤ (objids g).length + 1 :=
  Nat.le_trans (resolve1CallsFuel_le C13_guards_present.1 g _ [] x) (Nat.succ_le_succ (unvisited_le _ _))

/-- Non-vacuity: the bound is attained by a chain that ends at a missing object; a cycle stops after one round. -/
example : resolve1Calls [(1, .ref 2), (2, .ref 3)] (.ref 1) = 3 ∧ (objids [(1, .ref 2), (2, .ref 3)]).length = 2 := by decide +kernel
example : resolve1Calls [(6, .ref 7), (7, .ref 6), (7, .int 1)] (.ref 6) = 2 := by decide +kernel

/-- Non-vacuity: the pre-registered defect `6 0 obj 6 0 R` and a 2-cycle resolve to null. -/
example : resolve1 false [(6, .ref 6)] (.ref 6) = .ok .null := rfl
example : resolve1 false [(6, .ref 7), (7, .ref 6)] (.ref 6) = .ok .null := rfl
example : resolve1 true [(6, .ref 7), (7, .ref 6)] (.ref 6) = .error .pdfValueError := rfl
example : resolve1 false [(1, .ref 2), (2, .ref 3), (3, .int 5)] (.ref 1) = .ok (.int 5) := rfl

section accessors
variable (strict : Bool) (g : Graph) (x : Obj)

theorem C13_family_int_value : Allowed (intValue strict g x) := intValue_allowed C13_guards_present.1 strict g x
theorem C13_family_float_value : Allowed (floatValue strict g x) := floatValue_allowed C13_guards_present.1 strict g x
theorem C13_family_num_value : Allowed (numValue strict g x) := numValue_allowed C13_guards_present.1 strict g x
theorem C13_family_str_value : Allowed (strValue strict g x) := strValue_allowed C13_guards_present.1 strict g x
theorem C13_family_list_value : Allowed (listValue strict g x) := listValue_allowed C13_guards_present.1 strict g x
theorem C13_family_dict_value : Allowed (dictValue strict g x) := dictValue_allowed C13_guards_present.1 strict g x
theorem C13_family_stream_value : Allowed (streamValue strict g x) := streamValue_allowed C13_guards_present.1 strict g x

theorem C13_family_uint_value (nbits : Nat) : Allowed (uintValue strict g x nbits) :=
  (C13_family_int_value strict g x).bind fun _ => trivial

end accessors

/-- `safe_int` never raises, whatever the value and whatever Python's parsing of byte strings does
(uses the `except` clause regenerated from casting.py: dropping ValueError from it breaks this proof). -/
theorem C13_family_safe_int (parse : Bytes → Option Int) (o : Obj) : ∃ v, safeInt parse o = .ok v := by
  refine safeConv_ok fun k hk => ?_
  revert hk
  fun_cases pyInt' parse o <;> intro hk <;> cases hk <;> decide

theorem C13_family_safe_float (parse : Bytes → Option Rat) (o : Obj) : ∃ v, safeFloat parse o = .ok v := by
  refine safeConv_ok fun k hk => ?_
  revert hk
  fun_cases pyFloat' parse o <;> intro hk <;> cases hk <;> decide

/-- `safe_rect_list` never raises, for every value — arrays of anything, strings, dictionaries, scalars and
streams (a PDFStream is "iterable" through `__getitem__`, which raises KeyError: the regenerated `except`
clause lists it, which the pinned code did not; without KeyError in it the statement fails on a stream value). -/
theorem C13_family_safe_rect_list (parse : Bytes → Option Rat) (o : Obj) :
    ∃ v, safeRectList parse o = .ok v := by
  unfold safeRectList
  refine exists_ok_bind (safeConv_ok fun k hk => ?_) fun vs? => ?_
  · cases o <;> cases hk <;> decide
  · cases vs? with
    | none => exact ⟨_, rfl⟩
    | some vs =>
      dsimp only
      split
      · exact ⟨_, rfl⟩
      · exact exists_ok_bind (exists_ok_mapM (C13_family_safe_float parse) vs) fun fs => by
          split <;> exact ⟨_, rfl⟩

/-- Termination: following `Prev` / `XRefStm` entries — including chains that point back at a section
already read — never needs a recursion deeper than `number of sections + 1`. -/
theorem C13_fuel_xref_chain (strict : Bool) (g : Graph) (t : XrefTable) (start : Int) :
    readXrefFuel strict g t (t.length + 1) start [] ≠ .error .fuel :=
  (readXref_good C13_guards_present.1 C13_guards_present.2.2.2 strict g t start).allowed.ne_fuel

/-- …and it ends with the list of sections or a family error (PDFNoValidXRef for an unparseable or
negative position; PDFTypeError / PDFValueError from `int_value` in STRICT mode). -/
theorem C13_family_xref_chain (strict : Bool) (g : Graph) (t : XrefTable) (start : Int) :
    Allowed (readXref strict g t start) :=
  (readXref_outcome C13_guards_present.1 C13_guards_present.2.2.2 strict g t start).allowed

/-- Total work of the chain: every section is loaded at most once, so the number of sections
`read_xref_from` loads — each one a parse of a table or of an xref stream — is at most the number of sections of
the file, however the `Prev` / `XRefStm` entries are wired.  (The harness compares the list of loaded sections of
the implementation with the model's on every generated file.) -/
theorem C13_work_xref_chain (strict : Bool) (g : Graph) (t : XrefTable) (start : Int) (l : List Int)
    (h : readXref strict g t start = .ok l) : l.length ≤ t.length :=
  (readXref_outcome C13_guards_present.1 C13_guards_present.2.2.2 strict g t start).ok_of h

/-- Non-vacuity: two sections that name each other through both entries are loaded once each. -/
example : (readXref false [] [(100, ⟨some (.int 200), some (.int 200)⟩), (200, ⟨some (.int 100), some (.int 100)⟩)] 100).map
    List.length = .ok 2 := rfl

/-- Non-vacuity: a section whose Prev points at itself, and a 2-cycle, load and stop. -/
example : readXref false [] [(100, ⟨none, some (.int 100)⟩)] 100 = .ok [100] := rfl
example : readXref false [] [(100, ⟨none, some (.int 200)⟩), (200, ⟨some (.int 100), some (.int 100)⟩)] 100
    = .ok [100, 200] := rfl
example : readXref false [] [(100, ⟨none, some (.int (-1))⟩)] 100 = .error .pdfNoValidXRef := rfl

/-- Bound on the recursion DEPTH of `resolve_all` (Python stack frames) for every object graph and value:
each object can be entered at most once on a path (path guard) and is then walked through its nesting, so
`(objects + 1) · (deepest nesting + 2) + nesting of the value + 2` levels always suffice — reference cycles,
Parent back-pointers and shared sub-objects included. -/
theorem C13_fuel_resolve_all (strict : Bool) (g : Graph) (x : Obj) :
    resolveAllFuel strict g (resolveAllBudget g x) [] x ≠ .error .fuel :=
  fun h => Err.noConfusion ((resolveAll_outcome C13_guards_present.2.1 strict g x).error_of h)

/-- `resolve_all` returns the fully resolved value or the STRICT-mode circular-reference error. -/
theorem C13_family_resolve_all (strict : Bool) (g : Graph) (x : Obj) : Allowed (resolveAll strict g x) :=
  ((resolveAll_outcome C13_guards_present.2.1 strict g x).imp (fun _ h => h ▸ isFamily_pdfValueError)
    fun _ h => h).allowed

/-- Counter-example to a bound on the TOTAL work of `resolve_all` by the input size: the guard cuts cycles
by path, so a value shared along two paths is resolved twice.  On the 10 objects `k: [k+1 0 R k+1 0 R]` it makes
2047 `getobj` calls, on 11 objects 4095 (2ⁿ⁺¹ − 1; the harness measures the same numbers on the implementation,
`ra_calls` op).  Only the DEPTH bound `C13_fuel_resolve_all` holds.  Not reachable by a single fault of a seed document
(it needs n edited objects), hence recorded as an observation, not as a finding — see docs/C13.md. -/
theorem C13_resolve_all_calls_cex :
    resolveAllCalls (diamond 10 0) (.ref 1) = 2047 ∧ (diamond 10 0).length = 10 ∧
    resolveAllCalls (diamond 11 0) (.ref 1) = 4095 := by
  refine ⟨?_, by decide, ?_⟩ <;>
    simp [resolveAllCalls, resolveAllBudget, graphDepth, Obj.depth, depthList, diamond, resolveAllCallsFuel,
      resolveAllCallsList, List.lookup, Gen.Lenient.resolveAllGuard]

/-! ## page-tree walk (`PDFPage.create_pages.depth_first_search`) -/

/-- Termination for EVERY object graph — Kids cycles, a node listed twice, Parent used as a kid, missing
objects, direct (non-indirect) nodes, integers used as object numbers: the recursion is never deeper than
`number of objects + 2` (a node that recurses is an object of the graph not yet in the visited set: `dfs_good`). -/
theorem C13_fuel_pagetree (strict : Bool) (g : Graph) (root : Obj) (parent : List (String × Obj)) :
    dfsFuel strict g (g.length + 2) root parent [] ≠ .error .fuel :=
  (pageTree_good C13_guards_present.1 C13_guards_present.2.2.1 (by decide) strict g root parent).allowed.ne_fuel

/-- The walk ends with the list of pages or a family error (PDFObjectNotFound for an integer kid that names
no object; PDFTypeError / PDFValueError in STRICT mode). -/
theorem C13_family_pagetree (strict : Bool) (g : Graph) (catalog : List (String × Obj)) :
    Allowed (pageTree strict g catalog) := by
  fun_cases pageTree strict g catalog
  case case1 => trivial
  case case2 root _ =>
    exact (pageTree_good C13_guards_present.1 C13_guards_present.2.2.1 (by decide) strict g root
      catalog).allowed.bind fun _ => trivial

/-- `get_widths` returns a value or propagates `resolve1`'s STRICT-mode family error, for every array and
every object graph. -/
theorem C13_family_get_widths (strict : Bool) (g : Graph) (seq : List Obj) :
    Allowed (getWidths strict g seq) :=
  (getWidthsLoop_outcome C13_guards_present.1 strict g seq []).allowed

/-- Bounded work: the number of dictionary entries `get_widths` materialises is at most `MAX_CID + 1`
(regenerated from pdffont.py; 65536) per element of the W array plus the lengths of the `c [w …]` arrays
it copies — whatever the numbers in the array are.  (Before the clamp to `MAX_CID` was added in the repo,
`/W [0 N 500]` cost N + 1 steps.) -/
theorem C13_fuel_get_widths (strict : Bool) (g : Graph) (seq : List Obj) (ws : List WEntry)
    (h : getWidths strict g seq = .ok ws) :
    widthsWork ws ≤ 65536 * seq.length + runTotal ws := by
  have hs := (getWidthsLoop_outcome C13_guards_present.1 strict g seq []).ok_of h
  have hw := widthsWork_le ws hs.2
  have hm : (Gen.Lenient.maxCid + 1).toNat = 65536 := by decide
  rw [hm] at hw
  have : 65536 * ws.length ≤ 65536 * seq.length := Nat.mul_le_mul_left _ hs.1
  omega

/-- Non-vacuity: a range far beyond the CID range is clamped, a run is copied. -/
example : (getWidths false [] [.int 0, .int 1000000000000, .int 500, .int 7, .arr [.int 1, .int 2]]).map widthsWork
    = .ok 65538 := rfl

/-! ## stream decoders on damaged payloads

The decoder model is `Model/Filters.lean` (C03's model of ascii85.py / runlength.py / pdftypes.PDFStream.decode);
C03 proves round trips on VALID encodings and that the fuels suffice.  Here: for EVERY payload (truncated,
corrupted, random) the output is no longer than a stated linear function of the input, and every error a decoder
can raise is caught by `except _DECODE_ERRORS` of `PDFStream.decode` (tuple regenerated from pdftypes.py into
`Gen.Filters.DECODE_ERRORS`), so that no decoder error leaves `PDFStream.decode`.  The C13 harness runs the same
model functions through `drv_c13` (`dec …`) against the real decoders on damaged encodings and checks the same
bounds, plus a linear bound on the executed line events, on the implementation. -/

/-- RunLength: every run of the input yields at most 128 bytes; a truncated run raises StopIteration (or the
RuntimeError Python makes of it inside the generator expression), both caught by `PDFStream.decode`. -/
theorem C13_bound_rldecode (data : Bytes) :
    (∀ out, Filters.rldecode data = .ok out → out.length ≤ 128 * data.length) ∧
    (∀ e, Filters.rldecode data = .error e → e.isDecodeError = true) := by
  refine ⟨fun out h => (Filters.rldecodeAux_outcome _ _).ok_of h, fun e h => ?_⟩
  rcases (Filters.rldecodeAux_outcome _ _).error_of h with rfl | rfl <;> exact Filters.isDecodeError_eq _

/-- ASCIIHex: two digits per byte (+1 for the implied `0` before `>`); the only error is `binascii.Error`
(a ValueError), caught by `PDFStream.decode`. -/
theorem C13_bound_asciihexdecode (data : Bytes) :
    (∀ out, Filters.asciihexdecode data = .ok out → 2 * out.length ≤ data.length + 1) ∧
    (∀ e, Filters.asciihexdecode data = .error e → e.isDecodeError = true) := by
  refine ⟨fun out h => (Filters.asciihexdecode_outcome data).ok_of h, fun e h => ?_⟩
  rw [(Filters.asciihexdecode_outcome data).error_of h]; exact Filters.isDecodeError_eq _

/-- ASCII85: at most 4 bytes per input character (`z`), 16 for the padding group; the only error is ValueError. -/
theorem C13_bound_ascii85decode (data : Bytes) :
    (∀ out, Filters.ascii85decode data = .ok out → out.length ≤ 4 * data.length + 16) ∧
    (∀ e, Filters.ascii85decode data = .error e → e.isDecodeError = true) := by
  refine ⟨fun out h => (Filters.ascii85decode_outcome data).ok_of h, fun e h => ?_⟩
  rw [(Filters.ascii85decode_outcome data).error_of h]; exact Filters.isDecodeError_eq _

/-- LZW: a code emits a table entry, and entries grow by one byte per code, so the output is at most quadratic in
the number of codes: `(8·|data| + 1)·(8·|data| + 2)` bytes (fuel of the loop = one unit per code; C03's
`lzwdecode_fuel` shows it suffices).  The only error is IndexError (code beyond the table, or before the first
clear code), caught by `PDFStream.decode`; EOF and CorruptDataError end the loop inside `LZWDecoder.run`. -/
theorem C13_bound_lzwdecode (data : Bytes) :
    (∀ out, Filters.lzwdecode data = .ok out → out.length ≤ (8 * data.length + 1) * (8 * data.length + 2)) ∧
    (∀ e, Filters.lzwdecode data = .error e → e.isDecodeError = true) := by
  refine ⟨fun out h => (Filters.lzwdecode_outcome data).ok_of h, fun e h => ?_⟩
  rw [(Filters.lzwdecode_outcome data).error_of h]; exact Filters.isDecodeError_eq _

/-- Predictors on ARBITRARY parameters (Colors, Columns, BitsPerComponent any natural numbers — zero, huge,
inconsistent with the data) and arbitrary data: the output is never longer than the input.  (Their errors —
IndexError on a short row, ValueError for a zero row length, PDFValueError — are covered by
`C13_family_stream_decode`; C03's `png_fuel` / `tiff_fuel` show that one unit of fuel per input byte suffices.) -/
theorem C13_bound_predictors (colors columns bpc : Nat) (data out : Bytes) :
    (Filters.apply_png_predictor colors columns bpc data = .ok out → out.length ≤ data.length) ∧
    (Filters.apply_tiff_predictor colors columns bpc data = .ok out → out.length ≤ data.length) :=
  ⟨(Filters.apply_png_predictor_len _ _ _ _).ok_of, (Filters.apply_tiff_predictor_len _ _ _ _).ok_of⟩

/-- Non-vacuity: zero columns (every byte is a row of its own), a short last row, an unknown filter type. -/
example : Filters.apply_png_predictor 1 0 8 [0, 1, 2] = .ok [] := by decide +kernel
example : Filters.apply_png_predictor 1 2 8 [1, 5, 5, 2, 7] = .ok [5, 10, 12] := by decide +kernel
example : Filters.apply_png_predictor 1 2 8 [7, 5, 5] = .error .pdfValue := by decide +kernel
example : Filters.apply_tiff_predictor 1 2 8 [1, 2, 3] = .error .indexError := by decide +kernel
example : Filters.apply_tiff_predictor 0 2 8 [1, 2, 3] = .error .valueError := by decide +kernel

/-- `PDFStream.decode` (non-STRICT), whole filter chain with predictors, on every payload and every
Filter/DecodeParms value of the model: it returns data, or raises a `PDFException` (PDFValueError for an unknown
predictor, PDFNotImplementedError for an unsupported filter; `outOfModel` marks CCITTFax, which C02 models) —
never one of the builtin errors of the decoders.  Holds because every builtin error class of the model's `Err`
is in the regenerated `_DECODE_ERRORS`: removing one from pdftypes.py breaks this proof. -/
theorem C13_family_stream_decode (inflate : Bytes → Bytes) (f : Filters.FilterVal) (p : Filters.ParmsVal) (raw : Bytes) :
    (∃ d, Filters.streamDecode inflate f p raw = .ok d) ∨
    (∃ e, Filters.streamDecode inflate f p raw = .error e ∧
      (e = .pdfValue ∨ e = .pdfNotImplemented ∨ e = .psEOF ∨ e = .outOfModel)) := by
  fun_cases Filters.streamDecode inflate f p raw
  case case1 | case2 => exact Or.inl ⟨_, rfl⟩
  case case3 e _ he =>
    refine Or.inr ⟨e, rfl, ?_⟩
    rw [Filters.isDecodeError_eq] at he
    cases e <;> first | exact absurd rfl he | decide

/-- Non-vacuity: a literal run cut short, a repeat run without its byte, an odd hex digit, a bad ASCII85 digit;
and the bounds are attained (a repeat run of 128, `z`). -/
example : Filters.rldecode [2, 65] = .error .runtimeError := by decide +kernel
example : Filters.rldecode [200] = .error .stopIteration := by decide +kernel
example : (Filters.rldecode [129, 7]).map List.length = .ok (128 : Nat) := by decide +kernel
example : Filters.asciihexdecode [52, 49, 52] = .error .binascii := by decide +kernel
example : Filters.asciihexdecode [52, 62] = .ok [64] := by decide +kernel
example : (Filters.ascii85decode [122]).map List.length = .ok (4 : Nat) := by decide +kernel
example : Filters.ascii85decode [118] = .error .valueError := by decide +kernel
example : Filters.streamDecode id (.name [82, 76]) .absent [2, 65] = .ok [] := by decide +kernel
example : Filters.lzwdecode [0x00, 0x80] = .error .indexError := by decide +kernel
example : Filters.lzwdecode [0x80, 0x0b, 0x60, 0x50, 0x22, 0x0c, 0x0c, 0x85, 0x01] = .ok [45, 45, 45, 45, 45, 65, 45, 45, 45, 66] := by
  decide +kernel

/-! ## the number-tree walk (`data_structures.NumberTree._parse`)

Model: `Model/LenientTree.lean` (`ntNode` = `NumberTree.__init__` + the leaf part of `_parse`, `ntParseFuel` /
`ntKidsFuel` = the walk with the visited set handed through; nodes and `/Kids` arrays direct or by reference), tied to
the real class by the `numtree` op of `drv_c13` on generated cyclic / shared / deep / ill-typed trees (items in order
and visited set in insertion order must be equal). -/

/-- For EVERY object graph, every start value, every fuel and both STRICT settings the walk yields the items, an error of
the family (PDFTypeError / PDFValueError of the typed accessors), or the out-of-fuel outcome — never a builtin error.
PARTIAL: what is missing is the proof that the depth fuel `resolveAllBudget g obj` of `numTree` always suffices
(each reference followed is new — see `C13_numtree_visits_once` — and inside an object the walk descends through
its nesting); the harness checks on every generated tree that the model never answers `E fuel` and that the
implementation returns. -/
theorem C13_family_numtree_partial (strict : Bool) (g : Graph) (fuel : Nat) (obj : Obj) :
    match ntParseFuel strict g fuel obj [] with
    | .ok _ => True
    | .error e => e.isFamily = true ∨ e = .fuel := by
  have h := ntParse_good C13_guards_present.1 C13_numtree_guard_present strict g fuel obj [] List.nodup_nil
  cases hr : ntParseFuel strict g fuel obj [] with
  | ok r => trivial
  | error e => exact h.error_of hr

/-- Every indirect node and every indirect `/Kids` array is entered at most once in the whole walk (siblings and
cousins included): the visited set the walk returns is duplicate free, for every graph, start value and fuel. -/
theorem C13_numtree_visits_once (strict : Bool) (g : Graph) (fuel : Nat) (obj : Obj)
    (its : List (Obj × Obj)) (v : List Nat) (h : ntParseFuel strict g fuel obj [] = .ok (its, v)) : v.Nodup :=
  (ntParse_good C13_guards_present.1 C13_numtree_guard_present strict g fuel obj [] List.nodup_nil).ok_of h

/-- Non-vacuity: the defect of fix 8f4f6ca — a node written directly into the Kids array object 5 that names 5 as its own
`/Kids` — ends with the array recorded once; a leaf behind a reference yields its item. -/
example : ntParseFuel false [(5, .arr [.dict [("Kids", .ref 5)]])] 6 (.dict [("Kids", .ref 5)]) [] = .ok ([], [5]) := by
  simp [ntParseFuel, ntKidsFuel, ntNode, ntList, ntItems, ntKidsRef, dictValue, listValue, resolve1, resolve1Fuel,
    List.lookup, Gen.Lenient.numberTreeGuard, Gen.Lenient.resolve1Guard, bind, Except.bind, pure, Except.pure]
example : ntParseFuel false [(2, .dict [("Nums", .arr [.int 4, .name "x"])])] 6 (.dict [("Kids", .arr [.ref 2, .ref 2])]) []
    = .ok ([(.int 4, .name "x")], [2]) := by
  simp [ntParseFuel, ntKidsFuel, ntNode, ntList, ntItems, ntKidsRef, dictValue, listValue, intValue, resolve1, resolve1Fuel,
    List.lookup, Gen.Lenient.resolve1Guard, bind, Except.bind, pure, Except.pure]

end PdfVerif.Props.C13
