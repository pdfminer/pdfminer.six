/-
C14 — the tokenizer is total, makes progress and is buffer-size independent on all bytes.

Statements are about `Lexer.run b data` (Model/Lexer.lean): the `nexttoken` loop of
`PSBaseParser` over `BytesIO(data)` with `BUFSIZ = b`, all tokens collected until PSEOF, one
unit of fuel per scanner call.  The byte classes it uses are regenerated from psparser.py.
Progress has no theorem of its own: it is the measure of `Lexer.call_measure` (a scanner call consumes a
byte or hands over to a scanner of lower `rank`), which gives the fuel bound of `C14_total`.
-/
import PdfVerif.Lemmas.LexerPos
import PdfVerif.Lemmas.LexerErr
import PdfVerif.Lemmas.LexCompose
import PdfVerif.Lemmas.LexScanTie

namespace PdfVerif.Props.C14
open PdfVerif PdfVerif.Lexer PdfVerif.Gen.LexTables PdfVerif.Gen.LexScan

/-- The buffered tokenizer equals the buffer-free byte automaton, for every buffer size ≥ 1. -/
theorem C14_run_eq_spec (b : Nat) (hb : 1 ≤ b) (data : Bytes) : run b data = some (specLex data) := by
  have h := runLoop_eq b hb (fuelFor data) false St.init [] data 0 (by simp)
    (by simp [fuelFor, St.init, rank]; omega)
  simpa [run, specLex] using h

/-- Totality with a linear work bound: `3·|data| + 6` scanner calls are never exhausted. -/
theorem C14_total (b : Nat) (hb : 1 ≤ b) (data : Bytes) :
    runLoop b (3 * data.length + 6) false St.init [] data 0 ≠ none := by
  have h := C14_run_eq_spec b hb data
  simp only [run, fuelFor] at h
  rw [h]; simp

/-- The identical token sequence for every read-buffer size. -/
theorem C14_bufsize_indep (b₁ b₂ : Nat) (h₁ : 1 ≤ b₁) (h₂ : 1 ≤ b₂) (data : Bytes) :
    run b₁ data = run b₂ data := by
  rw [C14_run_eq_spec b₁ h₁, C14_run_eq_spec b₂ h₂]

/-- Token positions never decrease and lie inside the input (stated for the buffer-free sequence;
    by `C14_run_eq_spec` it is the sequence of every buffer size).  Uses the regenerated NONSPC table:
    the flushed newline is not a token start. -/
theorem C14_positions (data : Bytes) :
    (specLex data).Pairwise (fun a b => a.1 ≤ b.1) ∧ ∀ t ∈ specLex data, t.1 < data.length := by
  have hf := foldBytes_within data St.init 0 (Nat.le_refl _)
  have hfl := stepN_spc 10 (by rw [isNONSPC_eq]; rfl) 3 (foldBytes St.init data 0).1 data.length
  have hb := posWithin_append hf.2.2 hfl.2 hf.1 (Nat.le_refl _)
  rw [← stepByte, ← specLex_eq] at hb
  refine ⟨hb.1, fun t ht => ?_⟩
  cases data with
  | nil => simp [specLex_nil] at ht
  | cons c tl =>
    have := (hb.2 t ht).2
    have hmax := hf.2.1
    simp only [List.length_cons] at hmax ⊢
    have htp : St.init.tpos = 0 := rfl
    omega

theorem C14_positions_run (b : Nat) (hb : 1 ≤ b) (data : Bytes) :
    ∃ ts, run b data = some ts ∧ ts.Pairwise (fun a b => a.1 ≤ b.1) ∧ ∀ t ∈ ts, t.1 < data.length :=
  ⟨specLex data, C14_run_eq_spec b hb data, C14_positions data⟩

/-- Nothing but end of input is signalled: no exception of a Python primitive reached by the scanners
    (`int(.., 16)`, `int(.., 8)`, `bytes((v,))`, the HEX_PAIR substitution) escapes, on any byte string.
    (`int()`/`float()` of a number token raise ValueError inside a `try` of the scanner: no token.) -/
theorem C14_only_eof (data : Bytes) : ∀ t ∈ specLex data, isErr t.2 = false :=
  (foldBytes_ok (data ++ [10]) St.init 0 inv_init).2

theorem C14_only_eof_run (b : Nat) (hb : 1 ≤ b) (data : Bytes) :
    ∃ ts, run b data = some ts ∧ ∀ t ∈ ts, isErr t.2 = false :=
  ⟨specLex data, C14_run_eq_spec b hb data, C14_only_eof data⟩

def modeCode : Mode → Nat
  | .main => 0 | .comment => 1 | .literal => 2 | .number => 3 | .float => 4 | .keyword => 5 | .string => 6
  | .wopen => 7 | .wclose => 8 | _ => 99

/-- Rows `(test, literal, target)` as coded at `Gen.LexTables.MAIN_DISPATCH`. -/
def dispatchOf : List (Nat × List UInt8 × Nat) → UInt8 → Nat
  | [], _ => 999
  | (k, lit, t) :: r, c =>
    if (k == 0 && lit == [c]) || (k == 1 && (lit.contains c || isDigit c)) || (k == 2 && isAlpha c) || k == 3 then t
    else dispatchOf r c

def mainHitCode (c : UInt8) : Nat :=
  modeCode (parseMainHit St.init c 0).st.mode + (if (parseMainHit St.init c 0).toks.isEmpty then 0 else 100)

/-- For each of the 256 bytes, the scanner `parseMainHit` hands over to and whether it adds a token
    (`mainHitCode`, read off the hit at the initial state) are those of the first matching row of the
    if/elif chain of `PSBaseParser._parse_main` as tabulated from the source (`Gen.LexTables.MAIN_DISPATCH`);
    the boolean keywords are the literals of `_parse_keyword`.  Attribute updates and token values are not
    compared here: `C14_scanners_tied` equates the whole body, for every state, with the translated program.
    This one ties the model to a second, independently regenerated artefact, the table. -/
theorem C14_dispatch_tied :
    (∀ c : UInt8, (mainHitCode c == dispatchOf MAIN_DISPATCH c) = true) ∧ kwTrue = KW_TRUE ∧ kwFalse = KW_FALSE :=
  ⟨forall_byte _ (by decide +kernel), by decide, by decide⟩

/-- For EVERY parser state, byte and position, what the hand model does at the byte a scanner stops at
    (`parseMainHit … parseHexstringHit`, dispatched by `atHit`) is the interpretation of that scanner's
    body as translated from `PSBaseParser._parse_*` (conditions, attribute updates, tokens
    added, `return k` vs `return k + 1`, escaping ValueError).  An edit of the straight-line code of any
    of the thirteen scanners changes `Gen/LexScan.lean` and breaks this proof. -/
theorem C14_scanners_tied (st : St) (c : UInt8) (j : Nat) : atHit st c j = genAtHit st c j := by
  unfold atHit genAtHit
  cases hm : st.mode <;> simp only [scnOfMode]
  · exact tie_main st c j
  · exact tie_comment st c j
  · exact tie_literal st c j
  · exact tie_literalHex st c j
  · exact tie_number st c j
  · exact tie_float st c j
  · exact tie_keyword st c j
  · exact tie_string st c j
  · exact tie_string1 st c j
  · exact tie_string2 st c j
  · exact tie_wopen st c j
  · exact tie_wclose st c j
  · exact tie_hexstring st c j

/-- The regex every scanner searches the buffer with is the one in its regenerated preamble. -/
theorem C14_search_tied (m : Mode) : searchClass m = ((scnOfMode m).bind searchRe).map clsFn := by
  cases m <;> rfl

/-- One whole scanner call `self._parse1(buf, charpos)` of the hand model (search, bytes appended to
    `_curtoken`, body, returned index) equals the call assembled from regenerated parts only.  The loop
    around the calls (`runLoop`: `nexttoken`, `fillbuf`, the flush at end of input) is not restated over
    `genCall`; it stays hand-written. -/
theorem C14_call_tied (st : St) (rest : Bytes) (pos : Nat) : call st rest pos = genCall st rest pos := by
  cases rest with
  | nil => unfold call genCall; cases hm : scnOfMode st.mode <;> simp [call]
  | cons c0 tl0 =>
    cases hm : scnOfMode st.mode with
    | none => simp [genCall, hm]
    | some m =>
      have hat : ∀ s' : St, s'.mode = st.mode → ∀ c j, atHit s' c j = genHit m s' c j := by
        intro s' hs' c j
        rw [C14_scanners_tied, genAtHit, hs', hm]
      simp only [call, genCall, hm, C14_search_tied st.mode, Option.bind_some]
      cases hr : searchRe m with
      | none => simp [hat st rfl]
      | some r =>
        simp only [Option.map_some]
        rw [← accum_eq_gen st (search (clsFn r) (c0 :: tl0)).1 m hm (by simp [hr])]
        cases h2 : (search (clsFn r) (c0 :: tl0)).2 with
        | nil => simp
        | cons c tl => simp [hat _ (accum_mode st _)]

/-- Non-vacuity: the regenerated `_parse_string_1` closes a three-digit octal escape with overflow,
    the regenerated `_parse_literal` call stops at `#`. -/
example : (genAtHit { mode := .string1, cur := [97], oct := [55, 55, 55] } 41 5).st.cur = [97, 255] := by decide +kernel
example : (genCall { mode := .literal, cur := [65] } [66, 35, 52] 7).st.mode = .literalHex ∧
    (genCall { mode := .literal, cur := [65] } [66, 35, 52] 7).pos = 9 := by decide +kernel

/-- Once the lexer is back in the main scanner after `pre` (e.g. `pre` ends with a delimiter-closed token
    or with white space), the rest is tokenised as a fresh input: same token values, positions shifted
    by `|pre|`. -/
theorem C14_compositional_main (pre b : Bytes) (hm : modeAfter pre = .main) :
    specLex (pre ++ b) = specLex pre ++ shiftToks pre.length (specLex b) :=
  specLex_append_main pre b hm

/-- Compositionality with a white-space separator: when `a` ends in a complete token (the lexer is not
    inside a string, a hexadecimal string or a comment and not behind a lone `<`: `Complete`), then for
    every non-empty run `ws` of white-space bytes (every byte of the regenerated SPC table: NUL HT LF VT
    FF CR SP) and every `b`, the tokens of `a ++ ws ++ b` are exactly the tokens of `a` followed by the
    tokens of `b`, shifted by `|a| + |ws|`. -/
theorem C14_compositional (a ws b : Bytes) (hc : Complete (modeAfter a) = true)
    (hne : ws ≠ []) (hws : ∀ c ∈ ws, isSPC c = true) :
    specLex (a ++ ws ++ b) = concatLex a ws b :=
  specLex_append_ws a ws b hc hne hws

theorem C14_compositional_run (n : Nat) (hn : 1 ≤ n) (a ws b : Bytes) (hc : Complete (modeAfter a) = true)
    (hne : ws ≠ []) (hws : ∀ c ∈ ws, isSPC c = true) :
    run n (a ++ ws ++ b) = some (concatLex a ws b) := by
  rw [C14_run_eq_spec n hn, C14_compositional a ws b hc hne hws]

/-- Any number of pieces (the content streams of a page, C05): when every piece but the last ends in a
    complete token, the token values of the pieces joined by a white-space separator are the token values
    of the pieces, one after the other. -/
theorem C14_compositional_list (ws : Bytes) (hne : ws ≠ []) (hws : ∀ c ∈ ws, isSPC c = true) :
    ∀ parts : List Bytes, (∀ p ∈ parts.dropLast, Complete (modeAfter p) = true) →
      tokValues (specLex (joinWith ws parts)) = (parts.map (fun p => tokValues (specLex p))).flatten
  | [], _ => by simp [joinWith, specLex_nil, tokValues]
  | [a], _ => by simp [joinWith]
  | a :: b :: r, h => by
    have ih := C14_compositional_list ws hne hws (b :: r) (fun p hp => h p (List.mem_cons_of_mem _ hp))
    simp only [joinWith]
    rw [C14_compositional a ws _ (h a (by simp)) hne hws, concatLex, tokValues_append, tokValues_shiftToks, ih]
    rfl

/-- The hypothesis cannot be dropped: inside a literal string the separator and what follows belong to
    the string. -/
theorem C14_compositional_open_cex :
    Complete (modeAfter [40, 97]) = false ∧ specLex ([40, 97] ++ [32] ++ [41, 49]) ≠ concatLex [40, 97] [32] [41, 49] := by
  decide +kernel

/-- Non-vacuity: `/A#4` (pending name escape) + NUL CR + `(x)12`; `12` + LF + `0 R`. -/
example : Complete (modeAfter [47, 65, 35, 52]) = true ∧ (∀ c ∈ ([0, 13] : Bytes), isSPC c = true) ∧
    specLex ([47, 65, 35, 52] ++ [0, 13] ++ [40, 120, 41, 49, 50])
      = [(0, .lit [65, 4]), (6, .str [120]), (9, .int 12)] := by decide +kernel
example : Complete (modeAfter [49, 50]) = true ∧ concatLex [49, 50] [10] [48, 32, 82]
    = [(0, .int 12), (3, .int 0), (5, .kwd [82])] := by decide +kernel
example : tokValues (specLex (joinWith [10] [[49, 50], [47, 65, 35, 52], [40, 120, 41]]))
    = [.int 12, .lit [65, 4], .str [120]] := by decide +kernel
example : modeAfter [60, 52, 49, 62] = .wclose ∧ modeAfter [40, 97, 41] = .main := by decide +kernel

/-- Non-vacuity: a literal string with a backslash-CR-LF continuation split by the buffer boundary,
    an over-long octal escape and a `#xx` name, at buffer sizes 1, 3 and 4096. -/
example : run 3 [40, 97, 92, 13, 10, 98, 92, 55, 55, 55, 41, 47, 65, 35, 52, 49, 32]
    = some [(0, .str [97, 98, 255]), (11, .lit [65, 65])] := by decide +kernel
example : run 1 [40, 97, 92, 13, 10, 98, 92, 55, 55, 55, 41, 47, 65, 35, 52, 49, 32]
    = run 4096 [40, 97, 92, 13, 10, 98, 92, 55, 55, 55, 41, 47, 65, 35, 52, 49, 32] := by decide +kernel

end PdfVerif.Props.C14
