/-
C11 — property theorems (model: Model/Convert.lean + regenerated Gen/ConvertXml.lean, Gen/ConvertCtl.lean;
spec: Spec/Xml.lean).
-/
import PdfVerif.Lemmas.XmlDoc
import PdfVerif.Lemmas.Format
import PdfVerif.Lemmas.XmlInj
import PdfVerif.Lemmas.ConvertCodec

namespace PdfVerif.Props.C11
open PdfVerif PdfVerif.Convert PdfVerif.Xml

/-! ## Text output = in-order text of the hierarchy -/

mutual
theorem text_item (i : Item) : (textWrites i).flatten = specTextItem i := by
  cases i <;> simp [textWrites, specTextItem, text_items, Gen.ConvertXml.t_text_box_end]
theorem text_items (is : List Item) : (textWritesL is).flatten = specTextL is := by
  cases is with
  | nil => simp [textWritesL, specTextL]
  | cons i is => simp [textWritesL, specTextL, text_item, text_items]
end

/-- What a text sink receives from `TextConverter` for a document = the in-order concatenation of the
text of the layout hierarchy, one line break after each text box, one form feed after each page. -/
theorem C11_text (ps : List Page) : sinkText (textDocWrites ps) = specText ps :=
  sinkText_flatMap (fun p => by
    simp [textPageWrites, specTextPage, text_items, Gen.ConvertXml.t_text_page_end]) ps

example : sinkText (textDocWrites
    [⟨['1'], [], ['0'], [.textbox ['0'] [] false [.textline [] [.char [] [] [] [] [] ['<', 'a'], .anno ['\n']]],
                        .figure ['"'] [] [.char [] [] [] [] [] ['&']]], none⟩])
    = ['<', 'a', '\n', '\n', '&', '\x0c'] := by decide +kernel

/-! ### every `showpageno` choice, and raw glyph mode (`laparams=None`) -/

/-- For every tree and BOTH `showpageno` choices: what a text sink receives from `TextConverter` = per page the
optional `Page <id>` header, the in-order text of the hierarchy, one form feed.  The header is the template
regenerated from `receive_layout`; the translator checks that it is written under `if self.showpageno:` before
`render(ltpage)`. -/
theorem C11_text_pageno (showpageno : Bool) (ps : List Page) :
    sinkText (textDocWritesPn showpageno ps) = specTextPn showpageno ps :=
  sinkText_flatMap (fun p => by
    cases showpageno <;>
      simp [textPageWritesPn, specTextPage, specPageHeader, text_items, Gen.ConvertXml.t_text_page_end,
        Gen.ConvertXml.t_text_page_no]) ps

/-- without `showpageno` (every path of `high_level`) this is the output `C11_text` speaks about -/
theorem C11_text_pageno_off (ps : List Page) :
    textDocWritesPn false ps = textDocWrites ps ∧ specTextPn false ps = specText ps :=
  ⟨rfl, rfl⟩

mutual
theorem raw_item (i : Item) (h : noBox i = true) : specTextItem i = glyphText i := by
  cases i <;> simp_all [noBox, specTextItem, glyphText, raw_items]
theorem raw_items (is : List Item) (h : noBoxL is = true) : specTextL is = glyphTextL is := by
  cases is with
  | nil => rfl
  | cons i is =>
    simp only [noBoxL, Bool.and_eq_true] at h
    simp [specTextL, glyphTextL, raw_item i h.1, raw_items is h.2]
end

/-- Raw glyph mode (`laparams=None`: no layout analysis, so no text box anywhere in the tree): the output is the
glyph texts in order and the form feed per page (after the optional header) - no character is added. -/
theorem C11_text_raw (showpageno : Bool) (ps : List Page) (h : ∀ p ∈ ps, noBoxL p.kids = true) :
    sinkText (textDocWritesPn showpageno ps) =
      ps.flatMap (fun p => specPageHeader showpageno p ++ glyphTextL p.kids ++ ['\x0c']) := by
  rw [C11_text_pageno]
  exact congrArg List.flatten
    (List.map_congr_left fun p hp => by simp [specTextPage, raw_items p.kids (h p hp)])

example : sinkText (textDocWritesPn true
    [⟨['7'], [], ['0'], [.textbox ['0'] [] false [.textline [] [.char [] [] [] [] [] ['a'], .anno ['\n']]]], none⟩,
     ⟨['8'], [], ['0'], [.char [] [] [] [] [] ['b'], .figure [] [] [.char [] [] [] [] [] ['c']]], none⟩])
    = ['P', 'a', 'g', 'e', ' ', '7', '\n', 'a', '\n', '\n', '\x0c', 'P', 'a', 'g', 'e', ' ', '8', '\n', 'b', 'c', '\x0c'] := by
  decide +kernel

example : noBoxL [.char [] [] [] [] [] ['b'], .figure [] [] [.char [] [] [] [] [] ['c'], .image [] [] none]] = true ∧
    noBoxL [.figure [] [] [.textbox [] [] false []]] = false := by decide +kernel

/-! ## Sinks: a binary sink decoded with its codec = the characters a text sink receives -/

/-- For every codec (an incremental encoder as a state machine, with ANY decoder that inverts
whole-stream encoding) and every sequence of writes whose characters the codec can represent: the binary
sink receives bytes that decode to exactly the characters a text sink receives - whatever the error
policy (`ignore` = TextConverter, strict = XMLConverter) and however the output is cut into writes. -/
theorem C11_sink {σ : Type} (c : Codec σ) (decode : Bytes → Option Str)
    (hinv : ∀ s st bs, c.encodePiece false c.init s = some (st, bs) → decode bs = some s)
    (ignore : Bool) (writes : List Str)
    (hrep : (c.encodePiece false c.init writes.flatten).isSome) :
    ∃ bs, sinkBinary c ignore writes = some bs ∧ decode bs = some (sinkText writes) := by
  obtain ⟨⟨st, bs⟩, hr⟩ := Option.isSome_iff_exists.mp hrep
  refine ⟨bs, ?_, hinv _ st bs hr⟩
  rw [sinkBinary, sinkBinaryFrom_eq]
  cases ignore with
  | false => simp [hr]
  | true => simp [encodePiece_ignore c c.init _ _ hr]

/-- text output into a binary sink, decoded = the in-order text of the hierarchy -/
theorem C11_sink_text {σ : Type} (c : Codec σ) (decode : Bytes → Option Str)
    (hinv : ∀ s st bs, c.encodePiece false c.init s = some (st, bs) → decode bs = some s)
    (ps : List Page) (hrep : (c.encodePiece false c.init (specText ps)).isSome) :
    ∃ bs, sinkBinary c true (textDocWrites ps) = some bs ∧ decode bs = some (specText ps) := by
  have h := C11_sink c decode hinv true (textDocWrites ps) (by rwa [← sinkText, C11_text])
  rwa [C11_text] at h

/-- the same for a converter constructed with `showpageno` -/
theorem C11_sink_text_pageno {σ : Type} (c : Codec σ) (decode : Bytes → Option Str)
    (hinv : ∀ s st bs, c.encodePiece false c.init s = some (st, bs) → decode bs = some s)
    (showpageno : Bool) (ps : List Page) (hrep : (c.encodePiece false c.init (specTextPn showpageno ps)).isSome) :
    ∃ bs, sinkBinary c true (textDocWritesPn showpageno ps) = some bs ∧
      decode bs = some (specTextPn showpageno ps) := by
  have h := C11_sink c decode hinv true (textDocWritesPn showpageno ps) (by rwa [← sinkText, C11_text_pageno])
  rwa [C11_text_pageno] at h

/-- xml output into a binary sink, decoded = the characters a text sink receives for the same header -/
theorem C11_sink_xml {σ : Type} (c : Codec σ) (decode : Bytes → Option Str)
    (hinv : ∀ s st bs, c.encodePiece false c.init s = some (st, bs) → decode bs = some s)
    (strip : Bool) (codec : Option Str) (ps : List Page)
    (hrep : (c.encodePiece false c.init (xmlDocWrites strip codec ps).flatten).isSome) :
    ∃ bs, sinkBinary c false (xmlDocWrites strip codec ps) = some bs ∧
      decode bs = some (sinkText (xmlDocWrites strip codec ps)) :=
  C11_sink c decode hinv false _ hrep

/-- a two-byte big-endian toy codec (stateless after a one-time byte-order mark), on which the example below
evaluates the sink; codecs WITH a decoder satisfying `hinv` of `C11_sink` are `utf32Codec` / `utf16Codec` below -/
def toyCodec : Codec Bool where
  init := false
  step := fun started ch =>
    if ch.toNat < 65536 then
      some (true, (if started then [] else [0xFE, 0xFF]) ++ [UInt8.ofNat (ch.toNat / 256), UInt8.ofNat (ch.toNat % 256)])
    else none

example : sinkBinary toyCodec false [['a'], ['<', 'b']] = some [0xFE, 0xFF, 0, 97, 0, 60, 0, 98] := by decide +kernel

/-! ### a concrete stateful encoder: `utf-32` (pending byte-order mark), no hypothesis left

`utf32Codec` (Model/ConvertCodec.lean) is the state machine of `codecs.getincrementalencoder("utf-32")`: the
byte-order mark before the first character, 4 little-endian bytes per character.  The driver op `textbin` /
`xmlbin` compares the model's sink with the real `BytesIO` contents byte by byte on every run, `utf32dec` runs
the decoder below on the implementation's bytes. -/

/-- For EVERY sequence of writes and both error policies the `utf-32` binary sink receives bytes that decode
(one byte-order mark, then the code points) to exactly the concatenation of the writes: concatenated writes
decode to concatenated text, however the output is cut into writes. -/
theorem C11_sink_utf32 (ignore : Bool) (writes : List Str) :
    ∃ bs, sinkBinary utf32Codec ignore writes = some bs ∧ utf32Decode bs = some (sinkText writes) :=
  C11_sink utf32Codec utf32Decode utf32_inv ignore writes
    (encodePiece_total utf32Codec (fun _ _ => rfl) false _ _)

/-- text output, `utf-32` binary sink, every tree and `showpageno` choice: decodes to the specified text -/
theorem C11_sink_utf32_text (showpageno : Bool) (ps : List Page) :
    ∃ bs, sinkBinary utf32Codec true (textDocWritesPn showpageno ps) = some bs ∧
      utf32Decode bs = some (specTextPn showpageno ps) := by
  have h := C11_sink_utf32 true (textDocWritesPn showpageno ps)
  rwa [C11_text_pageno] at h

/-- the same for `utf-16`: byte-order mark once, little-endian code units, surrogate pairs for astral
characters - a variable-length encoding whose pieces may be cut anywhere between characters -/
theorem C11_sink_utf16 (ignore : Bool) (writes : List Str) :
    ∃ bs, sinkBinary (utf16Codec true false) ignore writes = some bs ∧ utf16Decode bs = some (sinkText writes) :=
  C11_sink (utf16Codec true false) utf16Decode utf16_inv ignore writes
    (encodePiece_total (utf16Codec true false) (fun _ _ => rfl) false _ _)

theorem C11_sink_utf16_text (showpageno : Bool) (ps : List Page) :
    ∃ bs, sinkBinary (utf16Codec true false) true (textDocWritesPn showpageno ps) = some bs ∧
      utf16Decode bs = some (specTextPn showpageno ps) := by
  have h := C11_sink_utf16 true (textDocWritesPn showpageno ps)
  rwa [C11_text_pageno] at h

example : sinkBinary (utf16Codec true false) false [['a'], [], [Char.ofNat 0x1F600]] =
    some [0xFF, 0xFE, 97, 0, 0x3D, 0xD8, 0x00, 0xDE] := by decide +kernel

example : utf16Decode [0xFF, 0xFE, 0x3D, 0xD8, 0x00, 0xDE] = some [Char.ofNat 0x1F600] ∧
    utf16Decode [0xFF, 0xFE, 0x3D, 0xD8] = none ∧ utf16Decode [0xFF, 0xFE, 0x00, 0xDE] = none ∧
    utf16Decode [97, 0] = none := by decide +kernel

example : sinkBinary utf32Codec false [['a'], [], ['b']] =
    some [0xFF, 0xFE, 0, 0, 97, 0, 0, 0, 98, 0, 0, 0] := by decide +kernel

example : utf32Decode [0xFF, 0xFE, 0, 0, 0x00, 0xF6, 0x01, 0] = some [Char.ofNat 0x1F600] ∧
    utf32Decode [97, 0, 0, 0] = none ∧ utf32Decode [0xFF, 0xFE, 0, 0, 0, 0xD8, 0, 0] = none := by decide +kernel

/-! ## Escaping -/

/-- `enc` leaves none of `< > " '` raw (every `&` it writes starts a reference, see `esc_unesc`). -/
theorem esc_safe (s : Str) : ∀ c ∈ enc s, c ≠ '<' ∧ c ≠ '>' ∧ c ≠ '"' ∧ c ≠ '\'' := enc_safe s

/-- A conforming reader gets back exactly the string `enc` was given (character data position). -/
theorem esc_unesc (s : Str) (hs : ∀ c ∈ s, isXmlChar c = true ∧ c ≠ '\r') : unescape false (enc s) = some s :=
  readBack_flatMap (unescGo false none) rfl encChar s fun c hc => unesc_encChar c (hs c hc).1 (hs c hc).2

/-- Attribute position: what `XMLConverter.attr` writes reads back as the (optionally control-stripped)
name - including TAB, LF, CR, which a reader would otherwise normalise to spaces - and contains neither
`"` nor `<`. -/
theorem esc_unesc_attr (strip : Bool) (s : Str) (hs : ∀ c ∈ maybeStrip strip s, isXmlChar c = true) :
    unescape true (attr strip s) = some (maybeStrip strip s) ∧ ∀ c ∈ attr strip s, c ≠ '"' ∧ c ≠ '<' :=
  ⟨unescape_attr strip s hs, fun c hc => ⟨(attr_safe strip s c hc).2.1, (attr_safe strip s c hc).1⟩⟩

/-- Character data position: what `XMLConverter.write_text` writes reads back as the (optionally
control-stripped) text - including CR - and contains no `<`. -/
theorem esc_unesc_text (strip : Bool) (s : Str) (hs : ∀ c ∈ maybeStrip strip s, isXmlChar c = true) :
    unescape false (writeText strip s) = some (maybeStrip strip s) ∧ ∀ c ∈ writeText strip s, c ≠ '<' :=
  ⟨unescape_writeText strip s hs, fun c hc => (writeText_safe strip s c hc).1⟩

/-! ### the escaping layer alone, for EVERY string

`unescAny` replaces references and does nothing else (no XML `Char` check, no normalisation).  For every string
of Unicode scalar values - C0 controls, U+FFFE/U+FFFF, astral characters included - what `enc`, `attr` and
`write_text` produce reads back as the (optionally stripped) string: escaping never loses or merges anything,
independently of whether XML 1.0 can carry the characters (that is what `esc_unesc_*` + `strip_legal` add).
(Python `str`s with lone surrogates are not sequences of scalar values; outside the alphabet, see docs.) -/

theorem esc_roundtrip_all (s : Str) : unescAny (enc s) = some s :=
  readBack_flatMap (unescAnyGo none) rfl encChar s fun c _ => unescAny_encChar c

theorem attr_roundtrip_all (strip : Bool) (s : Str) : unescAny (attr strip s) = some (maybeStrip strip s) :=
  attr_eq strip s ▸ readBack_flatMap (unescAnyGo none) rfl attrChar _ fun c _ => unescAny_attrChar c

theorem text_roundtrip_all (strip : Bool) (s : Str) : unescAny (writeText strip s) = some (maybeStrip strip s) :=
  writeText_eq strip s ▸ readBack_flatMap (unescAnyGo none) rfl textChar _ fun c _ => unescAny_textChar c

/-- hence escaping is injective: two names / texts with the same escaped form are the same after stripping -/
theorem esc_injective_all (strip : Bool) (s t : Str) :
    (attr strip s = attr strip t → maybeStrip strip s = maybeStrip strip t) ∧
    (writeText strip s = writeText strip t → maybeStrip strip s = maybeStrip strip t) ∧
    (enc s = enc t → s = t) :=
  ⟨fun h => Option.some.inj (by rw [← attr_roundtrip_all strip s, h, attr_roundtrip_all]),
   fun h => Option.some.inj (by rw [← text_roundtrip_all strip s, h, text_roundtrip_all]),
   fun h => Option.some.inj (by rw [← esc_roundtrip_all s, h, esc_roundtrip_all])⟩

example : unescAny (attr false ['\x00', '&', 'a', 'm', 'p', ';', '\t', Char.ofNat 0xFFFE, Char.ofNat 0x1F600, '\x1b']) =
    some ['\x00', '&', 'a', 'm', 'p', ';', '\t', Char.ofNat 0xFFFE, Char.ofNat 0x1F600, '\x1b'] := by decide +kernel

example : unescape true (attr false ['\x00']) = none := by decide +kernel   -- XML itself cannot carry it: strip_control

/-- with strip_control every C0 control character other than TAB/LF/CR is gone, so the hypothesis of
`esc_unesc_attr` / `esc_unesc_text` holds for every string of XML characters and C0 controls -/
theorem strip_legal (s : Str) (hs : ∀ c ∈ s, isXmlChar c = true ∨ c.toNat < 32) :
    ∀ c ∈ maybeStrip true s, isXmlChar c = true := by
  intro c hc
  simp only [maybeStrip, if_true, stripControl, List.mem_filter] at hc
  obtain ⟨hm, hctl⟩ := hc
  rcases hs c hm with h | h
  · exact h
  · simp only [isControl, Gen.ConvertCtl.CONTROL, List.any_cons, List.any_nil, Bool.or_false, Bool.not_eq_true',
      Bool.or_eq_false_iff, Bool.and_eq_false_iff, decide_eq_false_iff_not] at hctl
    simp only [isXmlChar, Bool.or_eq_true, decide_eq_true_eq, Bool.and_eq_true]
    omega

example : unescape true (attr true ['a', '"', '<', '\x01', '\t', '&', '\'']) = some ['a', '"', '<', '\t', '&', '\''] := by
  decide +kernel

/-! ## XML output is well-formed and is the hierarchy

Domain (`PageOk strip p`, decidable per tree and checked by the harness on every generated tree): every
document-controlled string (font name, XObject name, glyph text) consists, after the optional CONTROL
stripping, of XML 1.0 `Char`s (`Legal (maybeStrip strip s)`; by `strip_legal` this holds with
strip_control for every string of XML characters and C0 controls); every formatted number / fixed name
(bbox, size, colour, ids) is `Plain` (XML characters other than `& < "` TAB LF CR), LTAnno text is
`TextPlain` (XML characters other than `& <` CR; pdfminer only creates " " and LF); the codec
name written into the declaration contains no `?`. -/

/-- The reader's lexer inverts the rendering of EVERY well-formed token sequence. -/
theorem C11_xml_lex (ts : List Tok) (h : ∀ t ∈ ts, TokOk t) :
    lexRaw (ts.flatMap renderTok) = some ts := lex_render ts h

/-- **Well-formed and faithful.** For every list of pages in the domain, every strip_control choice and
every declared codec: the characters `XMLConverter` writes (header, one `receive_layout` per page, footer -
built from the templates regenerated from converter.py) are accepted by the XML 1.0 reader, and what it
reads is exactly the skeleton of the hierarchy: the same elements in the same nesting and order, with the
tree's bounding boxes, fonts, sizes, colours, ids, names and character data (unescaped) as attribute
values / character data. -/
theorem C11_xml_wf (strip : Bool) (codec : Option Str) (ps : List Page) (hc : CodecNameOk codec)
    (h : ∀ p ∈ ps, PageOk strip p) :
    parseXML (sinkText (xmlDocWrites strip codec ps)) = some (docSkeleton strip ps) :=
  parseXML_doc strip codec ps hc h

/-- non-vacuity: a page with a figure whose name needs every kind of escape, a glyph whose font name and
text contain control characters (strip_control on), a vertical text box and a layout group -/
def demoPage : Page := ⟨['1'], ['0', ',', '0'], ['0'],
  [.figure ['a', '"', '<', '&', '\t', '\x01'] ['1'] [.image ['2'] ['3'] none, .image ['2'] ['3'] (some ['x', '\x02', '&', '.', 'b', 'm', 'p'])],
   .textbox ['0'] ['4'] true [.textline ['5'] [.char ['F', '\x0b', '\''] ['6'] ['G'] ['N'] ['7'] ['<', '\r', '\x00'],
                                             .anno ['\n']]],
   .curve ['0'] ['8'] ['9']],
  some [.group ['1'] [.box ['0'] ['4']]]⟩

example : parseXML (sinkText (xmlDocWrites true (some ['u', 't', 'f', '-', '8']) [demoPage]))
    = some (docSkeleton true [demoPage]) := by
  apply C11_xml_wf
  · intro c hc; revert c; decide +kernel
  · intro p hp
    obtain rfl := List.mem_singleton.mp hp
    simp only [PageOk, demoPage, ItemOk, ItemsOk, GroupsOk, GroupOk, Plain, Legal, TextPlain]
    decide +kernel

/-! ### The XML output determines the hierarchy (injectivity of the rendering)

`stripPage strip` is the tree with `CONTROL.sub` applied to the strings the converter strips (font name, glyph
text, figure name, exported image name) - the identity without strip_control.  Numbers are the formatted fields,
so "equal" is equality up to number formatting. -/

/-- the skeleton with strip_control is the skeleton of the stripped tree -/
theorem C11_skeleton_strip (strip : Bool) (ps : List Page) :
    docSkeleton strip ps = docSkeleton false (ps.map (stripPage strip)) := docSkeleton_strip strip ps

/-- Two hierarchies with the same skeleton are the same hierarchy (after the optional stripping): element
names, attributes, character data and nesting leave nothing of the tree undetermined. -/
theorem C11_skeleton_injective (strip : Bool) (ps qs : List Page)
    (h : docSkeleton strip ps = docSkeleton strip qs) :
    ps.map (stripPage strip) = qs.map (stripPage strip) := by
  rw [docSkeleton_strip strip ps, docSkeleton_strip strip qs] at h
  exact docSkeleton_inj _ _ h

/-- **Faithful = injective.** If `XMLConverter` writes the same characters for two hierarchies in the domain
(whatever the declared codecs), the hierarchies are equal after the optional CONTROL stripping; without
strip_control they are equal.  Together with `C11_xml_wf`: a reader recovers exactly one tree from the output. -/
theorem C11_xml_injective (strip : Bool) (codec codec' : Option Str) (ps qs : List Page)
    (hc : CodecNameOk codec) (hc' : CodecNameOk codec')
    (hp : ∀ p ∈ ps, PageOk strip p) (hq : ∀ p ∈ qs, PageOk strip p)
    (h : sinkText (xmlDocWrites strip codec ps) = sinkText (xmlDocWrites strip codec' qs)) :
    ps.map (stripPage strip) = qs.map (stripPage strip) := by
  have h1 := C11_xml_wf strip codec ps hc hp
  have h2 := C11_xml_wf strip codec' qs hc' hq
  rw [h, h2] at h1
  exact (C11_skeleton_injective strip qs ps (Option.some.inj h1)).symm

theorem C11_xml_injective_nostrip (codec codec' : Option Str) (ps qs : List Page)
    (hc : CodecNameOk codec) (hc' : CodecNameOk codec')
    (hp : ∀ p ∈ ps, PageOk false p) (hq : ∀ p ∈ qs, PageOk false p)
    (h : sinkText (xmlDocWrites false codec ps) = sinkText (xmlDocWrites false codec' qs)) : ps = qs := by
  have := C11_xml_injective false codec codec' ps qs hc hc' hp hq h
  rwa [funext stripPage_false, List.map_id', List.map_id'] at this

/-- non-vacuity: two pages that differ in one LTAnno (space / line break) - both in the domain - cannot have the
same output; with strip_control two glyph texts that differ only in a stripped control character are identified -/
def pgA : Page := ⟨['1'], ['0'], ['0'], [.anno [' ']], none⟩
def pgB : Page := ⟨['1'], ['0'], ['0'], [.anno ['\n']], none⟩

example : sinkText (xmlDocWrites false none [pgA]) ≠ sinkText (xmlDocWrites false none [pgB]) := by
  intro h
  have := C11_xml_injective_nostrip none none [pgA] [pgB] trivial trivial
    (by intro p hp; obtain rfl := List.mem_singleton.mp hp
        simp only [PageOk, pgA, ItemOk, ItemsOk, Plain, TextPlain]; decide +kernel)
    (by intro p hp; obtain rfl := List.mem_singleton.mp hp
        simp only [PageOk, pgB, ItemOk, ItemsOk, Plain, TextPlain]; decide +kernel) h
  simp [pgA, pgB] at this

example : stripPage true ⟨['1'], ['0'], ['0'], [.char ['F'] [] [] [] [] ['a', '\x01']], none⟩ =
    stripPage true ⟨['1'], ['0'], ['0'], [.char ['F', '\x02'] [] [] [] [] ['a']], none⟩ := by
  rfl

/-- end to end through a stateful binary sink: the bytes `XMLConverter` writes into a `utf-32` sink, decoded and
read by the XML reader, are the skeleton of the hierarchy -/
theorem C11_xml_wf_utf32 (strip : Bool) (codec : Option Str) (ps : List Page) (hc : CodecNameOk codec)
    (h : ∀ p ∈ ps, PageOk strip p) :
    ∃ bs, sinkBinary utf32Codec false (xmlDocWrites strip codec ps) = some bs ∧
      (utf32Decode bs).bind parseXML = some (docSkeleton strip ps) := by
  obtain ⟨bs, h1, h2⟩ := C11_sink_utf32 false (xmlDocWrites strip codec ps)
  exact ⟨bs, h1, by rw [h2]; exact C11_xml_wf strip codec ps hc h⟩

theorem C11_xml_wf_utf16 (strip : Bool) (codec : Option Str) (ps : List Page) (hc : CodecNameOk codec)
    (h : ∀ p ∈ ps, PageOk strip p) :
    ∃ bs, sinkBinary (utf16Codec true false) false (xmlDocWrites strip codec ps) = some bs ∧
      (utf16Decode bs).bind parseXML = some (docSkeleton strip ps) := by
  obtain ⟨bs, h1, h2⟩ := C11_sink_utf16 false (xmlDocWrites strip codec ps)
  exact ⟨bs, h1, by rw [h2]; exact C11_xml_wf strip codec ps hc h⟩

/-- the escapes matter: the same figure name written raw (as pdfminer.six did before `XMLConverter.attr`) is rejected by the reader -/
example : parseXML (['<', 'f', ' ', 'n', '=', '"'] ++ ['a', '"', '<'] ++ ['"', '/', '>']) = none := by decide +kernel

/-! ## The formatted numbers are in the domain of `C11_xml_wf`

`fmtF3` / `fmtD` model `'%.3f' % x` / `'%d' % x` on exact values (tied to Python and to `utils.bbox2str` by the
driver ops `fmt.*` on every run); `bbox2str` is regenerated from utils.py.  Whatever the numbers are, the
strings consist of digits, `-`, `.`, `,` - hence are `Plain`, the hypothesis `C11_xml_wf` puts on bbox, size,
linewidth, ids, width/height. -/

theorem C11_fmt_f3_plain (x : SRat) : Plain (fmtF3 x) := (fmtF3_num x).plain

theorem C11_fmt_d_plain (x : SRat) : Plain (fmtD x) := (fmtD_num x).plain

theorem C11_bbox2str_plain (x0 y0 x1 y1 : SRat) : Plain (Gen.ConvertFmt.bbox2str x0 y0 x1 y1) :=
  (bbox2str_num x0 y0 x1 y1).plain

/-- `LTCurve.get_pts` (regenerated from layout.py: `",".join("%.3f,%.3f" % p for p in self.pts)`) is `Plain`
for every point list -/
theorem C11_get_pts_plain (pts : List (SRat × SRat)) : Plain (Gen.ConvertFmt.get_pts pts) :=
  (get_pts_num pts).plain

/-- every `<line>` / `<rect>` / `<curve>` element is in the domain of `C11_xml_wf`, whatever its numbers and points
are: no hypothesis left -/
theorem C11_path_items_ok (strip : Bool) (lw a b c d : SRat) (pts : List (SRat × SRat)) :
    ItemOk strip (.line (fmtD lw) (Gen.ConvertFmt.bbox2str a b c d)) ∧
    ItemOk strip (.rect (fmtD lw) (Gen.ConvertFmt.bbox2str a b c d)) ∧
    ItemOk strip (.curve (fmtD lw) (Gen.ConvertFmt.bbox2str a b c d) (Gen.ConvertFmt.get_pts pts)) :=
  ⟨⟨C11_fmt_d_plain lw, C11_bbox2str_plain a b c d⟩, ⟨C11_fmt_d_plain lw, C11_bbox2str_plain a b c d⟩,
   ⟨C11_fmt_d_plain lw, C11_bbox2str_plain a b c d, C11_get_pts_plain pts⟩⟩

example : Gen.ConvertFmt.get_pts [((false, 1), (true, 5/2)), ((false, 0), (false, 1/8))] =
    "1.000,-2.500,0.000,0.125".toList := by decide +kernel

/-- every name a `PDFColorSpace` can carry (table regenerated from pdfcolor.py / pdfinterp.get_colorspace; the
driver op `csname` checks every `ncs.name` met at run time against it) is `Plain` -/
theorem C11_colourspace_plain : ∀ n ∈ Gen.ConvertFmt.colourSpaceNames, Plain n := by
  show ∀ n ∈ Gen.ConvertFmt.colourSpaceNames, ∀ c ∈ n, plainChar c = true
  decide +kernel

/-- a glyph: with the numbers from the formatters and the colour-space name from the table, what remains to be
assumed is the colour value string (`str(ncolor)`: Python float repr, not modelled) and XML-legal document strings -/
theorem C11_char_item_ok (strip : Bool) (a b c d sz : SRat) (font cs nc text : Str)
    (hcs : cs ∈ Gen.ConvertFmt.colourSpaceNames) (hnc : Plain nc)
    (hf : Legal (maybeStrip strip font)) (ht : Legal (maybeStrip strip text)) :
    ItemOk strip (.char font (Gen.ConvertFmt.bbox2str a b c d) cs nc (fmtF3 sz) text) :=
  ⟨hf, C11_bbox2str_plain a b c d, C11_colourspace_plain cs hcs, hnc, C11_fmt_f3_plain sz, ht⟩

/-- the attributes of `<page>` (id and rotate are ints written with %s / %d) are `Plain` for all numbers -/
theorem C11_page_fields_plain (pageid rotate a b c d : SRat) :
    Plain (fmtD pageid) ∧ Plain (Gen.ConvertFmt.bbox2str a b c d) ∧ Plain (fmtD rotate) :=
  ⟨C11_fmt_d_plain pageid, C11_bbox2str_plain a b c d, C11_fmt_d_plain rotate⟩

example : ['D', 'e', 'v', 'i', 'c', 'e', 'R', 'G', 'B'] ∈ Gen.ConvertFmt.colourSpaceNames := by decide +kernel

/-- e.g. a curve and a glyph whose numeric fields come from the formatters are in the domain, for all numbers -/
theorem C11_numeric_items_ok (strip : Bool) (lw a b c d sz : SRat) (pts font cs nc text : Str)
    (hp : Plain pts) (hcs : Plain cs) (hnc : Plain nc)
    (hf : Legal (maybeStrip strip font)) (ht : Legal (maybeStrip strip text)) :
    ItemOk strip (.curve (fmtD lw) (Gen.ConvertFmt.bbox2str a b c d) pts) ∧
    ItemOk strip (.char font (Gen.ConvertFmt.bbox2str a b c d) cs nc (fmtF3 sz) text) :=
  ⟨⟨C11_fmt_d_plain lw, C11_bbox2str_plain a b c d, hp⟩,
   ⟨hf, C11_bbox2str_plain a b c d, hcs, hnc, C11_fmt_f3_plain sz, ht⟩⟩

end PdfVerif.Props.C11
