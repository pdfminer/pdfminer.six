/-
C10 - Decryption: either password opens the document to exactly the original content.

The property theorems, with what they are stated over: the dictionaries a conforming writer stores
(`params234`, `params56`), the configurations of the property's quantifier (`Config`, `Passwords`,
`Rand` and the predicates on them) and the toy primitives of the non-vacuity examples.  Lemmas that
do not mention these: Lemmas/Crypt.lean, CryptKeys.lean, CryptArcfour.lean.  `Model/Crypt.lean` is the model of
pdfminer (reader), `Spec/CryptWriter.lean` the conforming writer of ISO 32000.  MD5, SHA-2, AES-CBC
and SASLprep are arbitrary functions `P : Prims`; the only facts assumed about them are stated as
hypotheses (`PrimsOK`: digest lengths, AES-CBC decrypt inverts encrypt).
-/
import PdfVerif.Lemmas.Crypt
import PdfVerif.Lemmas.CryptKeys
import PdfVerif.Lemmas.CryptArcfour

namespace PdfVerif.Props.C10
open PdfVerif PdfVerif.Crypt PdfVerif.CryptWriter PdfVerif.Gen.Crypt

/-- The two facts about `hashlib.md5` and `cryptography`'s AES-CBC that the theorems rely on; nothing
    else is known of `P`. -/
structure PrimsOK (P : Prims) : Prop where
  md5_len : ∀ x, (P.md5 x).length = 16
  aes_inv : ∀ k iv x, P.aesDec k iv (P.aesEnc k iv x) = x

/-! ## RC4 -/

/-- RC4 decryption inverts encryption for every key and every data (the keystream does not depend
    on the data). -/
theorem rc4_involution (key data : Bytes) : rc4Core key (rc4Core key data) = data :=
  rc4Core_rc4Core key data

/-- The same for `Arcfour(key).process`, which exists for non-empty keys only. -/
theorem rc4_involution_except (key data : Bytes) (hk : key ≠ []) :
    (rc4 key data >>= rc4 key) = .ok data := by
  cases key with
  | nil => exact absurd rfl hk
  | cons a as => simp [rc4, bind, Except.bind, rc4Core_rc4Core]

theorem rc4_preserves_length (key data : Bytes) : (rc4Core key data).length = data.length :=
  rc4Core_length key data

/-! ## per-object keys -/

/-- Writer (Algorithm 1 with the standard's constants) and reader (constants regenerated from
    pdfdocument.py) derive the same RC4 object key for every object number and generation. -/
theorem objkey_agree (P : Prims) (key : Bytes) (objid genno : Nat) :
    objKeyRc4 P key objid genno = objectKey P .rc4 key objid genno := by
  simp [objKeyRc4, objectKey, OBJID_BYTES_RC4, GENNO_BYTES_RC4, OBJKEY_MAX_RC4, leBytes_length]

/-- ... and the same AES-128 object key (`sAlT`).  pdfminer truncates to `min(len(key) + 9, 16)`
    (the salt is counted) where Algorithm 1 says `min(n + 5, 16)`: the two agree for file keys of
    at least 11 bytes; AESV2 file keys have 16. -/
theorem objkey_agree_aes (P : Prims) (key : Bytes) (objid genno : Nat) (hk : 11 ≤ key.length) :
    objKeyAes P key objid genno = objectKey P .aes128 key objid genno := by
  simp [objKeyAes, objectKey, OBJID_BYTES_AES, GENNO_BYTES_AES, OBJKEY_MAX_AES, AES_SALT,
    leBytes_length]
  omega

/-! ## revisions 2-4: both passwords are accepted -/

/-- The Encrypt dictionary entries a conforming writer stores for a revision 2-4 configuration. -/
def params234 (c : Cfg) (v : Int) (o u : Bytes) : Params :=
  { v := v, r := c.r, p := c.p, o := o, u := u, length := c.length,
    encryptMetadata := c.encryptMetadata, docid0 := c.id0 }

/-- `compute_encryption_key` is Algorithm 2 of the standard. -/
theorem computeKey_is_alg2 (P : Prims) (c : Cfg) (v : Int) (o u pw : Bytes)
    (hr : c.r = 2 ∨ c.r = 3 ∨ c.r = 4) :
    computeEncryptionKey P (params234 c v o u) c.length (uintValue32 c.p) pw
      = alg2Key P c (pad32 pw) o := by
  unfold computeEncryptionKey alg2Key
  simp only [params234]
  rw [padPassword_eq, pBytes_eq c.p, keyBytes_eq c hr]
  rfl

/-- Algorithm 6 accepts the U that Algorithms 4/5 produce from the same key. -/
theorem verifyKey_writer (P : Prims) (hP : PrimsOK P) (c : Cfg) (v : Int) (o key tail : Bytes)
    (hr : c.r = 2 ∨ c.r = 3 ∨ c.r = 4) :
    verifyKey P (params234 c v o (alg45U P c key tail)) key = true := by
  unfold verifyKey computeU
  simp only [params234, alg45U_eq, padding_eq, U_ROUND_LO, U_ROUND_HI, U_CHECK_LEN]
  split
  · exact beq_self_eq_true _
  · have hlen : (rc4Layers key (List.range' 1 19) (rc4Core key (P.md5 (isoPad ++ c.id0)))).length = 16 := by
      rw [rc4Layers_length, rc4Core_length, hP.md5_len]
    rw [List.take_left' hlen, List.take_left' hlen]
    exact beq_self_eq_true _

/-- **The user password opens the document** (revisions 2-4): for the O, U and file key that the
    standard's Algorithms 2-5 produce from any user/owner password pair, P, ID and EncryptMetadata
    setting, `authenticate_user_password(user)` returns exactly that file key. -/
theorem user_pw_accepts (P : Prims) (hP : PrimsOK P) (c : Cfg) (v : Int) (userPw ownerPw tail : Bytes)
    (hr : c.r = 2 ∨ c.r = 3 ∨ c.r = 4) :
    authUser P (params234 c v (derive234 P c (pad32 userPw) (pad32 ownerPw) tail).1
        (derive234 P c (pad32 userPw) (pad32 ownerPw) tail).2.1) c.length (uintValue32 c.p) userPw
      = some (derive234 P c (pad32 userPw) (pad32 ownerPw) tail).2.2 := by
  unfold authUser
  simp only [derive234, computeKey_is_alg2 P c v _ _ userPw hr, verifyKey_writer P hP c v _ _ tail hr,
    if_true]

/-- Algorithm 7 recovers the padded user password from O: the 20 RC4 layers (one for revision 2)
    are peeled off in reverse order, each by `rc4_involution`. -/
theorem owner_recovers_user (P : Prims) (c : Cfg) (v : Int) (u ownerPw pu : Bytes)
    (hr : c.r = 2 ∨ c.r = 3 ∨ c.r = 4) :
    recoverUser P (params234 c v (alg3O P c (pad32 ownerPw) pu) u) c.length ownerPw = pu := by
  unfold recoverUser ownerKey
  simp only [params234, alg3O_eq]
  rw [padPassword_eq, keyBytes_eq c hr]
  by_cases h2 : c.r = 2
  · simp only [h2, if_true]
    exact rc4Core_rc4Core _ _
  · have h3 : c.r ≥ 3 := by omega
    simp only [h3, h2, if_true, if_false, OWNER_KEY_ROUNDS]
    exact rc4Layers_owner_undo _ _

/-- **The owner password opens the document** (revisions 2-4):
    `authenticate_owner_password(owner)` returns the file key. -/
theorem owner_pw_accepts (P : Prims) (hP : PrimsOK P) (c : Cfg) (v : Int) (userPw ownerPw tail : Bytes)
    (hr : c.r = 2 ∨ c.r = 3 ∨ c.r = 4) :
    authOwner P (params234 c v (derive234 P c (pad32 userPw) (pad32 ownerPw) tail).1
        (derive234 P c (pad32 userPw) (pad32 ownerPw) tail).2.1) c.length (uintValue32 c.p) ownerPw
      = some (derive234 P c (pad32 userPw) (pad32 ownerPw) tail).2.2 := by
  -- Algorithm 7 recovers the padded user password, which pads to itself
  have h := user_pw_accepts P hP c v (pad32 userPw) ownerPw tail hr
  rw [pad32_pad32] at h
  unfold authOwner
  rw [show (derive234 P c (pad32 userPw) (pad32 ownerPw) tail).1 = alg3O P c (pad32 ownerPw) (pad32 userPw)
      from rfl, owner_recovers_user P c v _ ownerPw (pad32 userPw) hr]
  exact h

/-- `PDFStandardSecurityHandler.authenticate` with the user password (as a str of code points
    < 256): the document opens with the file key.  `8 ≤ length`: the key is not empty. -/
theorem authenticate_user_accepts (P : Prims) (hP : PrimsOK P) (c : Cfg) (v : Int)
    (userCps : List Nat) (userPw ownerPw tail : Bytes)
    (hr : c.r = 2 ∨ c.r = 3 ∨ c.r = 4)
    (hl : 8 ≤ c.length) (henc : encodeLatin1 userCps = some userPw) :
    authenticate234 P (params234 c v (derive234 P c (pad32 userPw) (pad32 ownerPw) tail).1
        (derive234 P c (pad32 userPw) (pad32 ownerPw) tail).2.1) c.length (uintValue32 c.p) userCps
      = .ok (derive234 P c (pad32 userPw) (pad32 ownerPw) tail).2.2 :=
  authenticate234_user henc (keyBytes_ne_zero _ hl) (user_pw_accepts P hP c v userPw ownerPw tail hr)

/-- `authenticate` with the **owner** password.  The code tries the user path first, so the single
    remaining assumption is that the owner password is not *also* accepted by the U check with a
    different padded form (second-preimage resistance of the U check, cf. H1 of
    `C10_rejects_writer_partial`); when both passwords pad to the same 32 bytes nothing is assumed. -/
theorem authenticate_owner_accepts_partial (P : Prims) (hP : PrimsOK P) (c : Cfg) (v : Int)
    (ownerCps : List Nat) (userPw ownerPw tail : Bytes)
    (hr : c.r = 2 ∨ c.r = 3 ∨ c.r = 4)
    (hl : 8 ≤ c.length) (henc : encodeLatin1 ownerCps = some ownerPw)
    (hU : authUser P (params234 c v (derive234 P c (pad32 userPw) (pad32 ownerPw) tail).1
            (derive234 P c (pad32 userPw) (pad32 ownerPw) tail).2.1) c.length (uintValue32 c.p) ownerPw = none
          ∨ pad32 ownerPw = pad32 userPw) :
    authenticate234 P (params234 c v (derive234 P c (pad32 userPw) (pad32 ownerPw) tail).1
        (derive234 P c (pad32 userPw) (pad32 ownerPw) tail).2.1) c.length (uintValue32 c.p) ownerCps
      = .ok (derive234 P c (pad32 userPw) (pad32 ownerPw) tail).2.2 := by
  have ho := owner_pw_accepts P hP c v userPw ownerPw tail hr
  rcases hU with hnone | hsame
  · exact authenticate234_owner henc (keyBytes_ne_zero _ hl) hnone ho
  · -- the owner password is, for the key derivation, the user password
    have hu := user_pw_accepts P hP c v ownerPw ownerPw tail hr
    rw [hsame] at hu ⊢
    exact authenticate234_user henc (keyBytes_ne_zero _ hl) hu

/-! ## revisions 5 and 6 -/

/-- The Encrypt dictionary entries of a revision 5/6 document written by Algorithms 8 and 9. -/
def params56 (r : Int) (d : Bytes × Bytes × Bytes × Bytes) : Params :=
  { v := 5, r := r, u := d.1, ue := d.2.1, o := d.2.2.1, oe := d.2.2.2, length := 256 }

/-- Salts are 8 bytes and the password hash (SHA-256 / Algorithm 2.B, the same abstract function on
    the writing and the reading side) is 32 bytes long. -/
structure Salts8 (P : Prims) (r : Int) (s : Salts) : Prop where
  uv : s.uv.length = 8
  ov : s.ov.length = 8
  hash_len : ∀ pw salt v, (passwordHash P r pw salt v).length = 32

theorem split_hash_salts (h a b : Bytes) (hh : h.length = 32) (ha : a.length = 8) :
    (h ++ a ++ b).take HASH_LEN = h ∧
    ((h ++ a ++ b).take VALIDATION_SALT_END).drop HASH_LEN = a ∧
    (h ++ a ++ b).drop VALIDATION_SALT_END = b := by
  have hha : (h ++ a).length = 40 := by rw [List.length_append, hh, ha]
  unfold HASH_LEN VALIDATION_SALT_END
  exact ⟨by rw [List.append_assoc, List.take_left' hh], by rw [List.take_left' hha, List.drop_left' hh],
    List.drop_left' hha⟩

/-- The owner branch of `authenticate`, evaluated on the writer's dictionary, is exactly the test
    `H(pw, ov, U) = H(owner, ov, U)`. -/
theorem authOwner56_writer (P : Prims) (hP : PrimsOK P) (r : Int) (key up op b : Bytes) (s : Salts)
    (hs : Salts8 P r s) :
    authOwner56 P (params56 r (derive56 P r key up op s)) b =
      if passwordHash P r b s.ov (derive56 P r key up op s).1
          = passwordHash P r op s.ov (derive56 P r key up op s).1
      then some (P.aesDec (passwordHash P r b s.ok (derive56 P r key up op s).1) zeroIV
                  (derive56 P r key up op s).2.2.2)
      else none := by
  obtain ⟨h1, h2, h3⟩ := split_hash_salts
    (hash56 P r op s.ov (hash56 P r up s.uv [] ++ s.uv ++ s.uk)) s.ov s.ok (hs.hash_len _ _ _) hs.ov
  unfold authOwner56 oHash oValidationSalt oKeySalt
  simp only [hash56] at h1 h2 h3
  simp only [params56, derive56, hash56, h1, h2, h3]
  rfl

theorem authUser56_writer (P : Prims) (r : Int) (key up op b : Bytes) (s : Salts)
    (hs : Salts8 P r s) :
    authUser56 P (params56 r (derive56 P r key up op s)) b =
      if passwordHash P r b s.uv [] = passwordHash P r up s.uv []
      then some (P.aesDec (passwordHash P r b s.uk []) zeroIV (derive56 P r key up op s).2.1)
      else none := by
  obtain ⟨h1, h2, h3⟩ := split_hash_salts (hash56 P r up s.uv []) s.uv s.uk (hs.hash_len _ _ _) hs.uv
  unfold authUser56 uHash uValidationSalt uKeySalt
  simp only [hash56] at h1 h2 h3
  simp only [params56, derive56, hash56, h1, h2, h3]

/-- **R5/R6: the user password opens the document** - the user branch of
    `PDFStandardSecurityHandlerV5.authenticate` returns the file key. -/
theorem r56_user_accepts (P : Prims) (hP : PrimsOK P) (r : Int) (key up op : Bytes) (s : Salts)
    (hs : Salts8 P r s) :
    authUser56 P (params56 r (derive56 P r key up op s)) up = some key := by
  rw [authUser56_writer P r key up op up s hs, if_pos rfl]
  exact congrArg some (hP.aes_inv _ _ _)

/-- **R5/R6: the owner password opens the document** (the owner hash covers the 48-byte U). -/
theorem r56_owner_accepts (P : Prims) (hP : PrimsOK P) (r : Int) (key up op : Bytes) (s : Salts)
    (hs : Salts8 P r s) :
    authOwner56 P (params56 r (derive56 P r key up op s)) op = some key := by
  rw [authOwner56_writer P hP r key up op op s hs, if_pos rfl]
  exact congrArg some (hP.aes_inv _ _ _)

/-- `authenticate` of the V5 handler with the owner password. -/
theorem r56_authenticate_owner (P : Prims) (hP : PrimsOK P) (r : Int) (key up op : Bytes) (s : Salts)
    (hs : Salts8 P r s) (cps : List Nat) (hn : normalizePassword P r cps = .ok op) :
    authenticate56 P (params56 r (derive56 P r key up op s)) cps = .ok key :=
  authenticate56_owner hn (r56_owner_accepts P hP r key up op s hs)

/-- `authenticate` with the user password when user and owner password coincide: no assumption. -/
theorem r56_authenticate_user_same_pw (P : Prims) (hP : PrimsOK P) (r : Int) (key up : Bytes)
    (s : Salts) (hs : Salts8 P r s) (cps : List Nat) (hn : normalizePassword P r cps = .ok up) :
    authenticate56 P (params56 r (derive56 P r key up up s)) cps = .ok key :=
  r56_authenticate_owner P hP r key up up s hs cps hn

/-- `authenticate` of the V5 handler with the user password.  The code tries the owner branch
    first, so the single remaining assumption is that the *owner validation hash of this document
    does not collide between its two passwords*: `up ≠ op → H(up, ov, U) ≠ H(op, ov, U)`.
    (With `up = op` nothing is assumed; see also `r56_authenticate_user_same_pw`.) -/
theorem r56_authenticate_user_partial (P : Prims) (hP : PrimsOK P) (r : Int) (key up op : Bytes)
    (s : Salts) (hs : Salts8 P r s) (cps : List Nat) (hn : normalizePassword P r cps = .ok up)
    (hcoll : up ≠ op → passwordHash P r up s.ov (derive56 P r key up op s).1
                      ≠ passwordHash P r op s.ov (derive56 P r key up op s).1) :
    authenticate56 P (params56 r (derive56 P r key up op s)) cps = .ok key := by
  by_cases he : up = op
  · subst he; exact r56_authenticate_user_same_pw P hP r key up s hs cps hn
  · exact authenticate56_user hn (by rw [authOwner56_writer P hP r key up op up s hs, if_neg (hcoll he)])
      (r56_user_accepts P hP r key up op s hs)

/-- **Every other password is rejected** (R5/R6, documents of a conforming writer).  `_partial`:
    the two remaining assumptions are that the wrong password's validation hashes do not collide
    with the owner's resp. the user's (SHA-256 / Algorithm 2.B collision resistance). -/
theorem r56_rejects_writer_partial (P : Prims) (hP : PrimsOK P) (r : Int) (key up op b : Bytes)
    (s : Salts) (hs : Salts8 P r s) (cps : List Nat) (hn : normalizePassword P r cps = .ok b)
    (hno : passwordHash P r b s.ov (derive56 P r key up op s).1
            ≠ passwordHash P r op s.ov (derive56 P r key up op s).1)
    (hnu : passwordHash P r b s.uv [] ≠ passwordHash P r up s.uv []) :
    authenticate56 P (params56 r (derive56 P r key up op s)) cps = .error .passwordIncorrect :=
  authenticate56_reject hn (by rw [authOwner56_writer P hP r key up op b s hs, if_neg hno])
    (by rw [authUser56_writer P r key up op b s hs, if_neg hnu])

/-- The `while` loop of Algorithm 2.B as coded in `_r6_password` always terminates within the
    fuel: after round 64 it stops as soon as `last byte <= round - 32`, and a byte is < 256. -/
theorem r6_fuel_suffices (P : Prims) (pw vec k : Bytes) (fuel round last : Nat)
    (hl : last < 256) (hf : round + fuel ≥ 290) (h1 : 1 ≤ fuel) :
    (r6Loop P pw vec fuel round last k).isSome = true := by
  fun_induction r6Loop P pw vec fuel round last k with
  | case1 => omega
  | case2 fuel round last k hc _ _ _ _ ih =>
    rw [r6_continue_iff] at hc
    exact ih (UInt8.toNat_lt _) (by omega) (by omega)
  | case3 => rfl

/-- **`_r6_password` computes ISO 32000-2 Algorithm 2.B** (8-byte salts): the `while` condition is
    regenerated from pdfdocument.py on every run (`Gen.Crypt.r6_continue`), as are the repeat count
    64 and the slices; `_bytes_mod_3` (sum of residues) equals the big-endian integer modulo 3.
    An edit of the comparison (`>` to `>=`), of a slice or of the count breaks this proof. -/
theorem r6_password_is_algorithm_2B (P : Prims) (pw salt vec : Bytes) (hs : salt.length ≤ 8) :
    passwordHash P 6 pw salt vec = alg2B P pw salt vec :=
  r6_password_is_alg2B P pw salt vec hs

/-- The hash the V5 handler computes never runs out of fuel (`R6_FUEL = 400`). -/
theorem r6_hash_defined (P : Prims) (pw vec k : Bytes) :
    (r6Loop P pw vec R6_FUEL 0 0 k).isSome = true :=
  r6_fuel_suffices P pw vec k R6_FUEL 0 0 (by decide) (by decide) (by decide)

/-! ## round trip: decrypt (encrypt x) = x -/

theorem roundtrip_rc4 (P : Prims) (key : Bytes) (objid genno : Nat) (iv d : Bytes) :
    decryptRc4 P key objid genno (encryptBytes P .rc4 key objid genno iv d) = d := by
  simp only [decryptRc4, encryptBytes, objkey_agree, rc4Core_rc4Core]

/-- AESV2: the IV is split off, CBC decryption inverts encryption, and the PKCS#7 padding is
    removed (the pinned code returned `d ++ padding`, see `C10_aes_padding_cex`). -/
theorem roundtrip_aes128 (P : Prims) (hP : PrimsOK P) (key : Bytes) (objid genno : Nat) (iv d : Bytes)
    (hk : 11 ≤ key.length) (hiv : iv.length = 16) :
    decryptAes128 P key objid genno (encryptBytes P .aes128 key objid genno iv d) = d := by
  simp only [decryptAes128, encryptBytes]
  rw [List.take_left' hiv, List.drop_left' hiv, objkey_agree_aes P key objid genno hk, hP.aes_inv,
    unpad_pad]

theorem roundtrip_aes256 (P : Prims) (hP : PrimsOK P) (key : Bytes) (objid genno : Nat) (iv d : Bytes)
    (hiv : iv.length = 16) :
    decryptAes256 P key (encryptBytes P .aes256 key objid genno iv d) = d := by
  simp only [decryptAes256, encryptBytes]
  rw [List.take_left' hiv, List.drop_left' hiv, hP.aes_inv, unpad_pad]

/-- The handler `h` deciphers with method `m` (class 1: always RC4; V4/V5: the crypt filter named
    by StrF), holds the file key, and AES comes with a 16-byte IV and a key of at least 11 bytes. -/
structure Matches (h : Handler) (m : Method) (key : Bytes) (ivOf : Bytes → Bytes) : Prop where
  key_eq : h.key = key
  method : if h.cls = 1 then m = .rc4 else lookup h.strf h.cfm = some m
  aes_key : m = .aes128 → 11 ≤ key.length
  iv_len : m = .aes128 ∨ m = .aes256 → ∀ b, (ivOf b).length = 16

/-- **Every string and every stream payload decrypts to exactly the original bytes** - for RC4
    (40-128 bit), AESV2, AESV3 and Identity, every object number and generation, every IV. -/
theorem C10_roundtrip_bytes (P : Prims) (hP : PrimsOK P) (h : Handler) (m : Method) (key : Bytes)
    (ivOf : Bytes → Bytes) (hm : Matches h m key ivOf) (objid genno : Nat) (d : Bytes)
    (isMeta : Bool) (hmeta : h.cls ≠ 1 → ¬ h.encryptMetadata → isMeta = false) :
    decrypt P h objid genno isMeta (encryptBytes P m key objid genno (ivOf d) d) = d := by
  obtain ⟨hkey, hmeth, hak, hiv⟩ := hm
  unfold decrypt
  by_cases hc : h.cls = 1
  · rw [if_pos hc] at hmeth
    rw [if_pos hc, hmeth, hkey]
    exact roundtrip_rc4 P key objid genno _ d
  · rw [if_neg hc] at hmeth
    have hno : ¬ (¬ h.encryptMetadata = true ∧ isMeta = true) :=
      fun ⟨h1, h2⟩ => Bool.noConfusion ((hmeta hc h1).symm.trans h2)
    rw [if_neg hc, if_neg hno, hmeth]
    subst hkey
    cases m with
    | rc4 => exact roundtrip_rc4 P _ objid genno _ d
    | aes128 => exact roundtrip_aes128 P hP _ objid genno _ d (hak rfl) (hiv (Or.inl rfl) d)
    | aes256 => exact roundtrip_aes256 P hP _ objid genno _ d (hiv (Or.inr rfl) d)
    | identity => rfl

/-- **Whole objects**: `getobj` of an indirect object whose strings (also those inside a stream
    dictionary) and stream payload were encrypted by the writer returns the original object.
    A Metadata stream is left alone by both sides when EncryptMetadata is false; a
    cross-reference stream is never touched. -/
theorem C10_roundtrip (P : Prims) (hP : PrimsOK P) (h : Handler) (m : Method) (key : Bytes)
    (ivOf : Bytes → Bytes) (hm : Matches h m key ivOf) (objid genno : Nat) (o : Obj)
    (hne : m ≠ .identity → ∀ b, encryptBytes P m key objid genno (ivOf b) b = [] → b = []) :
    getobj P h .direct objid genno
      (encryptAll (fun b => encryptBytes P m key objid genno (ivOf b) b)
        (fun attrs => h.cls ≠ 1 ∧ ¬ h.encryptMetadata ∧ attrsType attrs = some atomMetadata) o) = o := by
  unfold getobj
  apply decipher_encrypt_obj
  · intro b
    exact C10_roundtrip_bytes P hP h m key ivOf hm objid genno b false (fun _ _ => rfl)
  · intro b hb
    by_cases hid : m = .identity
    · subst hid; exact hb
    · exact hne hid b hb
  · intro attrs raw
    by_cases hs : h.cls ≠ 1 ∧ ¬ h.encryptMetadata ∧ attrsType attrs = some atomMetadata
    · -- a Metadata stream the writer left in clear: `decrypt` returns it untouched
      rw [if_pos (decide_eq_true hs)]
      unfold decrypt
      simp [hs.1, hs.2.1, hs.2.2]
    · rw [if_neg fun hd => hs (of_decide_eq_true hd)]
      exact C10_roundtrip_bytes P hP h m key ivOf hm objid genno raw _
        fun hc hem => decide_eq_false fun ht => hs ⟨hc, hem, ht⟩

/-! ## decryption is applied exactly where the standard says -/

/-- Members of object streams, the trailer / cross-reference stream dictionary and the Encrypt
    dictionary are returned as stored: never deciphered (a second time). -/
theorem once_only_not_elsewhere (P : Prims) (h : Handler) (loc : Loc) (objid genno : Nat) (o : Obj)
    (hl : loc ≠ .direct) : getobj P h loc objid genno o = o := by
  cases loc <;> first | exact absurd rfl hl | rfl

/-- A cross-reference stream is exempt even when it is read as an ordinary indirect object. -/
theorem once_only_xref (P : Prims) (h : Handler) (objid genno : Nat) (attrs : List (Bytes × Obj))
    (raw : Bytes) (hx : attrsType attrs = some atomXRef) :
    getobj P h .direct objid genno (.stream attrs raw) = .stream attrs raw := by
  simp [getobj, decipherAll, hx]

/-- `getobj` of a direct object that is a non-empty string `s` is the string `decrypt s`: one
    application of the cipher (an empty string is skipped, see `encryptBytes_ne_nil`). -/
theorem once_only_string (P : Prims) (h : Handler) (objid genno : Nat) (b : Bytes) (hb : b ≠ []) :
    getobj P h .direct objid genno (.str b) = .str (decrypt P h objid genno false b) := by
  cases b with
  | nil => exact absurd rfl hb
  | cons x xs => simp [getobj, decipherAll]

/-- **Deciphered exactly once, as a trace**: a first `getobj` of a direct object (any nesting
    depth of arrays / dictionaries, strings inside a stream dictionary, the stream payload) makes
    exactly the cipher calls `expectedCalls o` - each non-empty string once, the payload once,
    nothing for a cross-reference stream - and returns the pure model's result. -/
theorem once_only_trace (P : Prims) (h : Handler) (caching : Bool) (objid genno : Nat) (o : Obj) :
    (getobjSt P h caching {} .direct objid genno o).1 = getobj P h .direct objid genno o ∧
    (getobjSt P h caching {} .direct objid genno o).2.2 = expectedCalls o := by
  simp [getobjSt, cacheLookup, getobj, decipherAllT_spec]

/-- Members of object streams, the trailer and the Encrypt dictionary: zero cipher calls. -/
theorem once_only_trace_elsewhere (P : Prims) (h : Handler) (caching : Bool) (st : DocState) (loc : Loc)
    (objid genno : Nat) (o : Obj) (hl : loc ≠ .direct) (hc : cacheLookup objid st.cache = none) :
    (getobjSt P h caching st loc objid genno o).1 = o ∧
    (getobjSt P h caching st loc objid genno o).2.2 = [] := by
  cases loc <;> first | exact absurd rfl hl | simp [getobjSt, hc]

/-- State carried across calls: with the cache on, a second `getobj` of the same object returns
    the same object and makes **no** cipher call (the cached object is not deciphered again). -/
theorem once_only_second_read_cached (P : Prims) (h : Handler) (loc : Loc) (objid genno : Nat) (o : Obj) :
    let r1 := getobjSt P h true {} loc objid genno o
    let r2 := getobjSt P h true r1.2.1 loc objid genno o
    r2.1 = r1.1 ∧ r2.2.2 = [] ∧ r2.2.1.cache = r1.2.1.cache := by
  simp [getobjSt, cacheLookup]

/-- With the cache off the object is parsed again from the stored bytes and deciphered afresh:
    same result, same calls, same state.  (The stored object `o` is an argument of both calls, and
    without caching `getobjSt` leaves the state as it was.) -/
theorem once_only_second_read_uncached (P : Prims) (h : Handler) (loc : Loc) (objid genno : Nat) (o : Obj) :
    let r1 := getobjSt P h false {} loc objid genno o
    let r2 := getobjSt P h false r1.2.1 loc objid genno o
    r2 = r1 := by
  simp [getobjSt, cacheLookup]

/-- Non-vacuity of the trace statement: a dictionary holding an array holding a dictionary, an
    empty string, and a stream with a string in its dictionary - four calls, in traversal order. -/
example :
    expectedCalls (.dict [([65], .arr [.str [1], .dict [([66], .str [2, 3])], .str []]),
                          ([67], .stream [([68], .str [4])] [9, 9])])
      = [.str [1], .str [2, 3], .str [4], .payload false [9, 9]] := by decide

/-- Encrypting a non-empty string never yields the empty string (so the reader's "skip empty
    strings" shortcut cannot hit an encrypted string). -/
theorem encryptBytes_ne_nil (P : Prims) (m : Method) (key : Bytes) (objid genno : Nat) (iv b : Bytes)
    (hm : m ≠ .identity) (hiv : iv.length = 16)
    (h : encryptBytes P m key objid genno iv b = []) : b = [] := by
  have hl := congrArg List.length h
  cases m with
  | identity => exact absurd rfl hm
  | rc4 => rw [encryptBytes, rc4Core_length] at hl; exact List.eq_nil_of_length_eq_zero hl
  | aes128 => simp [encryptBytes, hiv] at hl
  | aes256 => simp [encryptBytes, hiv] at hl

/-! ### call-order independence: strings at `getobj`, payload at `get_data()` -/

/-- `getobj` followed by `get_data()` is the one-step model `getobj`: for every whole indirect
    object (no stream nested inside another object). -/
theorem getobj_two_phase (P : Prims) (h : Handler) (objid genno : Nat) (o : Obj)
    (hw : wellFormed o = true) :
    getData P h objid genno (getobjLazy P h .direct objid genno o) = getobj P h .direct objid genno o := by
  cases o with
  | str b => by_cases hb : b.isEmpty <;> simp [getobjLazy, getobj, decipherAll, getData, hb]
  | atom a => rfl
  | arr xs => exact decipher_flat _ _ _ (.arr xs) hw
  | dict kvs => exact decipher_flat _ _ _ (.dict kvs) hw
  | stream attrs raw =>
    simp only [wellFormed] at hw
    simp only [getobjLazy, getobj, decipherAll]
    by_cases hx : attrsType attrs = some atomXRef
    · simp [hx, getData]
    · simp only [hx, if_false, getData, attrsType_decipherKVs]
      rw [decipher_flat_kvs _ _ (decrypt P h objid genno) attrs hw]

/-- **The strings of a stream dictionary are plaintext as soon as `getobj` returns** - before, and
    independently of, any `get_data()`: what `getobj` hands out for an encrypted stream object is a
    stream with the original dictionary (about its payload, `stored`, nothing is said here). -/
theorem C10_stream_dict_before_decode (P : Prims) (hP : PrimsOK P) (h : Handler) (m : Method) (key : Bytes)
    (ivOf : Bytes → Bytes) (hm : Matches h m key ivOf) (hiv : ∀ b, (ivOf b).length = 16)
    (objid genno : Nat) (attrs : List (Bytes × Obj)) (raw : Bytes)
    (hflat : flatKVs attrs = true) (hx : attrsType attrs ≠ some atomXRef)
    (skip : List (Bytes × Obj) → Bool) :
    ∃ stored, getobjLazy P h .direct objid genno
      (encryptAll (fun b => encryptBytes P m key objid genno (ivOf b) b) skip (.stream attrs raw))
      = .stream attrs stored := by
  refine ⟨if skip attrs then raw else encryptBytes P m key objid genno (ivOf raw) raw, ?_⟩
  simp only [getobjLazy, encryptAll, hx, if_false, decipherAll, attrsType_encryptKVs]
  have hk := decipher_encrypt_kvs (decrypt P h objid genno false) (fun _ r => r)
    (fun b => encryptBytes P m key objid genno (ivOf b) b) (fun _ => true)
    (fun b => C10_roundtrip_bytes P hP h m key ivOf hm objid genno b false (fun _ _ => rfl))
    (by
      intro b hb
      by_cases hid : m = .identity
      · subst hid; exact hb
      · exact encryptBytes_ne_nil P m key objid genno (ivOf b) b hid (hiv b) hb)
    (by intro a r; simp) attrs
  -- the dictionary is flat, so how nested payloads would be treated is irrelevant on both sides
  rw [encrypt_flat_kvs _ skip (fun _ => true) attrs hflat, hk]

/-- Which calls happen when: `getobj` makes only string calls, `get_data()` only payload calls, and
    together they are as many as `expectedCalls` (`lazyCalls` / `dataCalls` are its two filters). -/
theorem once_only_phases (o : Obj) :
    (lazyCalls o).length + (dataCalls o).length = (expectedCalls o).length ∧
    (∀ c ∈ lazyCalls o, c.isStr = true) ∧ (∀ c ∈ dataCalls o, c.isStr = false) := by
  refine ⟨?_, fun c hc => (List.mem_filter.mp hc).2, fun c hc => by simpa using (List.mem_filter.mp hc).2⟩
  simp only [lazyCalls, dataCalls, ← List.countP_eq_length_filter]
  rw [List.length_eq_countP_add_countP Call.isStr]
  simp

/-! ## permissions -/

/-- print / modify / extract are bits 3 / 4 / 5 of P (values 4, 8, 16) of the stored value. -/
theorem perms_bits (h : Handler) :
    isPrintable h = (h.p / 4 % 2 == 1) ∧ isModifiable h = (h.p / 8 % 2 == 1) ∧
    isExtractable h = (h.p / 16 % 2 == 1) := by
  have key : ∀ p k : Nat, (p &&& 2 ^ k != 0) = (p / 2 ^ k % 2 == 1) := by
    intro p k
    -- `p &&& 2 ^ k` is bit `k` of `p`, put back in its place
    have hb : p &&& 2 ^ k = 2 ^ k * (p / 2 ^ k % 2) := by
      rw [← Nat.div_add_mod (p &&& 2 ^ k) (2 ^ k), Nat.and_div_two_pow, Nat.and_mod_two_pow,
        Nat.div_self (Nat.two_pow_pos k), Nat.mod_self, Nat.and_one_is_mod, Nat.and_zero, Nat.add_zero]
    rw [hb]
    rcases Nat.mod_two_eq_zero_or_one (p / 2 ^ k) with hm | hm <;> simp [hm]
  exact ⟨key h.p 2, key h.p 3, key h.p 4⟩

/-- ... and the stored unsigned value has the same low bits as the signed P of the dictionary. -/
theorem perms_of_signed_P (p : Int) :
    (uintValue32 p) % 32 = (p % 32).toNat := by
  rw [uintValue32_eq]; omega

/-! ## wrong passwords -/

/-- Rejection (revisions 2-4) for an arbitrary Encrypt dictionary: if neither the password itself
    nor what Algorithm 7 recovers from O with it passes the U check, it is rejected.  (Generic
    form; `C10_rejects_writer_partial` instantiates it for documents of a conforming writer.) -/
theorem C10_rejects_generic (P : Prims) (prm : Params) (length p : Nat) (cps : List Nat)
    (hk : keyBytes prm.r length ≠ 0)
    (hu : ∀ b, encodeLatin1 cps = some b → authUser P prm length p b = none)
    (ho : ∀ b, encodeLatin1 cps = some b → authUser P prm length p (recoverUser P prm length b) = none) :
    authenticate234 P prm length p cps = .error .passwordIncorrect := by
  cases henc : encodeLatin1 cps with
  | none => simp only [authenticate234, henc]
  | some b => exact authenticate234_reject henc hk (hu b henc) (ho b henc)

theorem pad32_of_length (x : Bytes) (h : x.length = 32) : pad32 x = x := pad32_eq_self h

theorem alg3O_length (P : Prims) (c : Cfg) (po pu : Bytes) : (alg3O P c po pu).length = pu.length := by
  rw [alg3O_eq]
  split
  · rw [rc4Layers_length, rc4Core_length]
  · rw [rc4Core_length]

theorem recoverUser_length (P : Prims) (prm : Params) (length : Nat) (q : Bytes) :
    (recoverUser P prm length q).length = prm.o.length := by
  fun_cases recoverUser P prm length q
  · exact rc4Core_length _ _
  · exact rc4Layers_length _ _ _

/-- **Every other password is rejected** (revisions 2-4, documents of a conforming writer).
    `_partial`: exactly two cryptographic assumptions remain, both about MD5/RC4 as used here:
    (H1) second-preimage resistance of the U check - no 32-byte padded password other than the
         user's produces a key that passes Algorithm 6;
    (H2) no password other than the owner's produces an RC4 key that decrypts O to the padded user
         password.
    Everything else (padding, Algorithm 2, the 20 layers, lengths, the Latin-1 step) is proved. -/
theorem C10_rejects_writer_partial (P : Prims) (c : Cfg) (v : Int)
    (userPw ownerPw tail : Bytes) (cps : List Nat)
    (hr : c.r = 2 ∨ c.r = 3 ∨ c.r = 4)
    (hl : 8 ≤ c.length)
    (H1 : ∀ q : Bytes, verifyKey P (params234 c v (derive234 P c (pad32 userPw) (pad32 ownerPw) tail).1
              (derive234 P c (pad32 userPw) (pad32 ownerPw) tail).2.1)
            (alg2Key P c (pad32 q) (derive234 P c (pad32 userPw) (pad32 ownerPw) tail).1) = true →
          pad32 q = pad32 userPw)
    (H2 : ∀ q : Bytes, recoverUser P (params234 c v (derive234 P c (pad32 userPw) (pad32 ownerPw) tail).1
              (derive234 P c (pad32 userPw) (pad32 ownerPw) tail).2.1) c.length q = pad32 userPw →
          pad32 q = pad32 ownerPw)
    (hw : ∀ b, encodeLatin1 cps = some b → pad32 b ≠ pad32 userPw ∧ pad32 b ≠ pad32 ownerPw) :
    authenticate234 P (params234 c v (derive234 P c (pad32 userPw) (pad32 ownerPw) tail).1
        (derive234 P c (pad32 userPw) (pad32 ownerPw) tail).2.1) c.length (uintValue32 c.p) cps
      = .error .passwordIncorrect := by
  have hnone : ∀ q : Bytes, pad32 q ≠ pad32 userPw →
      authUser P (params234 c v (derive234 P c (pad32 userPw) (pad32 ownerPw) tail).1
        (derive234 P c (pad32 userPw) (pad32 ownerPw) tail).2.1) c.length (uintValue32 c.p) q = none := by
    intro q hq
    unfold authUser
    simp only [computeKey_is_alg2 P c v _ _ q hr]
    exact if_neg fun hv => hq (H1 q hv)
  apply C10_rejects_generic _ _ _ _ _ (keyBytes_ne_zero _ hl) (fun b hb => hnone b (hw b hb).1)
  intro b hb
  apply hnone
  intro hq
  -- what Algorithm 7 recovers is as long as O, that is 32 bytes, so padding leaves it alone
  rw [pad32_of_length _ (by rw [recoverUser_length]; exact (alg3O_length P c _ _).trans (pad32_length _))] at hq
  exact (hw b hb).2 (H2 b hq)

/-- A password that has no Latin-1 form is rejected outright (repaired behaviour; the pinned code
    raised UnicodeEncodeError). -/
theorem rejects_non_latin1 (P : Prims) (prm : Params) (length p : Nat) (cps : List Nat)
    (h : encodeLatin1 cps = none) :
    authenticate234 P prm length p cps = .error .passwordIncorrect := by
  simp [authenticate234, h]

/-- R5/R6: a password whose hashes match neither the O nor the U validation hash is rejected;
    a password SASLprep refuses is rejected as incorrect. -/
theorem r56_rejects_partial (P : Prims) (prm : Params) (cps : List Nat) (b : Bytes)
    (hn : normalizePassword P prm.r cps = .ok b)
    (ho : passwordHash P prm.r b (oValidationSalt prm) prm.u ≠ oHash prm)
    (hu : passwordHash P prm.r b (uValidationSalt prm) [] ≠ uHash prm) :
    authenticate56 P prm cps = .error .passwordIncorrect :=
  authenticate56_reject hn (if_neg ho) (if_neg hu)

theorem r6_rejects_saslprep_refused (P : Prims) (prm : Params) (cps : List Nat)
    (hr : prm.r = 6) (hne : cps ≠ []) (hs : saslprepModel P.sasl cps = none) :
    authenticate56 P prm cps = .error .passwordIncorrect := by
  cases cps with
  | nil => exact absurd rfl hne
  | cons c cs => simp [authenticate56, normalizePassword, hr, hs]

/-! ## SASLprep (revision 6 password preparation) -/

/-- RFC 4013 as written: map (C.1.2 -> SPACE, B.1 -> nothing), NFKC, then reject prohibited output
    and unassigned code points, and apply RFC 3454 section 6: if the string contains any RandALCat
    character it must contain no LCat character and must begin and end with a RandALCat character. -/
def saslprepSpec (T : SaslTables) (data : List Nat) : Option (List Nat) :=
  let norm := T.nfkc ((data.filter (fun c => ! T.b1 c)).map (fun c => if T.c12 c then 32 else c))
  if norm.any T.prohibited then none
  else if norm.any T.d1 then
    if norm.any T.d2 then none
    else match norm.head?, norm.getLast? with
      | some a, some b => if T.d1 a && T.d1 b then some norm else none
      | _, _ => none
  else some norm

/-- The tables `_saslprep.py` consults are exactly those of RFC 4013 section 2.3 (+ A.1 for stored
    strings), and C.1.2 characters are mapped to U+0020 - regenerated from the source on every run. -/
theorem sasl_tables_are_rfc4013 :
    SASL_PROHIBITED_TABLES = ["c12", "c21_c22", "c3", "c4", "c5", "c6", "c7", "c8", "c9"] ∧
    SASL_BODY_TABLES = ["c12", "b1", "d1", "a1", "d2"] ∧ SASL_SPACE = 32 := by decide

theorem any_or (l : List Nat) (p q : Nat → Bool) :
    l.any (fun c => p c || q c) = (l.any p || l.any q) := by
  induction l with
  | nil => rfl
  | cons a t ih => simp only [List.any_cons, ih]; cases p a <;> cases q a <;> simp

theorem any_of_head (l : List Nat) (p : Nat → Bool) (a : Nat) (h : l.head? = some a) (hp : p a = true) :
    l.any p = true :=
  List.any_eq_true.mpr ⟨a, List.mem_of_head? h, hp⟩

theorem any_of_last (l : List Nat) (p : Nat → Bool) (a : Nat) (h : l.getLast? = some a) (hp : p a = true) :
    l.any p = true :=
  List.any_eq_true.mpr ⟨a, List.mem_of_getLast? h, hp⟩

/-- **The control flow of `_saslprep.saslprep` implements RFC 4013** for every table content: the
    code's bidi logic ("first character RandALCat => last must be, and no LCat; otherwise no
    RandALCat anywhere") is equivalent to RFC 3454 section 6.  What stays trusted is the content of
    the `stringprep` tables and Unicode 3.2 NFKC. -/
theorem saslprep_model_eq_spec (T : SaslTables) (data : List Nat) :
    saslprepModel T data = saslprepSpec T data := by
  unfold saslprepModel saslprepSpec
  simp only [show SASL_SPACE = 32 from rfl, any_or]
  generalize T.nfkc _ = norm
  cases hh : norm.head? with
  | none => simp [List.head?_eq_none_iff.mp hh]
  | some first =>
    cases hl : norm.getLast? with
    | none => rw [List.getLast?_eq_none_iff.mp hl] at hh; cases hh
    | some last =>
      dsimp only
      cases hp : norm.any T.prohibited
      case true => simp
      cases h1 : T.d1 first
      · -- no RandALCat in front: the code refuses one anywhere, the RFC refuses the string that has one
        cases hany : norm.any T.d1 <;> simp
      · -- a RandALCat in front, so there is one: both ask for one at the end and for no LCat
        have hany := any_of_head norm T.d1 first hh h1
        cases h2 : T.d1 last <;> simp [hany]

/-- Non-vacuity: an Arabic letter followed by a Latin one is refused, two Arabic letters pass
    (toy tables: 0x627/0x628 are RandALCat, 0x61 is LCat). -/
example :
    let T : SaslTables := { c12 := fun _ => false, b1 := fun c => c == 0xAD, prohibited := fun c => c == 7,
                            d1 := fun c => c == 0x627 || c == 0x628, d2 := fun c => c == 0x61, nfkc := id }
    saslprepModel T [0x627, 0x61] = none ∧ saslprepModel T [0x627, 0xAD, 0x628] = some [0x627, 0x628] ∧
    saslprepModel T [0xAD] = some [] ∧ saslprepModel T [0x61, 7] = none := by decide

/-! ## end to end: handler selection + authentication + round trip + permissions -/

/-- CFM name a writer stores for a method. -/
def cfmName : Method → Bytes
  | .rc4 => nameV2
  | .aes128 => nameAESV2
  | .aes256 => nameAESV3
  | .identity => []

/-- Encrypt dictionary of a V4/V5 document: the entries of `base` plus one crypt filter `cfName`
    with method `m` named by StmF and StrF (for Identity: no CF entry, StmF = StrF = /Identity). -/
def withCryptFilter (base : Params) (cfName : Bytes) (m : Method) : Params :=
  { base with
    cf := if m = .identity then [] else [(cfName, cfmName m)]
    stmf := if m = .identity then nameIdentity else cfName
    strf := if m = .identity then nameIdentity else cfName }

/-- The encryption schemes the handler registry of pdfminer knows; `C10_main` is about all of them. -/
inductive Config where
  /-- V 1 or 2, revision 2 or 3, RC4 with `Length` 40..128 -/
  | base (v : Int) (c : Cfg)
  /-- V 4, revision 4, crypt filter `cfName` with V2 (RC4-128), AESV2 or Identity -/
  | v4 (c : Cfg) (cfName : Bytes) (m : Method)
  /-- V 5, revision 5 or 6, crypt filter `cfName` with AESV3 -/
  | v5 (r : Int) (p : Int) (cfName : Bytes) (encryptMetadata : Bool)

structure Passwords where
  userCps : List Nat       -- the password as typed (code points)
  user : Bytes             -- its key-derivation form (Latin-1 bytes / normalised UTF-8)
  owner : Bytes

structure Rand where
  tail : Bytes             -- 16 arbitrary bytes of U (R3/R4)
  fileKey : Bytes          -- R5/R6 file key
  salts : Salts

def Config.valid (P : Prims) : Config → Passwords → Rand → Prop
  | .base v c, pw, _ =>
    (v = 1 ∨ v = 2) ∧ (c.r = 2 ∨ c.r = 3) ∧ 8 ≤ c.length ∧
    encodeLatin1 pw.userCps = some pw.user
  | .v4 c cfName m, pw, _ =>
    c.r = 4 ∧ c.length = 128 ∧
    (m = .rc4 ∨ m = .aes128 ∨ m = .identity) ∧ cfName ≠ nameIdentity ∧
    encodeLatin1 pw.userCps = some pw.user
  | .v5 r _ cfName _, pw, rnd =>
    (r = 5 ∨ r = 6) ∧ cfName ≠ nameIdentity ∧ Salts8 P r rnd.salts ∧
    normalizePassword P r pw.userCps = .ok pw.user ∧
    (pw.user ≠ pw.owner → passwordHash P r pw.user rnd.salts.ov (derive56 P r rnd.fileKey pw.user pw.owner rnd.salts).1
        ≠ passwordHash P r pw.owner rnd.salts.ov (derive56 P r rnd.fileKey pw.user pw.owner rnd.salts).1)

/-- The Encrypt dictionary (as `init_params` reads it) that a conforming writer stores. -/
def Config.encryptDict (P : Prims) : Config → Passwords → Rand → Params
  | .base v c, pw, rnd =>
    params234 c v (derive234 P c (pad32 pw.user) (pad32 pw.owner) rnd.tail).1
      (derive234 P c (pad32 pw.user) (pad32 pw.owner) rnd.tail).2.1
  | .v4 c cfName m, pw, rnd =>
    withCryptFilter (params234 c 4 (derive234 P c (pad32 pw.user) (pad32 pw.owner) rnd.tail).1
      (derive234 P c (pad32 pw.user) (pad32 pw.owner) rnd.tail).2.1) cfName m
  | .v5 r p cfName em, pw, rnd =>
    withCryptFilter { params56 r (derive56 P r rnd.fileKey pw.user pw.owner rnd.salts) with
                      p := p, encryptMetadata := em } cfName .aes256

def Config.fileKey (P : Prims) : Config → Passwords → Rand → Bytes
  | .base _ c, pw, rnd => (derive234 P c (pad32 pw.user) (pad32 pw.owner) rnd.tail).2.2
  | .v4 c _ _, pw, rnd => (derive234 P c (pad32 pw.user) (pad32 pw.owner) rnd.tail).2.2
  | .v5 _ _ _ _, _, rnd => rnd.fileKey

def Config.method : Config → Method
  | .base _ _ => .rc4
  | .v4 _ _ m => m
  | .v5 _ _ _ _ => .aes256

def Config.P : Config → Int
  | .base _ c => c.p
  | .v4 c _ _ => c.p
  | .v5 _ p _ _ => p

theorem lookup_cfm (cfName : Bytes) (m : Method) (h : cfName ≠ nameIdentity) :
    lookup cfName ([(cfName, m)].filter (fun km => km.1 ≠ nameIdentity) ++ [(nameIdentity, Method.identity)])
      = some m := by
  simp [lookup, h]

def Config.wf : Config → Prop
  | .base v c => (v = 1 ∨ v = 2) ∧ (c.r = 2 ∨ c.r = 3) ∧ 8 ≤ c.length
  | .v4 c cfName m =>
    c.r = 4 ∧ c.length = 128 ∧ (m = .rc4 ∨ m = .aes128 ∨ m = .identity) ∧ cfName ≠ nameIdentity
  | .v5 r _ cfName _ => (r = 5 ∨ r = 6) ∧ cfName ≠ nameIdentity

theorem Config.valid_wf (P : Prims) (cfg : Config) (pw : Passwords) (rnd : Rand)
    (hv : cfg.valid P pw rnd) : cfg.wf := by
  cases cfg with
  | base v c => exact ⟨hv.1, hv.2.1, hv.2.2.1⟩
  | v4 c cfName m => exact ⟨hv.1, hv.2.1, hv.2.2.1, hv.2.2.2.1⟩
  | v5 r p cfName em => exact ⟨hv.1, hv.2.1⟩

/-- the `authenticate` call `_initialize_password` makes for this configuration's handler class -/
def Config.authenticate (P : Prims) (cfg : Config) (prm : Params) (cps : List Nat) : Except Err Bytes :=
  match cfg with
  | .base _ c => authenticate234 P prm c.length (uintValue32 c.p) cps
  | .v4 c _ _ => authenticate234 P prm 128 (uintValue32 c.p) cps
  | .v5 _ _ _ _ => authenticate56 P prm cps

/-- Handler selection, `init_params` and the revision check succeed for every well-formed
    configuration *whatever the password*: `openHandler` is `authenticate` of the selected class,
    wrapped into the handler.  `C10_open` and `C10_open_owner` are its instances for the two passwords. -/
theorem C10_open_of_authenticate (P : Prims) (cfg : Config) (pw : Passwords) (rnd : Rand)
    (hw : cfg.wf) (cps : List Nat)
    (ha : cfg.authenticate P (cfg.encryptDict P pw rnd) cps = .ok (cfg.fileKey P pw rnd)) :
    ∃ h, openHandler P (cfg.encryptDict P pw rnd) cps = .ok h ∧
         h.key = cfg.fileKey P pw rnd ∧ h.p = uintValue32 cfg.P ∧
         (if h.cls = 1 then cfg.method = .rc4 else lookup h.strf h.cfm = some cfg.method) := by
  cases cfg with
  | base v c =>
    have hs := initParams_base (prm := Config.encryptDict P (.base v c) pw rnd) rfl hw.1 hw.2.1
    exact ⟨_, openHandler_of_initParams P hs ha, rfl, rfl, rfl⟩
  | v4 c cfName m =>
    obtain ⟨hr, _, hm, hcf⟩ := hw
    have hs : initParams (Config.encryptDict P (.v4 c cfName m) pw rnd) = _ :=
      initParams_filter (cfmN := cfmName m) (m := m) rfl (.inl ⟨rfl, rfl, hr⟩) hcf
        (by rcases hm with rfl | rfl | rfl <;> decide)
    refine ⟨_, openHandler_of_initParams P hs ha, rfl, rfl, ?_⟩
    rcases hm with rfl | rfl | rfl <;> simp [Config.method, lookup]
  | v5 r p cfName em =>
    have hs : initParams (Config.encryptDict P (.v5 r p cfName em) pw rnd) = _ :=
      initParams_filter (cfmN := cfmName .aes256) (m := .aes256) rfl (.inr ⟨rfl, rfl, hw.1⟩) hw.2 (.inr (by decide))
    refine ⟨_, openHandler_of_initParams P hs ha, rfl, rfl, ?_⟩
    simp [Config.method, lookup]

/-- **Opening with the user password** selects the right handler class and recovers the file key,
    for every configuration. -/
theorem C10_open (P : Prims) (hP : PrimsOK P) (cfg : Config) (pw : Passwords) (rnd : Rand)
    (hv : cfg.valid P pw rnd) :
    ∃ h, openHandler P (cfg.encryptDict P pw rnd) pw.userCps = .ok h ∧
         h.key = cfg.fileKey P pw rnd ∧ h.p = uintValue32 cfg.P ∧
         (if h.cls = 1 then cfg.method = .rc4 else lookup h.strf h.cfm = some cfg.method) := by
  apply C10_open_of_authenticate P cfg pw rnd (Config.valid_wf P cfg pw rnd hv)
  cases cfg with
  | base v c =>
    obtain ⟨_, hr, hl, henc⟩ := hv
    exact authenticate_user_accepts P hP c v pw.userCps pw.user pw.owner rnd.tail (hr.imp_right Or.inl)
      hl henc
  | v4 c cfName m =>
    obtain ⟨hr, hl, _, _, henc⟩ := hv
    have ha := authenticate_user_accepts P hP c 4 pw.userCps pw.user pw.owner rnd.tail
      (Or.inr (Or.inr hr)) (by omega) henc
    rwa [hl] at ha
  | v5 r p cfName em =>
    obtain ⟨_, _, hs, hn, hcoll⟩ := hv
    exact r56_authenticate_user_partial P hP r rnd.fileKey pw.user pw.owner rnd.salts hs pw.userCps hn hcoll

/-- **Reachable AES-128 key lengths** (remark on `min(len(key)+9, 16)` in `decrypt_aes128`): every
    V4 document has a 16-byte file key, because `init_params` forces `length = 128`; the deviation
    from Algorithm 1 (`min(n+5, 16)`) concerns keys shorter than 11 bytes only, which the V4 handler
    can never hold. -/
theorem v4_file_key_length (P : Prims) (hP : PrimsOK P) (c : Cfg) (pu o : Bytes)
    (hr : c.r = 4) (hl : c.length = 128) : (alg2Key P c pu o).length = 16 := by
  rw [alg2Key_length P hP.md5_len c pu o (by omega)]
  unfold keyLen
  simp [hr, hl]

/-- **C10, main statement (user password).**  For every configuration of the property's
    quantifier - V1/V2 RC4 with any key length, V4 with RC4 / AESV2 / Identity, V5 revisions 5 and 6
    with AESV3; any P, ID, EncryptMetadata, crypt-filter name, passwords, IVs - opening the
    document a conforming writer produced with the user password
      * succeeds, with the handler class of the registry and the writer's file key,
      * reports print / modify / extract as bits 3 / 4 / 5 of the stored P,
      * and `getobj` returns every direct object exactly as it was before encryption (strings at
        any depth, stream dictionaries, payloads; Metadata rule; XRef exemption).
    Assumptions: `PrimsOK` (MD5 digests are 16 bytes, AES-CBC decrypt inverts encrypt) and, for
    V5 only, the no-collision clause inside `Config.valid`. -/
theorem C10_main (P : Prims) (hP : PrimsOK P) (cfg : Config) (pw : Passwords) (rnd : Rand)
    (hv : cfg.valid P pw rnd) (ivOf : Bytes → Bytes) (hiv : ∀ b, (ivOf b).length = 16) :
    ∃ h, openHandler P (cfg.encryptDict P pw rnd) pw.userCps = .ok h ∧
      (isPrintable h = (uintValue32 cfg.P / 4 % 2 == 1) ∧
       isModifiable h = (uintValue32 cfg.P / 8 % 2 == 1) ∧
       isExtractable h = (uintValue32 cfg.P / 16 % 2 == 1)) ∧
      ∀ (objid genno : Nat) (o : Obj),
        getobj P h .direct objid genno
          (encryptAll (fun b => encryptBytes P cfg.method (cfg.fileKey P pw rnd) objid genno (ivOf b) b)
            (fun attrs => h.cls ≠ 1 ∧ ¬ h.encryptMetadata ∧ attrsType attrs = some atomMetadata) o) = o := by
  obtain ⟨h, hopen, hkey, hp, hmeth⟩ := C10_open P hP cfg pw rnd hv
  have hm : Matches h cfg.method (cfg.fileKey P pw rnd) ivOf := by
    refine ⟨hkey, hmeth, fun haes => ?_, fun _ => hiv⟩
    cases cfg with
    | base v c => cases haes
    | v5 r p n e => cases haes
    | v4 c cfName m =>
      show 11 ≤ (alg2Key P c (pad32 pw.user) (alg3O P c (pad32 pw.owner) (pad32 pw.user))).length
      rw [v4_file_key_length P hP c _ _ hv.1 hv.2.1]
      decide
  exact ⟨h, hopen, hp ▸ perms_bits h, fun objid genno o =>
    C10_roundtrip P hP h cfg.method (cfg.fileKey P pw rnd) ivOf hm objid genno o
      fun hne b hb => encryptBytes_ne_nil P cfg.method _ objid genno (ivOf b) b hne (hiv b) hb⟩

/-! ## non-vacuity, and the pinned behaviour as proved counter-examples -/

/-- A concrete instance of the primitives (not cryptographic: digests are zero-padded prefixes,
    "AES" is the identity pair) - shows that `PrimsOK` is satisfiable, so none of the theorems
    above is vacuous. -/
def toyPrims : Prims where
  md5 := fun b => (b ++ List.replicate 16 0).take 16
  sha256 := fun b => (b ++ List.replicate 32 0).take 32
  sha384 := fun b => (b ++ List.replicate 48 0).take 48
  sha512 := fun b => (b ++ List.replicate 64 0).take 64
  aesDec := fun _ _ d => d
  aesEnc := fun _ _ d => d
  sasl := { c12 := fun _ => false, b1 := fun _ => false, prohibited := fun _ => false,
            d1 := fun _ => false, d2 := fun _ => false, nfkc := id }

theorem toyPrims_ok : PrimsOK toyPrims where
  md5_len := by intro x; simp [toyPrims]
  aes_inv := by intros; rfl

/-- RC4 test vector (key "Key", plaintext "Plaintext" -> BBF316E8D940AF0AD3): the model of
    arcfour.py computes the published ciphertext. -/
example : rc4Core [75, 101, 121] [80, 108, 97, 105, 110, 116, 101, 120, 116]
    = [0xBB, 0xF3, 0x16, 0xE8, 0xD9, 0x40, 0xAF, 0x0A, 0xD3] := by
  rw [rc4Core_eq_prgaNat]; decide +kernel

/-- A revision 3, 128-bit document with user password "u" and owner password "o": both open it. -/
example :
    let c : Cfg := { r := 3, length := 128, p := -1044, id0 := [1, 2, 3] }
    let d := derive234 toyPrims c (pad32 [117]) (pad32 [111]) (List.replicate 16 7)
    authUser toyPrims (params234 c 2 d.1 d.2.1) 128 (uintValue32 (-1044)) [117] = some d.2.2 ∧
    authOwner toyPrims (params234 c 2 d.1 d.2.1) 128 (uintValue32 (-1044)) [111] = some d.2.2 :=
  ⟨user_pw_accepts toyPrims toyPrims_ok _ 2 [117] [111] _ (Or.inr (Or.inl rfl)),
   owner_pw_accepts toyPrims toyPrims_ok _ 2 [117] [111] _ (Or.inr (Or.inl rfl))⟩

/-- The behaviour of the pinned code before the fix: AES plaintext returned with its padding. -/
def pinnedDecryptAes256 (P : Prims) (key data : Bytes) : Bytes :=
  P.aesDec key (data.take 16) (data.drop 16)

/-- Counter-example for the pinned code (fixed in /repo): the one-byte string "A", AESV3 -
    decryption returned "A" followed by fifteen bytes 0x0F. -/
theorem C10_aes_padding_cex :
    pinnedDecryptAes256 toyPrims [1] (encryptBytes toyPrims .aes256 [1] 7 0 (List.replicate 16 9) [65])
      ≠ [65] := by decide

/-- ... whereas the repaired reader returns the original string. -/
example : decryptAes256 toyPrims [1] (encryptBytes toyPrims .aes256 [1] 7 0 (List.replicate 16 9) [65])
    = [65] := by decide

/-- Non-vacuity of `C10_main`: a valid configuration of each kind exists (toy primitives). -/
example : (Config.base 2 { r := 3, length := 128, p := -1044, id0 := [1, 2, 3] }).valid toyPrims
    { userCps := [117], user := [117], owner := [111] } { tail := [], fileKey := [], salts := ⟨[], [], [], []⟩ } :=
  ⟨.inr rfl, .inr rfl, by decide, rfl⟩

example : (Config.v4 { r := 4, length := 128, p := -4, id0 := [] } [83] .aes128).valid toyPrims
    { userCps := [], user := [], owner := [111] } { tail := [], fileKey := [], salts := ⟨[], [], [], []⟩ } :=
  ⟨rfl, rfl, .inr (.inl rfl), by decide, rfl⟩

theorem toy_salts8 (r : Int) (hr : r = 5) :
    Salts8 toyPrims r ⟨List.replicate 8 1, List.replicate 8 2, List.replicate 8 3, List.replicate 8 4⟩ where
  uv := by simp
  ov := by simp
  hash_len := by intro pw salt v; subst hr; simp [passwordHash, toyPrims]; omega

example : (Config.v5 5 (-4) [83] true).valid toyPrims
    { userCps := [117], user := [117], owner := [111] }
    { tail := [], fileKey := List.replicate 32 7,
      salts := ⟨List.replicate 8 1, List.replicate 8 2, List.replicate 8 3, List.replicate 8 4⟩ } :=
  ⟨.inl rfl, by decide, toy_salts8 5 rfl, rfl, fun _ => by decide⟩

/-! ## digest lengths: the password hash has 32 bytes -/

/-- SHA-2 digest lengths (facts about hashlib; checked on every table value the driver receives). -/
structure ShaLen (P : Prims) : Prop where
  sha256_len : ∀ x, (P.sha256 x).length = 32
  sha384_len : ∀ x, (P.sha384 x).length = 48
  sha512_len : ∀ x, (P.sha512 x).length = 64

/-- `_password_hash` returns exactly 32 bytes for every revision, password, salt and vector: SHA-256
    for revision 5; for revision 6 the loop always ends (`r6_fuel_suffices`), K stays at least 32
    bytes long through every round and `k[:32]` is returned. -/
theorem passwordHash_length (P : Prims) (hs : ShaLen P) (r : Int) (pw salt vec : Bytes) :
    (passwordHash P r pw salt vec).length = 32 := by
  fun_cases passwordHash P r pw salt vec
  · exact hs.sha256_len _
  · obtain ⟨res, hres⟩ :=
      Option.isSome_iff_exists.mp (r6_hash_defined P pw vec (P.sha256 (pw ++ salt.take 8 ++ vec)))
    rw [hres]
    exact r6Loop_length P hs.sha256_len hs.sha384_len hs.sha512_len pw vec _ _ _ _ res
      (by rw [hs.sha256_len]; omega) hres

/-- `Salts8.hash_len` follows from the digest lengths. -/
theorem salts8_of_sha (P : Prims) (hs : ShaLen P) (r : Int) (s : Salts)
    (huv : s.uv.length = 8) (hov : s.ov.length = 8) : Salts8 P r s :=
  ⟨huv, hov, fun pw salt v => passwordHash_length P hs r pw salt v⟩

/-! ## per-object keys: lengths (16-byte cap) -/

/-- the RC4 object key has `min(n + 5, 16)` bytes (5 = 3 bytes of the object number + 2 of the
    generation), for every file key, object number and generation -/
theorem objKeyRc4_length (P : Prims) (hP : PrimsOK P) (key : Bytes) (objid genno : Nat) :
    (objKeyRc4 P key objid genno).length = min (key.length + 5) 16 := by
  simp [objKeyRc4, OBJID_BYTES_RC4, GENNO_BYTES_RC4, OBJKEY_MAX_RC4, leBytes_length, hP.md5_len]

/-- the AES-128 object key of the reader has `min(n + 9, 16)` bytes: 16 for every reachable file
    key (`v4_file_key_length`), and never more than 16 -/
theorem objKeyAes_length (P : Prims) (hP : PrimsOK P) (key : Bytes) (objid genno : Nat) :
    (objKeyAes P key objid genno).length = min (key.length + 9) 16 := by
  simp [objKeyAes, OBJID_BYTES_AES, GENNO_BYTES_AES, OBJKEY_MAX_AES, AES_SALT, leBytes_length, hP.md5_len]

/-- only the three low-order bytes of the object number and the two low-order bytes of the
    generation enter the key -/
theorem objKey_low_order_bytes (P : Prims) (key : Bytes) (objid genno : Nat) :
    objKeyRc4 P key objid genno = objKeyRc4 P key (objid % 2 ^ 24) (genno % 2 ^ 16) ∧
    objKeyAes P key objid genno = objKeyAes P key (objid % 2 ^ 24) (genno % 2 ^ 16) := by
  have h3 : ∀ n, leBytes 3 (n % 2 ^ 24) = leBytes 3 n := leBytes_mod 3
  have h2 : ∀ n, leBytes 2 (n % 2 ^ 16) = leBytes 2 n := leBytes_mod 2
  constructor
  · simp only [objKeyRc4, OBJID_BYTES_RC4, GENNO_BYTES_RC4, h3, h2]
  · simp only [objKeyAes, OBJID_BYTES_AES, GENNO_BYTES_AES, h3, h2]

/-! ## PKCS#7 unpadding is a total function with an exhaustive case split -/

/-- **`unpad_aes` on every input**: either the data ends in a well-formed padding (`n` bytes of
    value `n`, `1 ≤ n ≤ 16`) and exactly that padding is removed, or it does not (empty data, last
    byte 0 or above 16, fewer than `n` bytes, a differing byte among the last `n`) and the data is
    returned unchanged.  The two cases are exclusive and exhaustive. -/
theorem unpad_total (p : Bytes) :
    (∃ d n, 1 ≤ n ∧ n ≤ 16 ∧ p = d ++ List.replicate n (UInt8.ofNat n) ∧ unpadAes p = d) ∨
    ((¬ ∃ d n, 1 ≤ n ∧ n ≤ 16 ∧ p = d ++ List.replicate n (UInt8.ofNat n)) ∧ unpadAes p = p) := by
  by_cases h : ∃ d n, 1 ≤ n ∧ n ≤ 16 ∧ p = d ++ List.replicate n (UInt8.ofNat n)
  · obtain ⟨d, n, h1, h16, hp⟩ := h
    exact Or.inl ⟨d, n, h1, h16, hp, by rw [hp]; exact unpadAes_wellformed d n h1 h16⟩
  · exact Or.inr ⟨h, unpadAes_malformed p h⟩

/-- the result is a prefix of the input and at most 16 bytes shorter -/
theorem unpad_prefix (p : Bytes) :
    unpadAes p <+: p ∧ p.length ≤ (unpadAes p).length + 16 :=
  ⟨unpadAes_prefix p, (unpadAes_length p).2⟩

/-- the split of a well-formed padded string is unique (so "the" padding is well defined) -/
theorem unpad_unique (d d' : Bytes) (n n' : Nat) (h1 : 1 ≤ n) (h16 : n ≤ 16) (h1' : 1 ≤ n') (h16' : n' ≤ 16)
    (h : d ++ List.replicate n (UInt8.ofNat n) = d' ++ List.replicate n' (UInt8.ofNat n')) : d = d' := by
  have a := unpadAes_wellformed d n h1 h16
  have b := unpadAes_wellformed d' n' h1' h16'
  rw [h] at a
  exact a.symm.trans b

example : unpadAes [65, 66, 2, 2] = [65, 66] ∧ unpadAes [65, 66, 3, 3] = [65, 66, 3, 3] ∧
    unpadAes [65, 0] = [65, 0] ∧ unpadAes [65, 17] = [65, 17] ∧ unpadAes [] = [] ∧
    unpadAes (List.replicate 16 16) = [] ∧ unpadAes [5, 5] = [5, 5] := by decide

/-! ## crypt-filter selection as a decision table -/

/-- methods a handler class can hold (`get_cfm` of the class, plus the built-in Identity) -/
def allowedMethod (cls : Nat) (m : Method) : Prop :=
  m = .identity ∨ (cls = 4 ∧ (m = .rc4 ∨ m = .aes128)) ∨ (cls = 5 ∧ m = .aes256)

/-- **The table is exhaustive**: for every Encrypt dictionary and password that `_initialize_password`
    accepts, the handler is of class 1, 4 or 5, and for classes 4 and 5 StrF names an entry of the
    crypt-filter map whose method is one `get_cfm` of that class can return (V2 / AESV2 for V4, AESV3
    for V5) or Identity - `self.cfm[name]` in `decrypt` can not raise KeyError and the `none` row of
    `selectMethod` is unreachable. -/
theorem openHandler_method (P : Prims) (prm : Params) (pw : List Nat) (h : Handler)
    (ho : openHandler P prm pw = .ok h) :
    (h.cls = 1 ∨ h.cls = 4 ∨ h.cls = 5) ∧
    (h.cls ≠ 1 → ∃ m, lookup h.strf h.cfm = some m ∧ allowedMethod h.cls m) := by
  obtain ⟨s, hs, _, e⟩ := openHandler_ok ho
  rw [e]
  exact initParams_method (s := s) hs

/-- `decrypt` is the table look-up followed by the chosen cipher. -/
theorem decrypt_eq_table (P : Prims) (h : Handler) (objid genno : Nat) (isMetadata : Bool) (data : Bytes) :
    decrypt P h objid genno isMetadata data =
      match selectMethod h isMetadata with
      | some m => applyMethod P h m objid genno data
      | none => data := by
  unfold decrypt selectMethod
  split
  · rfl
  · split
    · rfl
    · cases lookup h.strf h.cfm <;> rfl

/-- **The reader's table is the standard's table** (ISO 32000-1 7.6.5) for every opened handler and
    every kind of data: strings (deciphered with `attrs=None`), ordinary streams, Metadata streams,
    EncryptMetadata on or off; StmF = StrF = the crypt filter `m`. -/
theorem selectMethod_is_spec (h : Handler) (m : Method)
    (hm : if h.cls = 1 then m = .rc4 else lookup h.strf h.cfm = some m) (isStream isMetadata : Bool) :
    selectMethod h (isStream && isMetadata)
      = some (specSelect (h.cls != 1) h.encryptMetadata isStream isMetadata m m) := by
  unfold selectMethod specSelect
  by_cases h1 : h.cls = 1
  · simp [h1]
  · simp only [h1, if_false] at hm
    cases isStream <;> cases isMetadata <;> cases hem : h.encryptMetadata <;> simp [h1, hm]

/-- every row of the table, spelled out (handler class × EncryptMetadata × Metadata stream) -/
example (cfName : Bytes) (m : Method) (em : Bool) :
    let h4 : Handler := { cls := 4, r := 4, p := 0, length := 128, key := [], cfm := [(cfName, m)],
                          strf := cfName, encryptMetadata := em }
    let h1 : Handler := { cls := 1, r := 3, p := 0, length := 40, key := [] }
    selectMethod h1 true = some .rc4 ∧ selectMethod h1 false = some .rc4 ∧
    selectMethod h4 false = some m ∧
    selectMethod h4 true = some (if em then m else .identity) ∧
    selectMethod { h4 with strf := nameIdentity } false = (if cfName = nameIdentity then some m else none) := by
  cases em <;> simp [selectMethod, lookup, eq_comm]

/-! ## either password opens the document - with the same file key, the same handler -/

/-- What makes `ownerCps` the owner password of the document, and the one assumption about it.
    R2-R4: the code tries the *user* path first, so the owner password must not itself pass the U
    check unless it pads to the same 32 bytes as the user password (H1, second-preimage resistance
    of the U check).  R5/R6: the owner branch is tried first - nothing is assumed. -/
def Config.ownerValid (P : Prims) : Config → Passwords → Rand → List Nat → Prop
  | .base v c, pw, rnd, ownerCps =>
    encodeLatin1 ownerCps = some pw.owner ∧
    (authUser P (params234 c v (derive234 P c (pad32 pw.user) (pad32 pw.owner) rnd.tail).1
        (derive234 P c (pad32 pw.user) (pad32 pw.owner) rnd.tail).2.1) c.length (uintValue32 c.p) pw.owner = none
      ∨ pad32 pw.owner = pad32 pw.user)
  | .v4 c _ _, pw, rnd, ownerCps =>
    encodeLatin1 ownerCps = some pw.owner ∧
    (authUser P (params234 c 4 (derive234 P c (pad32 pw.user) (pad32 pw.owner) rnd.tail).1
        (derive234 P c (pad32 pw.user) (pad32 pw.owner) rnd.tail).2.1) c.length (uintValue32 c.p) pw.owner = none
      ∨ pad32 pw.owner = pad32 pw.user)
  | .v5 r _ _ _, pw, _, ownerCps => normalizePassword P r ownerCps = .ok pw.owner

/-- **Opening with the owner password**: the handler class, file key, P and crypt-filter method are
    those `C10_open` gives for the user password; `Config.ownerValid` holds the one assumption. -/
theorem C10_open_owner (P : Prims) (hP : PrimsOK P) (cfg : Config) (pw : Passwords) (rnd : Rand)
    (hv : cfg.valid P pw rnd) (ownerCps : List Nat) (hov : cfg.ownerValid P pw rnd ownerCps) :
    ∃ h, openHandler P (cfg.encryptDict P pw rnd) ownerCps = .ok h ∧
         h.key = cfg.fileKey P pw rnd ∧ h.p = uintValue32 cfg.P ∧
         (if h.cls = 1 then cfg.method = .rc4 else lookup h.strf h.cfm = some cfg.method) := by
  apply C10_open_of_authenticate P cfg pw rnd (Config.valid_wf P cfg pw rnd hv)
  cases cfg with
  | base v c =>
    obtain ⟨_, hr, hl, _⟩ := hv
    exact authenticate_owner_accepts_partial P hP c v ownerCps pw.user pw.owner rnd.tail (hr.imp_right Or.inl)
      hl hov.1 hov.2
  | v4 c cfName m =>
    obtain ⟨hr, hl, _⟩ := hv
    have ha := authenticate_owner_accepts_partial P hP c 4 ownerCps pw.user pw.owner rnd.tail
      (Or.inr (Or.inr hr)) (by omega) hov.1 hov.2
    rwa [hl] at ha
  | v5 r p cfName em =>
    obtain ⟨_, _, hs, _⟩ := hv
    exact r56_authenticate_owner P hP r rnd.fileKey pw.user pw.owner rnd.salts hs ownerCps hov

/-- **Either password yields the very same handler** (class, file key, permissions, crypt-filter
    map): whatever is read afterwards cannot depend on which of the two passwords was used. -/
theorem C10_either_password (P : Prims) (hP : PrimsOK P) (cfg : Config) (pw : Passwords) (rnd : Rand)
    (hv : cfg.valid P pw rnd) (ownerCps : List Nat) (hov : cfg.ownerValid P pw rnd ownerCps) :
    ∃ h, openHandler P (cfg.encryptDict P pw rnd) pw.userCps = .ok h ∧
         openHandler P (cfg.encryptDict P pw rnd) ownerCps = .ok h ∧
         h.key = cfg.fileKey P pw rnd := by
  obtain ⟨hu, hou, hku, _⟩ := C10_open P hP cfg pw rnd hv
  obtain ⟨ho, hoo, hko, _⟩ := C10_open_owner P hP cfg pw rnd hv ownerCps hov
  cases openHandler_eq_of_key hou hoo (hku.trans hko.symm)
  exact ⟨hu, hou, hoo, hku⟩

/-- **C10, main statement (owner password).**  As `C10_main`, with the owner password: the document
    opens, the permissions are the stored bits and every direct object reads back as before
    encryption.  Assumptions: those of `C10_main` plus `Config.ownerValid` (for R2-R4 the clause H1;
    nothing for R5/R6). -/
theorem C10_main_owner (P : Prims) (hP : PrimsOK P) (cfg : Config) (pw : Passwords) (rnd : Rand)
    (hv : cfg.valid P pw rnd) (ownerCps : List Nat) (hov : cfg.ownerValid P pw rnd ownerCps)
    (ivOf : Bytes → Bytes) (hiv : ∀ b, (ivOf b).length = 16) :
    ∃ h, openHandler P (cfg.encryptDict P pw rnd) ownerCps = .ok h ∧
      (isPrintable h = (uintValue32 cfg.P / 4 % 2 == 1) ∧
       isModifiable h = (uintValue32 cfg.P / 8 % 2 == 1) ∧
       isExtractable h = (uintValue32 cfg.P / 16 % 2 == 1)) ∧
      ∀ (objid genno : Nat) (o : Obj),
        getobj P h .direct objid genno
          (encryptAll (fun b => encryptBytes P cfg.method (cfg.fileKey P pw rnd) objid genno (ivOf b) b)
            (fun attrs => h.cls ≠ 1 ∧ ¬ h.encryptMetadata ∧ attrsType attrs = some atomMetadata) o) = o := by
  obtain ⟨h, hu, ho, _⟩ := C10_either_password P hP cfg pw rnd hv ownerCps hov
  obtain ⟨h', hu', hperm, hrt⟩ := C10_main P hP cfg pw rnd hv ivOf hiv
  cases hu.symm.trans hu'
  exact ⟨h, ho, hperm, hrt⟩

/-- Digest lengths and 8-byte salts give `Salts8` (`salts8_of_sha`), so for R5/R6 the complete list of assumptions of
    `C10_main` / `C10_main_owner` is: `PrimsOK`, `ShaLen`, and the one no-collision clause. -/
theorem C10_v5_valid_of_sha (P : Prims) (hs : ShaLen P) (r p : Int) (cfName : Bytes) (em : Bool)
    (pw : Passwords) (rnd : Rand) (hr : r = 5 ∨ r = 6) (hcf : cfName ≠ nameIdentity)
    (huv : rnd.salts.uv.length = 8) (hov : rnd.salts.ov.length = 8)
    (hn : normalizePassword P r pw.userCps = .ok pw.user)
    (hcoll : pw.user ≠ pw.owner →
      passwordHash P r pw.user rnd.salts.ov (derive56 P r rnd.fileKey pw.user pw.owner rnd.salts).1
        ≠ passwordHash P r pw.owner rnd.salts.ov (derive56 P r rnd.fileKey pw.user pw.owner rnd.salts).1) :
    (Config.v5 r p cfName em).valid P pw rnd :=
  ⟨hr, hcf, salts8_of_sha P hs r rnd.salts huv hov, hn, hcoll⟩

/-! ### non-vacuity -/

theorem toyPrims_sha : ShaLen toyPrims where
  sha256_len := by intro x; simp [toyPrims]
  sha384_len := by intro x; simp [toyPrims]
  sha512_len := by intro x; simp [toyPrims]

/-- revision 6 with the toy primitives: the loop really runs and returns 32 bytes -/
example : (passwordHash toyPrims 6 [117] (List.replicate 8 1) []).length = 32 :=
  passwordHash_length toyPrims toyPrims_sha 6 _ _ _

/-- a revision 6 configuration is valid with 8-byte salts, no `hash_len` hypothesis; user = owner
    password, so the no-collision clause is void -/
example : (Config.v5 6 (-4) [83] false).valid toyPrims
    { userCps := [], user := [], owner := [] }
    { tail := [], fileKey := List.replicate 32 7,
      salts := ⟨List.replicate 8 1, List.replicate 8 2, List.replicate 8 3, List.replicate 8 4⟩ } :=
  C10_v5_valid_of_sha toyPrims toyPrims_sha 6 (-4) [83] false _ _ (.inr rfl) (by decide) rfl rfl rfl
    (fun h => absurd rfl h)

/-- `Config.ownerValid` is satisfiable: revision 5, owner password "o" ≠ user password "u" -/
example : (Config.v5 5 (-4) [83] true).ownerValid toyPrims
    { userCps := [117], user := [117], owner := [111] }
    { tail := [], fileKey := List.replicate 32 7,
      salts := ⟨List.replicate 8 1, List.replicate 8 2, List.replicate 8 3, List.replicate 8 4⟩ } [111] :=
  rfl

/-- ... and for a revision 2 document whose two passwords pad to the same 32 bytes (the second
    disjunct; a password longer than 32 bytes and its 32-byte prefix) -/
example : (Config.base 1 { r := 2, length := 40, p := -64, id0 := [9] }).ownerValid toyPrims
    { userCps := List.replicate 32 65, user := List.replicate 32 65, owner := List.replicate 33 65 }
    { tail := [], fileKey := [], salts := ⟨[], [], [], []⟩ } (List.replicate 33 65) := by
  refine ⟨by decide, Or.inr (by decide)⟩

/-! ## regenerated tables and constants agree with the standard -/

/-- **`get_cfm` (regenerated from pdfdocument.py on every run) is ISO 32000's CFM table**: the V4
    handler maps V2 to RC4 and AESV2 to AES-128, the V5 handler AESV3 to AES-256; every other name
    (including `None`, `Identity` as a CFM, and AESV3 under V4) is refused. -/
theorem get_cfm_is_standard (cls : Nat) (name : Bytes) :
    getCfm cls name =
      if cls = 4 then
        if name = nameV2 then some .rc4 else if name = nameAESV2 then some .aes128 else none
      else
        if name = nameAESV3 then some .aes256 else none :=
  getCfm_eq cls name

/-- the other regenerated constants of `init_params` / `decrypt` / `unpad_aes`: the built-in
    Identity filter, the Metadata bypass, the forced key lengths, StrF as the one filter name, the
    padding bounds -/
theorem crypt_filter_constants :
    BUILTIN_FILTER = (nameIdentity, "decrypt_identity") ∧ methodOfPy BUILTIN_FILTER.2 = some .identity ∧
    atomMetadata = 47 :: BYPASS_TYPE ∧
    FORCED_LENGTH_V4 = 128 ∧ FORCED_LENGTH_V5 = 256 ∧ DEFAULT_FILTER_ATTR = "strf" ∧
    UNPAD_MIN = 1 ∧ UNPAD_MAX = 16 := by decide

example : getCfm 4 nameAESV2 = some .aes128 ∧ getCfm 4 nameAESV3 = none ∧ getCfm 5 nameAESV3 = some .aes256 ∧
    getCfm 5 nameV2 = none ∧ getCfm 4 nameIdentity = none := by decide

/-! ## wrong passwords at the level of the whole `_initialize_password` -/

/-- For every well-formed configuration and every password, an error of the selected class's
    `authenticate` is the error `_initialize_password` raises: no earlier check (Filter, registry,
    revision, StmF = StrF, CFM names, StrF defined) can fail for a writer's dictionary. -/
theorem C10_open_error_of_authenticate (P : Prims) (cfg : Config) (pw : Passwords) (rnd : Rand)
    (hw : cfg.wf) (cps : List Nat) (e : Err)
    (ha : cfg.authenticate P (cfg.encryptDict P pw rnd) cps = .error e) :
    openHandler P (cfg.encryptDict P pw rnd) cps = .error e := by
  cases cfg with
  | base v c =>
    have hs := initParams_base (prm := Config.encryptDict P (.base v c) pw rnd) rfl hw.1 hw.2.1
    exact openHandler_of_initParams P hs ha
  | v4 c cfName m =>
    obtain ⟨hr, _, hm, hcf⟩ := hw
    have hs : initParams (Config.encryptDict P (.v4 c cfName m) pw rnd) = _ :=
      initParams_filter (cfmN := cfmName m) (m := m) rfl (.inl ⟨rfl, rfl, hr⟩) hcf
        (by rcases hm with rfl | rfl | rfl <;> decide)
    exact openHandler_of_initParams P hs ha
  | v5 r p cfName em =>
    have hs : initParams (Config.encryptDict P (.v5 r p cfName em) pw rnd) = _ :=
      initParams_filter (cfmN := cfmName .aes256) (m := .aes256) rfl (.inr ⟨rfl, rfl, hw.1⟩) hw.2 (.inr (by decide))
    exact openHandler_of_initParams P hs ha

/-- The cryptographic assumptions under which a password that is neither the user's nor the
    owner's is rejected: R2-R4 - H1 and H2 of `C10_rejects_writer_partial` and "pads to neither";
    R5/R6 - its two validation hashes collide with neither stored hash. -/
def Config.wrongPassword (P : Prims) : Config → Passwords → Rand → List Nat → Prop
  | .base v c, pw, rnd, cps =>
    let prm := params234 c v (derive234 P c (pad32 pw.user) (pad32 pw.owner) rnd.tail).1
                (derive234 P c (pad32 pw.user) (pad32 pw.owner) rnd.tail).2.1
    (∀ q : Bytes, verifyKey P prm (alg2Key P c (pad32 q) prm.o) = true → pad32 q = pad32 pw.user) ∧
    (∀ q : Bytes, recoverUser P prm c.length q = pad32 pw.user → pad32 q = pad32 pw.owner) ∧
    (∀ b, encodeLatin1 cps = some b → pad32 b ≠ pad32 pw.user ∧ pad32 b ≠ pad32 pw.owner)
  | .v4 c _ _, pw, rnd, cps =>
    let prm := params234 c 4 (derive234 P c (pad32 pw.user) (pad32 pw.owner) rnd.tail).1
                (derive234 P c (pad32 pw.user) (pad32 pw.owner) rnd.tail).2.1
    (∀ q : Bytes, verifyKey P prm (alg2Key P c (pad32 q) prm.o) = true → pad32 q = pad32 pw.user) ∧
    (∀ q : Bytes, recoverUser P prm c.length q = pad32 pw.user → pad32 q = pad32 pw.owner) ∧
    (∀ b, encodeLatin1 cps = some b → pad32 b ≠ pad32 pw.user ∧ pad32 b ≠ pad32 pw.owner)
  | .v5 r _ _ _, pw, rnd, cps =>
    (∃ e, normalizePassword P r cps = .error e ∧ e = .passwordIncorrect) ∨
    ∃ b, normalizePassword P r cps = .ok b ∧
      passwordHash P r b rnd.salts.ov (derive56 P r rnd.fileKey pw.user pw.owner rnd.salts).1
        ≠ passwordHash P r pw.owner rnd.salts.ov (derive56 P r rnd.fileKey pw.user pw.owner rnd.salts).1 ∧
      passwordHash P r b rnd.salts.uv [] ≠ passwordHash P r pw.user rnd.salts.uv []

/-- **Every other password is rejected with the password-incorrect error**, for the whole
    `_initialize_password` and every configuration.  `_partial`: the assumptions are exactly those
    collected in `Config.wrongPassword` (no-collision clauses for MD5/RC4 resp. the password hash);
    handler selection, `init_params`, padding, Latin-1 / SASLprep / UTF-8 steps are proved. -/
theorem C10_wrong_password_rejected_partial (P : Prims) (hP : PrimsOK P) (cfg : Config) (pw : Passwords)
    (rnd : Rand) (hv : cfg.valid P pw rnd) (cps : List Nat) (hwp : cfg.wrongPassword P pw rnd cps) :
    openHandler P (cfg.encryptDict P pw rnd) cps = .error .passwordIncorrect := by
  apply C10_open_error_of_authenticate P cfg pw rnd (Config.valid_wf P cfg pw rnd hv)
  cases cfg with
  | base v c =>
    obtain ⟨_, hr, hl, _⟩ := hv
    obtain ⟨H1, H2, hw⟩ := hwp
    exact C10_rejects_writer_partial P c v pw.user pw.owner rnd.tail cps (hr.imp_right Or.inl) hl H1 H2 hw
  | v4 c cfName m =>
    obtain ⟨hr, hl, _⟩ := hv
    obtain ⟨H1, H2, hw⟩ := hwp
    have h := C10_rejects_writer_partial P c 4 pw.user pw.owner rnd.tail cps (Or.inr (Or.inr hr))
      (by omega) H1 H2 hw
    rwa [hl] at h
  | v5 r p cfName em =>
    obtain ⟨_, _, hs, _⟩ := hv
    rcases hwp with ⟨e, hn, he⟩ | ⟨b, hn, hno, hnu⟩
    · subst he
      exact authenticate56_error hn
    · exact r56_rejects_writer_partial P hP r rnd.fileKey pw.user pw.owner b rnd.salts hs cps hn hno hnu

/-! ## file-key lengths -/

/-- **Length of the file key** for every R2-R4 configuration: 5 bytes for revision 2 whatever
    `Length` says, `Length / 8` (at most 16) for revisions 3 and 4 - hence 16 for every V4
    document. -/
theorem C10_file_key_length (P : Prims) (hP : PrimsOK P) (c : Cfg) (pu o : Bytes)
    (hr : c.r = 2 ∨ c.r = 3 ∨ c.r = 4) :
    (alg2Key P c pu o).length = if c.r = 2 then 5 else min (c.length / 8) 16 := by
  by_cases h2 : c.r = 2
  · unfold alg2Key keyLen
    simp [h2, hP.md5_len]
  · rw [alg2Key_length P hP.md5_len c pu o (by omega), keyLen, if_neg h2, if_neg h2]

/-- non-vacuity of `Config.wrongPassword`: a password SASLprep-independent (R5) whose hashes differ -/
example : (Config.v5 5 (-4) [83] true).wrongPassword toyPrims
    { userCps := [117], user := [117], owner := [111] }
    { tail := [], fileKey := List.replicate 32 7,
      salts := ⟨List.replicate 8 1, List.replicate 8 2, List.replicate 8 3, List.replicate 8 4⟩ } [120] :=
  .inr ⟨[120], rfl, by decide, by decide⟩

end PdfVerif.Props.C10
