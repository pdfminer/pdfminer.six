/-
C18 — Images: exported files and inline image data reproduce the samples exactly.

Model: Model/Image.lean (image.py), Model/ImageName.lean (_create_unique_image_name), Model/Inline.lean
(PDFContentParser.get_inline_data), Model/InlineDict.lean (the BI … ID dictionary: `do_keyword`'s assembly, the
end marker, what `LTImage` and `PDFStream.get_filters` read from it);
specification: Spec/Bmp.lean (standard BMP reader, meaning of PDF samples).  The file also states the domain of
the theorems (`csOfKind`, `bpcOfKind`, `FitsBmp`), the lookup under either spelling of a key (`pick`), the branch
table of `export_image` (`Row`) and the filter and colour space pairs of ISO 32000-1 table 94.
-/
import PdfVerif.Lemmas.Bmp
import PdfVerif.Lemmas.ExportImage
import PdfVerif.Lemmas.ImageName
import PdfVerif.Lemmas.Inline
import PdfVerif.Lemmas.InlineTotal
import PdfVerif.Lemmas.InlineDict
import PdfVerif.Lemmas.InlineAssemble

namespace PdfVerif.Props.C18
open PdfVerif PdfVerif.Image PdfVerif.Bmp PdfVerif.ImageName PdfVerif.Inline
open PdfVerif.BmpLemmas PdfVerif.ImageNameLemmas PdfVerif.InlineLemmas PdfVerif.Gen.ImageGen
open PdfVerif.InlineDict PdfVerif.InlineDictLemmas

/-- Colour space and bits per component of the three sample kinds; `inl` = written with the
    inline-image abbreviations `/G`, `/RGB`. -/
def csOfKind (k : Kind) (inl : Bool) : CS :=
  match k, inl with
  | .gray8, false => .gray | .gray8, true => .inlGray
  | .rgb8, false => .rgb | .rgb8, true => .inlRgb
  | .bit1, false => .gray | .bit1, true => .inlGray

def bpcOfKind : Kind → Nat
  | .gray8 => 8 | .rgb8 => 8 | .bit1 => 1

/-- The BMP format stores sizes in 32-bit fields: the theorem covers every image whose file fits. -/
def FitsBmp (k : Kind) (w h : Nat) : Prop :=
  w < 2147483648 ∧ h < 2147483648 ∧ 54 + ncolsOfKind k * 4 + lineSize (bitsOfKind k) w * h < 4294967296 ∧
  -- `_plausible_dimensions`: beyond 2^34 sample bits the writer keeps the bytes undecoded
  w * h * bpcOfKind k < 17179869184

/-- A well-formed image that fits the BMP format passes the writer's plausibility test. -/
theorem C18_plausible_of_fits (k : Kind) (w h : Nat) (hw1 : 1 ≤ w) (hh1 : 1 ≤ h) (hfit : FitsBmp k w h) :
    plausible w h (bpcOfKind k) = true := by
  obtain ⟨h1, h2, _, h4⟩ := hfit
  have hb : 0 < bpcOfKind k ∧ bpcOfKind k ≤ 32 := by cases k <;> decide
  simp [plausible, plausDimLimit, plausBitsMax, plausTotalLimit, hb, h1, h2, h4, show 0 < w from hw1, show 0 < h from hh1]

/-- **bmp_rt.** For every gray-8, RGB-8 or 1-bit image of any width and height ≥ 1 (that fits the
    BMP format), stored unfiltered or through any lossless filter chain, as XObject or inline image,
    whatever files exist already: `export_image` writes a new `*.bmp` file, and a standard BMP
    reader decodes that file to exactly the stored samples. -/
theorem C18_bmp_rt (k : Kind) (inl : Bool) (w h : Nat) (data name : Bytes) (existing : List Bytes)
    (filters : List Flt) (hl : ∀ f ∈ filters, Lossless f)
    (hw1 : 1 ≤ w) (hh1 : 1 ≤ h) (hfit : FitsBmp k w h) (hlen : data.length = h * rowBytes k w) :
    ∃ nm file, exportImage ⟨filters, csOfKind k inl, false, bpcOfKind k, w, h, name, data⟩ existing = .ok (nm, file) ∧
      nm ∉ existing ∧ (∃ stem, nm = stem ++ extBmp) ∧
      readBMP file = some (w, h, samplesRGB k w h data) := by
  obtain ⟨file, hsave, hread⟩ := saveBmp_read k w h data hw1 hh1 hfit.1 hfit.2.1 hfit.2.2.1 hlen
  obtain ⟨nm, hnm, hfresh, hext⟩ := withName_spec existing name extBmp file
  refine ⟨nm, file, ?_, hfresh, hext, hread⟩
  have hpl := C18_plausible_of_fits k w h hw1 hh1 hfit
  have henc : ¬ Encoded ⟨filters, csOfKind k inl, false, bpcOfKind k, w, h, name, data⟩ := lossless_not_encoded hl
  -- each kind, in either spelling of the colour space, selects its bitmap branch
  have hexp : exportImage ⟨filters, csOfKind k inl, false, bpcOfKind k, w, h, name, data⟩ existing =
      withName existing name extBmp (saveBmp (bitsOfKind k) w h (rowBytes k w) data) := by
    cases k
    · cases inl <;> exact exportImage_gray8 existing hpl henc rfl rfl rfl
    · cases inl <;> exact exportImage_rgb8 existing hpl henc rfl rfl
    · exact exportImage_bit1 existing hpl henc rfl
  rw [hexp, hsave, hnm]

/-- The row-wise reading of the samples used above is the pixel-by-pixel one: pixel (r, c) of a
    gray image is byte `r·w + c`, of an RGB image bytes `3(r·w + c) …`, of a 1-bit image bit
    `7 - c mod 8` of byte `r·⌈w/8⌉ + c div 8` (0 = black, 1 = white). -/
theorem C18_samples_pixelwise (k : Kind) (w h : Nat) (data : Bytes) (hlen : data.length = h * rowBytes k w) :
    samplesRGB k w h data = samplesRGBIdx k w h data :=
  samplesRGB_eq_idx k w h data hlen

/-- `bmp_rt` stated against the pixel-by-pixel meaning of the samples. -/
theorem C18_bmp_rt_pixelwise (k : Kind) (inl : Bool) (w h : Nat) (data name : Bytes) (existing : List Bytes)
    (filters : List Flt) (hl : ∀ f ∈ filters, Lossless f)
    (hw1 : 1 ≤ w) (hh1 : 1 ≤ h) (hfit : FitsBmp k w h) (hlen : data.length = h * rowBytes k w) :
    ∃ nm file, exportImage ⟨filters, csOfKind k inl, false, bpcOfKind k, w, h, name, data⟩ existing = .ok (nm, file) ∧
      readBMP file = some (w, h, samplesRGBIdx k w h data) := by
  obtain ⟨nm, file, h1, _, _, h4⟩ := C18_bmp_rt k inl w h data name existing filters hl hw1 hh1 hfit hlen
  exact ⟨nm, file, h1, by rw [← samplesRGB_eq_idx k w h data hlen]; exact h4⟩

/-- Non-vacuity: a 3×2 RGB image (row length 9, not a multiple of 4) through Flate, with `Im0.bmp`
    already present, meets the hypotheses; and the exported file is what the reader decodes. -/
example : FitsBmp .rgb8 3 2 ∧ (List.replicate 18 (7 : UInt8)).length = 2 * rowBytes .rgb8 3 :=
  ⟨⟨by decide, by decide, by decide, by decide⟩, by decide⟩

example :
    (match exportImage ⟨[.flate], .rgb, false, 8, 3, 2, [73, 109, 48], (List.range 18).map UInt8.ofNat⟩ [[73, 109, 48, 46, 98, 109, 112]] with
     | .ok (nm, file) => (nm, readBMP file)
     | .error _ => ([], none)) =
    ([73, 109, 48, 46, 48, 46, 98, 109, 112], some (3, 2, (List.range 18).map UInt8.ofNat)) := by
  decide +kernel

/-- The writer as it was before the `fix:` commits (`saveBmpPinned`) breaks the property: a 1×1 gray image gives a file
    that ends before its declared size, which the reader rejects; a 1×2 RGB image with padded
    rows reads back with red and blue exchanged. -/
theorem C18_bmp_pinned_cex :
    (match saveBmpPinned 8 1 1 1 [17] with | .ok f => readBMP f | .error _ => none) = none ∧
    (match saveBmpPinned 24 1 2 3 [1, 2, 3, 4, 5, 6] with | .ok f => readBMP f | .error _ => none) ≠
      some (1, 2, samplesRGB .rgb8 1 2 [1, 2, 3, 4, 5, 6]) := by
  constructor <;> decide +kernel

/-- **jpeg_bytes.** An image whose last filter is DCTDecode (gray or RGB; CMYK needs Pillow) is
    written unchanged — the file content is `stream.get_data()` — to a new `*.jpg` file. -/
theorem C18_jpeg_bytes (im : ImgIn) (existing : List Bytes) (hpl : plausible im.w im.h im.bits = true)
    (hd : im.filters.getLast? = some .dct) (hcs : im.cmykMember = false) :
    ∃ nm, exportImage im existing = .ok (nm, im.data) ∧ nm ∉ existing ∧ ∃ stem, nm = stem ++ extJpeg := by
  obtain ⟨nm, hnm, hfresh, hext⟩ := withName_spec existing im.name extJpeg im.data
  refine ⟨nm, ?_, hfresh, hext⟩
  rw [exportImage_eq_exportBranch, branchOf_jpeg hpl hd, ← hnm, exportBranch, hcs]
  rfl

example : ([Flt.a85, Flt.dct] : List Flt).getLast? = some .dct := rfl

/-! ## Kinds the property does not name: 2/4/16-bit samples, CMYK, Lab, … -/

/-- **raw_dump.** An image that is neither DCT/JPX/JBIG2 nor one of the bitmap kinds, and not a
    single-Flate stream (which needs Pillow), is dumped unchanged — file content = `get_data()` — under
    a new name `<name>[.k].<bits>.<w>x<h>.img`; nothing is lost and no existing file is touched. -/
theorem C18_raw_dump (im : ImgIn) (existing : List Bytes) (hpl : plausible im.w im.h im.bits = true)
    (h1 : im.filters.getLast? ≠ some .dct) (h2 : im.filters.getLast? ≠ some .jpx)
    (h3 : im.filters.contains .jbig2 = false) (hb : im.bits ≠ 1)
    (hc : ¬ (im.bits = 8 ∧ (isRGB im.cs = true ∨ isGray im.cs = true))) (hf : im.filters ≠ [.flate]) :
    ∃ nm, exportImage im existing = .ok (nm, im.data) ∧ nm ∉ existing ∧
      ∃ stem, nm = stem ++ rawExt im.bits im.w im.h := by
  obtain ⟨nm, hnm, hfresh, hext⟩ := withName_spec existing im.name (rawExt im.bits im.w im.h) im.data
  refine ⟨nm, ?_, hfresh, hext⟩
  have h3' : Flt.jbig2 ∉ im.filters := fun hm => by
    rw [List.contains_iff_mem.mpr hm] at h3; cases h3
  have henc : ¬ Encoded im := fun h => h.elim h1 (·.elim h2 h3')
  rw [exportImage_eq_exportBranch, branchOf_noBitmap hpl henc (fun h => h.elim hb hc), if_neg hf]
  exact hnm

/-- Non-vacuity: a 4-bit CMYK image through ASCII85. -/
example : ([Flt.a85] : List Flt).getLast? ≠ some .dct ∧ (4 : Nat) ≠ 1 ∧ ([Flt.a85] : List Flt) ≠ [.flate] := by decide

/-- **undecoded_dump.** An image whose Width, Height or BitsPerComponent is not plausible (zero, beyond
    the 32-bit BMP fields, more than 32 bits per component, or ≥ 2^34 sample bits) is kept byte for byte
    under a new name `<name>[.k].img`; the writer does not fail and touches no existing file. -/
theorem C18_undecoded_dump (im : ImgIn) (existing : List Bytes) (hpl : plausible im.w im.h im.bits = false) :
    ∃ nm, exportImage im existing = .ok (nm, im.data) ∧ nm ∉ existing ∧ ∃ stem, nm = stem ++ extUndecoded := by
  obtain ⟨nm, hnm, hfresh, hext⟩ := withName_spec existing im.name extUndecoded im.data
  refine ⟨nm, ?_, hfresh, hext⟩
  rw [exportImage_eq_exportBranch, branchOf_undecoded (by rw [hpl]; decide)]
  exact hnm

example : plausible 0 5 8 = false ∧ plausible 3 3 64 = false ∧ plausible 70000 70000 8 = false := by decide

/-- Whatever is exported, the returned name is not one of the existing files. -/
theorem C18_export_fresh (im : ImgIn) (existing : List Bytes) (nm file : Bytes)
    (h : exportImage im existing = .ok (nm, file)) : nm ∉ existing := by
  rw [exportImage_eq_exportBranch] at h
  cases hb : branchOf im <;> rw [hb] at h <;> dsimp only [exportBranch, bmpArgsOf] at h
  case jbig2 => cases h
  all_goals exact withName_fresh h

/-- **names_distinct.** In a run of exports into one directory the file names are pairwise
    distinct and none of them is a file that existed before (so nothing is overwritten). -/
theorem C18_names_distinct : ∀ (ims : List ImgIn) (existing : List Bytes),
    ((exportSeq ims existing).map (·.1)).Nodup ∧ ∀ nm ∈ (exportSeq ims existing).map (·.1), nm ∉ existing := by
  intro ims existing
  fun_induction exportSeq ims existing with
  | case1 => simp
  | case2 im rest existing nm file h ih =>
    obtain ⟨ih1, ih2⟩ := ih
    have hfresh := C18_export_fresh im existing nm file h
    simp only [List.map_cons, List.nodup_cons, List.mem_cons]
    refine ⟨⟨fun hmem => ih2 nm hmem (List.mem_cons_self ..), ih1⟩, ?_⟩
    rintro x (rfl | hx)
    · exact hfresh
    · exact fun hex => ih2 x hx (List.mem_cons_of_mem _ hex)
  | case3 => simp

/-- The naming loop finds a name within its budget; the budget, `existing.length + 1` probes, is the fuel in the
    definition of `uniqueName`. -/
theorem C18_unique_name_terminates (existing : List Bytes) (name ext : Bytes) :
    (uniqueName existing name ext).isSome = true :=
  uniqueName_isSome existing name ext

/-- Non-vacuity: three images called `Im0` give three different names. -/
example :
    (exportSeq [⟨[], .gray, false, 8, 1, 1, [73, 109, 48], [1]⟩, ⟨[.flate], .gray, false, 8, 1, 1, [73, 109, 48], [2]⟩,
                ⟨[.dct], .gray, false, 8, 1, 1, [73, 109, 48], [3]⟩] []).map (·.1) =
      [[73, 109, 48, 46, 98, 109, 112], [73, 109, 48, 46, 48, 46, 98, 109, 112], [73, 109, 48, 46, 106, 112, 103]] := by
  decide +kernel

/-- **inline_scan.** For data (with its end-of-line: LF, CR LF or CR) that does not contain
    `EI`+white space, and for any size hint, the scanner consumes exactly `data EOL EI ws` — the
    parser continues with `rest`, the operators after the image — and what it returns is determined
    by `data ++ EOL` alone (`finish`: cut at the hinted size, or strip one end-of-line). -/
theorem C18_inline_scan (L : Option Nat) (data sep rest : Bytes) (ws : UInt8) (hsep : IsEol sep)
    (hws : isSpace ws = true) (hno : NoMarker (data ++ sep)) :
    getInlineDataLen EI L (data ++ sep ++ EI ++ ws :: rest) = finish L (data ++ sep) ((data ++ sep).length + 3) :=
  getInlineDataLen_marker L data sep rest ws hsep hws hno

/-- The same when `EI` is the last token of the content stream. -/
theorem C18_inline_scan_eof (L : Option Nat) (data sep : Bytes) (hsep : IsEol sep) (hno : NoMarker (data ++ sep)) :
    getInlineDataLen EI L (data ++ sep ++ EI) = finish L (data ++ sep) ((data ++ sep).length + 2) :=
  getInlineDataLen_marker_eof L data sep hsep hno

/-- **inline_capture.** When the dictionary tells the size of the data (unfiltered image: the hint
    is `data.length`), the captured bytes are exactly `data` — whatever its last bytes are, for
    every end-of-line form — and exactly `data EOL EI ws` is consumed. -/
theorem C18_inline_capture (data sep rest : Bytes) (ws : UInt8) (hsep : IsEol sep)
    (hws : isSpace ws = true) (hno : NoMarker (data ++ sep)) :
    getInlineDataLen EI (some data.length) (data ++ sep ++ EI ++ ws :: rest) =
      some (data, (data ++ sep).length + 3) := by
  rw [getInlineDataLen_marker _ data sep rest ws hsep hws hno]
  exact finish_exact data sep _ hsep

theorem C18_inline_capture_eof (data sep : Bytes) (hsep : IsEol sep) (hno : NoMarker (data ++ sep)) :
    getInlineDataLen EI (some data.length) (data ++ sep ++ EI) = some (data, (data ++ sep).length + 2) := by
  rw [getInlineDataLen_marker_eof _ data sep hsep hno]
  exact finish_exact data sep _ hsep

/-- The full statement for payloads whose size the dictionary does not tell (filtered data). -/
def C18_inline_capture_nohint_statement : Prop :=
  ∀ (data sep rest : Bytes) (ws : UInt8), IsEol sep → isSpace ws = true → NoMarker (data ++ sep) →
    getInlineDataLen EI none (data ++ sep ++ EI ++ ws :: rest) = some (data, (data ++ sep).length + 3)

/-- **inline_capture without a size (partial).** The captured bytes are exactly the payload unless
    it ends in CR and the writer's end-of-line is a bare LF (open finding `inline-data-trailing-cr`,
    which concerns filtered payloads only). -/
theorem C18_inline_capture_nohint_partial (data sep rest : Bytes) (ws : UInt8) (hsep : IsEol sep)
    (hws : isSpace ws = true) (hno : NoMarker (data ++ sep))
    (hcr : ¬ (sep = [10] ∧ data.getLast? = some 13)) :
    getInlineDataLen EI none (data ++ sep ++ EI ++ ws :: rest) = some (data, (data ++ sep).length + 3) := by
  rw [getInlineDataLen_marker _ data sep rest ws hsep hws hno]
  exact finish_none_strip data sep _ hsep hcr

/-- Counter-example to the statement without a size: payload `A CR` written as `A CR LF EI SP`
    comes back as `A`. -/
theorem C18_inline_trailing_cr_cex : ¬ C18_inline_capture_nohint_statement := by
  intro h
  -- no marker in `A CR LF`: there is no `E` in it
  have := h [65, 13] [10] [] 32 (Or.inl rfl) (by decide) (fun pre post c _ heq =>
    absurd (heq ▸ List.mem_append_right pre (List.mem_cons_self ..) : (69 : UInt8) ∈ [65, 13] ++ [10]) (by decide))
  revert this
  decide +kernel

/-- Non-vacuity: with the size hint, data ending in CR before a bare LF is captured exactly. -/
example : getInlineDataLen EI (some 2) ([65, 13] ++ [10] ++ EI ++ 32 :: [81]) = some ([65, 13], 6) := by
  decide +kernel

/-- Non-vacuity of the hypotheses: binary data containing `E`, `I`, `EI` without white space after
    it, ending in LF, with a CR LF end-of-line. -/
example : getInlineData EI ([69, 69, 73, 0, 73, 10] ++ [13, 10] ++ EI ++ 32 :: [81]) =
    some ([69, 69, 73, 0, 73, 10], 11) := by
  decide +kernel

/-- **inline_image.** A well-formed inline image written with any mixture of abbreviated and
    full key names and colour space names (`BI /W w /Height h /BPC b /ColorSpace /G ID␣ data EOL EI ws rest`, …): `do_keyword` pushes a stream whose
    dictionary has exactly the four entries and whose data is exactly `data` — for every EOL form
    and whatever the last bytes of the data are — followed by `EI`, having consumed exactly
    `data EOL EI ws`; `do_EI` accepts it and `LTImage` reports the stored width, height, bits and
    colour space. -/
theorem C18_inline_image (sp : Spell) (k : Kind) (w h : Nat) (data sep rest : Bytes) (ws : UInt8)
    (hw : 1 ≤ w) (hh : 1 ≤ h) (hlen : data.length = h * rowBytes k w) (hsep : IsEol sep)
    (hws : isSpace ws = true) (hno : NoMarker (data ++ sep)) :
    processID (writerObjs sp k w h) (data ++ sep ++ EI ++ ws :: rest) =
      .ok ⟨writerDict sp k w h, data, true, (data ++ sep).length + 3⟩ ∧
    doEI (writerDict sp k w h) =
      some ⟨.int w, .int h, .int (bpcOf k), [some (.name (csNameOf sp.vc k))], none⟩ := by
  refine ⟨?_, doEI_writer sp k w h⟩
  simp only [processID, assemble_writer, eos_writer, size_writer sp k w h hw hh, ← hlen,
    C18_inline_capture data sep rest ws hsep hws hno]
  rfl

/-- **inline_image_exported.** End to end for inline images: content-stream bytes → pushed
    stream → LTImage → `export_image` → a new `*.bmp` that the BMP reader decodes to exactly the
    stored samples. -/
theorem C18_inline_image_exported (sp : Spell) (k : Kind) (w h : Nat) (data sep rest name : Bytes) (ws : UInt8)
    (existing : List Bytes) (hw : 1 ≤ w) (hh : 1 ≤ h) (hfit : FitsBmp k w h)
    (hlen : data.length = h * rowBytes k w) (hsep : IsEol sep) (hws : isSpace ws = true)
    (hno : NoMarker (data ++ sep)) :
    ∃ p f img nm file,
      processID (writerObjs sp k w h) (data ++ sep ++ EI ++ ws :: rest) = .ok p ∧
      p.consumed = (data ++ sep).length + 3 ∧ p.pushEI = true ∧
      doEI p.dict = some f ∧ toImgIn f [] name p.data = some img ∧
      exportImage img existing = .ok (nm, file) ∧ nm ∉ existing ∧
      readBMP file = some (w, h, samplesRGB k w h data) := by
  obtain ⟨hp, hf⟩ := C18_inline_image sp k w h data sep rest ws hw hh hlen hsep hws hno
  obtain ⟨nm, file, hexp, hfresh, _, hread⟩ :=
    C18_bmp_rt k sp.vc w h data name existing [] (by intro f hf; cases hf) hw hh hfit hlen
  refine ⟨_, _, ⟨[], csOfKind k sp.vc, false, bpcOfKind k, w, h, name, data⟩, nm, file, hp, rfl, rfl, hf, ?_, hexp,
    hfresh, hread⟩
  obtain ⟨kw, kh, kb, kc, vc⟩ := sp
  cases vc <;> cases k <;>
    simp (config := { decide := true }) only [toImgIn, csNameOf, bpcOf, csOfKind, bpcOfKind, Int.toNat_natCast,
      Int.natCast_nonneg, and_self, if_true] <;>
    rfl

/-- Non-vacuity: a 2×1 gray image whose data is `A CR`, written with a bare LF before `EI`. -/
example : (match processID (writerObjs ⟨false, true, true, false, true⟩ .gray8 2 1) ([65, 13] ++ [10] ++ EI ++ 32 :: [81]) with
    | .ok p => some (p.data, p.pushEI, p.consumed, inlineSize p.dict)
    | .error _ => none) = some ([65, 13], true, 6, some 2) := by
  decide +kernel

/-- **inline_scan_total.** The exact rule, for EVERY input (payloads that contain `EI` bytes included) and every
    size hint: when `get_inline_data` returns `(d, n)` it has consumed `n ≤ |input|` bytes; these are `body E I ws`
    with `ws` a white-space byte — or the whole input `body E I` when the marker is the last token —, the result is
    what `finish` makes of `body` (cut at the hinted size when exactly one end-of-line follows it, else strip one
    end-of-line), and the data is a prefix of `body`: nothing is ever invented, and `input.drop n` — the operators
    after the image — is left for the parser untouched. -/
theorem C18_inline_scan_total (L : Option Nat) (input d : Bytes) (n : Nat)
    (h : getInlineDataLen EI L input = some (d, n)) :
    n ≤ input.length ∧ ∃ body,
      ((∃ ws, isSpace ws = true ∧ input.take n = body ++ [69, 73, ws]) ∨ (n = input.length ∧ input = body ++ [69, 73])) ∧
      finish L body n = some (d, n) ∧ d <+: body := by
  cases hs : scan EI 0 input 0 with
  | none => simp [getInlineDataLen, hs] at h
  | some r =>
    obtain ⟨m, eof⟩ := r
    obtain ⟨k, pre, tail, hk, hkl, hpre, htail⟩ := scan_sound input 0 [] 0 m eof (by decide) (stateInv_zero _) hs
    rw [Nat.zero_add] at hk
    subst hk
    rw [List.nil_append] at hpre
    rw [getInlineDataLen_of_scan L hs hpre (by rcases htail with ⟨rfl, ws, _, rfl⟩ | ⟨rfl, _, rfl⟩ <;> rfl)] at h
    obtain ⟨hpf, rfl⟩ := finish_prefix L pre d _ n h
    refine ⟨hkl, pre, ?_, h, hpf⟩
    rcases htail with ⟨_, ws, hws, rfl⟩ | ⟨_, rfl, rfl⟩
    · exact .inl ⟨ws, hws, hpre⟩
    · exact .inr ⟨rfl, by rwa [List.take_length] at hpre⟩

/-- Non-vacuity, with a payload that contains the bytes `EI` (followed by `x`, so no marker) and ends in `E`. -/
example : getInlineDataLen EI none [1, 69, 73, 120, 69, 10, 69, 73, 32, 81] = some ([1, 69, 73, 120, 69], 9) := by
  decide +kernel

/-- **inline_scan_ws_rule.** Which `EI` ends the data: for a payload-with-separator `body` that contains no
    `EI`+white space and whose last byte is neither `E` nor `I` — any separator will do: blank, tab, LF, CR, NUL, or
    none at all after such a data byte — the scanner stops right after the `EI ws` that follows.  (Generalises
    `C18_inline_scan` from the three end-of-line forms to every separator.) -/
theorem C18_inline_scan_ws_rule (L : Option Nat) (body rest : Bytes) (ws : UInt8) (hws : isSpace ws = true)
    (hno : NoMarker body) (hlast : ∀ c, body.getLast? = some c → c ≠ 69 ∧ c ≠ 73) :
    getInlineDataLen EI L (body ++ EI ++ ws :: rest) = finish L body (body.length + 3) :=
  getInlineDataLen_body L body rest ws hws hno (run_zero_of_last body hno hlast)

example : getInlineDataLen EI none ([7, 8, 32] ++ EI ++ 9 :: [81]) = some ([7, 8, 32], 6) := by decide +kernel

/-- **inline_scan_pseof.** Input without `EI`+white space that does not end in `EI` either: PSEOF (the image is
    dropped by the caller), for every size hint. -/
theorem C18_inline_scan_pseof (L : Option Nat) (input : Bytes) (hno : NoMarker input)
    (hend : ¬ ∃ pre, input = pre ++ [69, 73]) : getInlineDataLen EI L input = none := by
  obtain ⟨hscan, hinv, _⟩ := scan_body input [] hno
  rw [List.append_nil, scan, EI_length, if_neg (fun h2 => hend (hinv.1 h2))] at hscan
  rw [getInlineDataLen, hscan]

example : getInlineDataLen EI (some 2) [1, 2, 10, 69, 73] ≠ none ∧ getInlineDataLen EI (some 2) [1, 2, 10, 69] = none := by
  decide +kernel

/-- The limit of the rule (why `hlast` is there): the automaton does not restart on `E`, so an `E` directly in
    front of `EI` hides the marker — `E E I ␣` is scanned to the end without a match. -/
theorem C18_inline_scan_norestart_cex : getInlineDataLen EI none [69, 69, 73, 32] = none ∧
    getInlineDataLen EI none [69, 10, 69, 73, 32] = some ([69], 5) := by decide +kernel

/-- Table 94, filter names: (abbreviation, full name). -/
def iso94Filters : List (Bytes × Bytes) :=
  [([65, 72, 120], [65, 83, 67, 73, 73, 72, 101, 120, 68, 101, 99, 111, 100, 101]),
   ([65, 56, 53], [65, 83, 67, 73, 73, 56, 53, 68, 101, 99, 111, 100, 101]),
   ([76, 90, 87], [76, 90, 87, 68, 101, 99, 111, 100, 101]),
   ([70, 108], [70, 108, 97, 116, 101, 68, 101, 99, 111, 100, 101]),
   ([82, 76], [82, 117, 110, 76, 101, 110, 103, 116, 104, 68, 101, 99, 111, 100, 101]),
   ([67, 67, 70], [67, 67, 73, 84, 84, 70, 97, 120, 68, 101, 99, 111, 100, 101]),
   ([68, 67, 84], [68, 67, 84, 68, 101, 99, 111, 100, 101])]

/-- Table 94, colour space names an inline image may use directly: (abbreviation, full name). -/
def iso94ColorSpaces : List (Bytes × Bytes) :=
  [([71], [68, 101, 118, 105, 99, 101, 71, 114, 97, 121]),
   ([82, 71, 66], [68, 101, 118, 105, 99, 101, 82, 71, 66]),
   ([67, 77, 89, 75], [68, 101, 118, 105, 99, 101, 67, 77, 89, 75]),
   ([73], [73, 110, 100, 101, 120, 101, 100])]

/-- **abbrev_tables.** Every pair of table 93 that the image plumbing reads — W/Width, H/Height,
    BPC/BitsPerComponent, CS/ColorSpace, IM/ImageMask (`LTImage.__init__`), F/Filter, DP/DecodeParms
    (`PDFStream.get_filters`), F/Filter for the end marker (`do_keyword`, after the `fix:` commit) — is accepted in
    both spellings, abbreviation first: the key tuples REGENERATED from the Python source are exactly the pairs the
    model (`InlineDict.getAny d [kW, kWidth]` …) uses; for DP/DecodeParms the regenerated tuple begins with the pair
    (a third key, `FDecodeParms`, follows it).  Every filter pair of table 94 is recognised under both names
    by one `LITERALS_*_DECODE` tuple, every colour space pair has the same component count under both names, and the
    colour space literals `export_image` compares with are the model's.  (D/Decode and I/Interpolate are never read.) -/
theorem C18_abbrev_tables :
    keysWidth = [kW, kWidth] ∧ keysHeight = [kH, kHeight] ∧ keysBits = [kBPC, kBitsPerComponent] ∧
    keysColorSpace = [kCS, kColorSpace] ∧ keysImageMask = [kIM, kImageMask] ∧ keysFilter = [kF, kFilter] ∧
    keysEosFilter = [kF, kFilter] ∧ [[68, 80], [68, 101, 99, 111, 100, 101, 80, 97, 114, 109, 115]] <+: keysDecodeParms ∧
    (∀ p ∈ iso94Filters, ∃ row ∈ filterNames, p.1 ∈ row ∧ p.2 ∈ row) ∧
    (∀ p ∈ iso94ColorSpaces, componentsOf p.1 = componentsOf p.2 ∧ (componentsOf p.1).isSome = true) ∧
    litInlineGray = nG ∧ litInlineRGB = nRGB ∧ litDeviceGray = nDeviceGray ∧ litDeviceRGB = nDeviceRGB ∧
    litDeviceCMYK = nDeviceCMYK :=
  ⟨rfl, rfl, rfl, rfl, rfl, rfl, rfl, by decide, by decide, by decide, rfl, rfl, rfl, rfl, rfl⟩

/-- The end marker does not depend on the spelling of the key: `/F` and `/Filter`, a name or an array starting with
    a name, give the same marker (no `/F` entry elsewhere in the dictionary). -/
theorem C18_eos_both_keys (f : Bytes) (rest : List Val) (d : Dict)
    (h1 : lookup d kF = none) :
    eosOf ((kFilter, .name f) :: d) = eosOf ((kF, .name f) :: d) ∧
    eosOf ((kFilter, .arr (.name f :: rest)) :: d) = eosOf ((kF, .arr (.name f :: rest)) :: d) := by
  have hne : ¬ kFilter = kF := by decide
  constructor <;>
    simp only [eosOf, show keysEosFilter = [kF, kFilter] from rfl, getAny, lookup_cons, hne, h1, if_true, if_false]

example : eosOf [(kFilter, .name nASCII85Decode)] = .ok [126, 62] ∧ eosOf [(kF, .name nA85)] = .ok [126, 62] ∧
    eosOf [(kFilter, .arr [.name nA85, .name [70, 108]])] = .ok [126, 62] ∧ eosOf [(kFilter, .name [70, 108])] = .ok [69, 73] :=
  ⟨rfl, rfl, rfl, rfl⟩

/-- Table 93 semantics of one entry: the value under the abbreviated key if there is one, else under the full key. -/
def pick (d : Dict) (abbr full : Bytes) : Option Val :=
  match lookup d abbr with
  | some v => some v
  | none => lookup d full

/-- **ltimage_fields.** For EVERY inline image dictionary (any keys, any values, both spellings present or not):
    `do_EI` passes the image on iff a width (`W`, else `Width`) and a height (`H`, else `Height`) are present, and then
    `LTImage` gets srcsize = those two values, bits = `BPC` else `BitsPerComponent` else 1, colorspace = the array's
    elements, or the single value, or `[None]`, imagemask = `IM` else `ImageMask` else `None` — the abbreviated key wins
    over the full one whenever both are present.  (The key tuples are the regenerated ones of `do_EI` / `LTImage.__init__`.) -/
theorem C18_ltimage_fields (d : Dict) :
    doEI d = match pick d kW kWidth, pick d kH kHeight with
      | some w, some h =>
        some { srcW := w, srcH := h,
               bits := (pick d kBPC kBitsPerComponent).getD (.int 1),
               colorspace := match pick d kCS kColorSpace with
                 | some (.arr xs) => xs.map some
                 | some v => [some v]
                 | none => [none],
               imagemask := pick d kIM kImageMask }
      | _, _ => none := by
  have hp : ∀ ks a f, ks = [a, f] → getAny d ks = pick d a f := by
    rintro _ a f rfl
    simp only [getAny, pick]
    cases lookup d a <;> cases lookup d f <;> rfl
  rw [doEI, hp doEIKeysWidth kW kWidth rfl, hp doEIKeysHeight kH kHeight rfl, hp keysWidth kW kWidth rfl,
    hp keysHeight kH kHeight rfl, hp keysBits kBPC kBitsPerComponent rfl, hp keysColorSpace kCS kColorSpace rfl,
    hp keysImageMask kIM kImageMask rfl]
  cases pick d kW kWidth <;> cases pick d kH kHeight <;> rfl

/-- Non-vacuity: both spellings of the width present (`/Width 9 /W 4`): the abbreviation wins; no BPC: 1; `/CS [/I /RGB 1 s]`. -/
example : doEI [(kWidth, .int 9), (kW, .int 4), (kHeight, .int 2), (kCS, .arr [.name [73], .name nRGB, .int 1, .str])] =
    some { srcW := .int 4, srcH := .int 2, bits := .int 1,
           colorspace := [some (.name [73]), some (.name nRGB), some (.int 1), some .str], imagemask := none } := by
  rfl

/-- **assemble_last_wins.** For EVERY run of `/key value` operands between `BI` and `ID` (any keys — abbreviated, full,
    unknown, repeated — and any values): the dictionary `do_keyword` builds exists, and a key's value is that of the
    LAST pair carrying the key; so an entry of table 93 resolves to the last value under the abbreviated key if that
    key occurs at all, else to the last value under the full key. -/
theorem C18_assemble_last_wins (ps : List (Bytes × Val)) :
    ∃ d, assemble (objsOf ps) = .ok d ∧ (∀ k, lookup d k = lastVal ps k) ∧
      ∀ a f, pick d a f = match lastVal ps a with
        | some v => some v
        | none => lastVal ps f := by
  refine ⟨ps.foldl (fun d p => dictSet d p.1 p.2) [], ?_, ?_, ?_⟩
  · exact assemble_objsOf ps
  · intro k
    rw [lookup_foldl]
    cases lastVal ps k <;> rfl
  · intro a f
    simp only [pick, lookup_foldl, lookup_nil]
    cases lastVal ps a <;> cases lastVal ps f <;> rfl

/-- Non-vacuity: `/W 1 /Width 9 /W 4 /H 2 /Height 7 /H 3` — the image is 4 × 3. -/
example : (assemble (objsOf [(kW, .int 1), (kWidth, .int 9), (kW, .int 4), (kH, .int 2), (kHeight, .int 7), (kH, .int 3)])).toOption.bind
      (fun d => (doEI d).map (fun f => (f.srcW, f.srcH))) = some (.int 4, .int 3) := by
  rfl

/-- One row of the decision table: an order-free condition on (plausibility, filters, bits, colour space) for each
    of the nine branches.  `enc` = the data stays encoded (DCT / JPX last, or JBIG2 anywhere), `bm` = a bitmap kind. -/
def Row (b : Branch) (im : ImgIn) : Prop :=
  let pl := plausible im.w im.h im.bits = true
  let last := im.filters.getLast?
  let enc := last = some Flt.dct ∨ last = some Flt.jpx ∨ Flt.jbig2 ∈ im.filters
  let bm := im.bits = 1 ∨ (im.bits = 8 ∧ (isRGB im.cs = true ∨ isGray im.cs = true))
  match b with
  | .undecoded => ¬ pl
  | .jpeg => pl ∧ last = some Flt.dct
  | .jpx => pl ∧ last = some Flt.jpx
  | .jbig2 => pl ∧ last ≠ some Flt.dct ∧ last ≠ some Flt.jpx ∧ Flt.jbig2 ∈ im.filters
  | .bmp1 => pl ∧ ¬ enc ∧ im.bits = 1
  | .bmp24 => pl ∧ ¬ enc ∧ im.bits = 8 ∧ isRGB im.cs = true
  | .bmp8 => pl ∧ ¬ enc ∧ im.bits = 8 ∧ isRGB im.cs = false ∧ isGray im.cs = true
  | .bytes => pl ∧ ¬ enc ∧ ¬ bm ∧ im.filters = [Flt.flate]
  | .raw => pl ∧ ¬ enc ∧ ¬ bm ∧ im.filters ≠ [Flt.flate]

/-- **branch_table.** The table is total and its rows are pairwise disjoint: for every image exactly one row
    holds, and it is the row of the branch the `if … elif` chain of `export_image` takes. -/
theorem C18_branch_table (im : ImgIn) : Row (branchOf im) im ∧ ∀ b, Row b im → b = branchOf im := by
  -- a row fixes the outcome of every test of the chain up to its own branch
  have sel : ∀ b, Row b im → branchOf im = b := by
    intro b hb
    cases b
    case undecoded => exact branchOf_undecoded hb
    case jpeg => exact branchOf_jpeg hb.1 hb.2
    case jpx => rw [branchOf, if_neg (by rw [hb.1]; decide), if_neg (by rw [hb.2]; decide), if_pos hb.2]
    case jbig2 =>
      rw [branchOf, if_neg (by rw [hb.1]; decide), if_neg hb.2.1, if_neg hb.2.2.1,
        if_pos (List.contains_iff_mem.mpr hb.2.2.2)]
    case bmp1 =>
      obtain ⟨hpl, henc, h1⟩ := hb
      rw [branchOf_pixels hpl henc, if_pos h1]
    case bmp24 =>
      obtain ⟨hpl, henc, h8, hrgb⟩ := hb
      rw [branchOf_pixels hpl henc, if_neg (by omega), if_pos ⟨h8, hrgb⟩]
    case bmp8 =>
      obtain ⟨hpl, henc, h8, hrgb, hg⟩ := hb
      rw [branchOf_pixels hpl henc, if_neg (by omega), if_neg (by rw [hrgb]; exact fun h => nomatch h.2), if_pos ⟨h8, hg⟩]
    case bytes => rw [branchOf_noBitmap hb.1 hb.2.1 hb.2.2.1, if_pos hb.2.2.2]
    case raw => rw [branchOf_noBitmap hb.1 hb.2.1 hb.2.2.1, if_neg hb.2.2.2]
  -- some row holds: walk down the chain
  have total : ∃ b, Row b im := by
    by_cases hpl : plausible im.w im.h im.bits = true
    case neg => exact ⟨.undecoded, hpl⟩
    by_cases h1 : im.filters.getLast? = some .dct
    · exact ⟨.jpeg, hpl, h1⟩
    by_cases h2 : im.filters.getLast? = some .jpx
    · exact ⟨.jpx, hpl, h2⟩
    by_cases h3 : Flt.jbig2 ∈ im.filters
    · exact ⟨.jbig2, hpl, h1, h2, h3⟩
    have henc : ¬ Encoded im := fun h => h.elim h1 (·.elim h2 h3)
    by_cases hb1 : im.bits = 1
    · exact ⟨.bmp1, hpl, henc, hb1⟩
    by_cases hrgb : im.bits = 8 ∧ isRGB im.cs = true
    · exact ⟨.bmp24, hpl, henc, hrgb⟩
    by_cases hg : im.bits = 8 ∧ isGray im.cs = true
    · exact ⟨.bmp8, hpl, henc, hg.1, Bool.eq_false_iff.mpr (fun h => hrgb ⟨hg.1, h⟩), hg.2⟩
    have hbm : ¬ (im.bits = 1 ∨ (im.bits = 8 ∧ (isRGB im.cs = true ∨ isGray im.cs = true))) :=
      fun h => h.elim hb1 (fun h => h.2.elim (fun r => hrgb ⟨h.1, r⟩) (fun g => hg ⟨h.1, g⟩))
    by_cases hf : im.filters = [.flate]
    · exact ⟨.bytes, hpl, henc, hbm, hf⟩
    · exact ⟨.raw, hpl, henc, hbm, hf⟩
  obtain ⟨b, hb⟩ := total
  rw [sel b hb]
  exact ⟨hb, fun b' hb' => (sel b' hb').symm.trans (sel b hb)⟩

/-- **export_by_branch.** `export_image` is "select the branch, then do what that branch does": extension, content
    and the `(bytes_per_line, bits)` arguments of the bitmap writer are functions of the selected row alone. -/
theorem C18_export_by_branch (im : ImgIn) (existing : List Bytes) :
    exportImage im existing = exportBranch (branchOf im) im existing :=
  exportImage_eq_exportBranch im existing

/-- Non-vacuity: one image per row. -/
example : (([⟨[], .gray, false, 64, 1, 1, [], []⟩, ⟨[.flate, .dct], .rgb, false, 8, 1, 1, [], []⟩,
      ⟨[.jpx], .rgb, false, 8, 1, 1, [], []⟩, ⟨[.jbig2], .gray, false, 1, 1, 1, [], []⟩,
      ⟨[.lzw], .other, false, 1, 9, 1, [], []⟩, ⟨[], .inlRgb, false, 8, 2, 1, [], []⟩,
      ⟨[.a85], .gray, false, 8, 2, 1, [], []⟩, ⟨[.flate], .cmyk, false, 8, 1, 1, [], []⟩,
      ⟨[], .none, false, 4, 1, 1, [], []⟩] : List ImgIn).map branchOf) =
    [.undecoded, .jpeg, .jpx, .jbig2, .bmp1, .bmp24, .bmp8, .bytes, .raw] := by decide +kernel

end PdfVerif.Props.C18
