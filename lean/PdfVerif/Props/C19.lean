/-
C19 — CCITT Group 4 decoding inverts a conforming encoder for every bitmap.

Model:  `PdfVerif.Ccitt` (Model/Ccitt.lean) — BitParser tries, CCITTG4Parser, CCITTFaxDecoder,
        ccittfaxdecode; code tables `PdfVerif.Gen.CcittTables` regenerated from pdfminer/ccitt.py
        on every run.
Spec:   `PdfVerif.Spec.T6` (Spec/T6.lean) — T.6 encoder with a free, explicit choice of coding
        mode at every step, T.4 run-length codes from a frozen transcription of the Recommendation,
        optional byte alignment / EOFB, and the packed-sample form of a bitmap.
Tie:    tools/harness/props/c19.py (model = implementation on encoded, damaged and random
        streams; Lean encoder = Python encoder; round trip on the implementation itself).

The proofs rest on the lemmas of `Lemmas/Ccitt*.lean`.
Pixels: `true` = white.
-/
import PdfVerif.Lemmas.CcittImage
import PdfVerif.Lemmas.CcittTotal
import PdfVerif.Model.CcittStream
import PdfVerif.Lemmas.CcittSpecTables
import PdfVerif.Lemmas.CcittParams
import PdfVerif.Lemmas.CcittPolarity
import PdfVerif.Lemmas.CcittColumns

namespace PdfVerif.Props.C19
open PdfVerif PdfVerif.Ccitt PdfVerif.Gen PdfVerif.Spec

/-- In each of pdfminer's four tables no code word is a prefix of (or equal to) another one. -/
theorem tables_prefix_free :
    prefixFree (CcittTables.MODE.map (·.2)) = true ∧ prefixFree (CcittTables.WHITE.map (·.2)) = true ∧
    prefixFree (CcittTables.BLACK.map (·.2)) = true ∧ prefixFree (CcittTables.UNCOMPRESSED.map (·.2)) = true := by
  refine ⟨?_, ?_, ?_, ?_⟩
  · simpa only [modeTbl, map_map_snd] using mode_stores.codes_prefixFree
  · simpa only [whiteTbl, map_map_snd] using white_stores.codes_prefixFree
  · simpa only [blackTbl, map_map_snd] using black_stores.codes_prefixFree
  · simpa only [uncTbl, map_map_snd] using unc_stores.codes_prefixFree

/-- `BitParser.add` succeeds on every entry, and the resulting trie stores exactly the table:
its (value, path) leaves are the table's (value, code word) entries, nothing lost, nothing added. -/
theorem trie_decodes_table :
    (buildTrie modeTbl = some modeTrie ∧ sameEntries modeTrie.leaves modeTbl = true) ∧
    (buildTrie whiteTbl = some whiteTrie ∧ sameEntries whiteTrie.leaves whiteTbl = true) ∧
    (buildTrie blackTbl = some blackTrie ∧ sameEntries blackTrie.leaves blackTbl = true) ∧
    (buildTrie uncTbl = some uncTrie ∧ sameEntries uncTrie.leaves uncTbl = true) :=
  ⟨⟨mode_stores.built, mode_stores.leaves_same⟩, ⟨white_stores.built, white_stores.leaves_same⟩,
    ⟨black_stores.built, black_stores.leaves_same⟩, ⟨unc_stores.built, unc_stores.leaves_same⟩⟩

/-- pdfminer's run-length tables are the T.4 tables (same set of (length, code) pairs as the frozen
transcription), and its MODE table contains every T.6 mode code the encoder uses. -/
theorem tables_are_T4 :
    sameRuns CcittTables.WHITE T6.white = true ∧ sameRuns CcittTables.BLACK T6.black = true ∧
    modeSpec.all (fun e => CcittTables.MODE.contains e) = true :=
  ⟨white_eq ▸ sameRuns_refl _, black_eq ▸ sameRuns_refl _, mode_is_T6⟩

/-- Following the T.4 / T.6 code word of a symbol from the root of pdfminer's trie ends exactly on
the leaf of that symbol (terminating codes, make-up codes, pass, horizontal, vertical, EOFB). -/
theorem trie_lookup :
    (∀ (c : Bool) (n : Nat), n < 64 →
      Trie.follow (runTrie c) (T6.runCode c n) = some (.leaf (.run n))) ∧
    (∀ (c : Bool) (m : Nat), 64 ≤ m → m ≤ 2560 → m % 64 = 0 →
      Trie.follow (runTrie c) (T6.runCode c m) = some (.leaf (.run m))) ∧
    Trie.follow modeTrie T6.codeP = some (.leaf (.mode .p)) ∧
    Trie.follow modeTrie T6.codeH = some (.leaf (.mode .h)) ∧
    Trie.follow modeTrie T6.codeEOFB = some (.leaf (.mode .e)) ∧
    (∀ d : Int, -3 ≤ d → d ≤ 3 → Trie.follow modeTrie (T6.codeV d) = some (.leaf (.mode (.v d)))) :=
  ⟨fun c _ h => (runCode_follow c (mem_runKeys.mpr (Or.inl h))).2,
    fun c _ h1 h2 h3 => (runCode_follow c (mem_runKeys.mpr (Or.inr ⟨h1, h2, h3⟩))).2,
    modeSpec_follow (by decide), modeSpec_follow (by decide), modeSpec_follow (by decide),
    fun _ h1 h2 => (codeV_ok h1 h2).2⟩

/-- Every run length of either colour round-trips: from the state right after an `H` code
(`_accept = _parse_horiz1`, table of the current colour), the code of a run of `n` pixels —
k × 2560, make-up, terminating — adds exactly `n` to `_n1`, flips the colour and hands over to
`_parse_horiz2`, consuming exactly the code's bits. -/
theorem run_rt (c : Bool) (n : Nat) (st0 : St) (hacc : st0.acc = .horiz1) (hcol : st0.color = c)
    (hnode : st0.node = runTrie c) :
    ∃ st1 : St, st1.n1 = st0.n1 + n ∧ st1.n2 = 0 ∧ st1.color = (!c) ∧ st1.acc = .horiz2 ∧
      st1.node = runTrie (!c) ∧ SameLine st1 st0 ∧
      ∀ (pos : Nat) (rest : List Bool), feedFlat st0 pos 0 (T6.encodeRun c n ++ rest) =
        feedFlat st1 (pos + (T6.encodeRun c n).length) 0 rest := by
  subst hcol
  exact ⟨{ st0 with n1 := st0.n1 + n, n2 := 0, color := !st0.color, acc := .horiz2, node := runTrie (!st0.color) },
    rfl, rfl, rfl, rfl, rfl, ⟨rfl, rfl, rfl, rfl, rfl, rfl, rfl⟩, feed_run_first st0 hacc hnode n⟩

/-- The fuel `cur.length + 1` of `encodeLine` is never exhausted: more fuel gives the same code. -/
theorem encodeLine_fuel (ref cur : List Bool) (href : ref.length = cur.length) (chs : List T6.Choice)
    (fuel : Nat) (h : cur.length + 1 ≤ fuel) :
    T6.encodeLineAux ref cur fuel (-1) true chs = T6.encodeLine ref cur chs := by
  unfold T6.encodeLine
  exact encodeLineAux_fuel rfl href fuel (cur.length + 1) (-1) true chs (by omega) (by omega) (by omega)

/-- Line round trip, for every width ≥ 1, every reference line, every line and EVERY list of mode
choices (pass / vertical / horizontal wherever admissible, in any mix): a parser standing at the
start of a line with reference line `ref` consumes exactly the bits of `encodeLine ref cur chs`,
appends the packed line `cur` to its output, and stands at the start of the next line with `cur`
as reference line (having raised `ByteSkip` on the last bit iff `EncodedByteAlign`). -/
theorem line_rt (w : Nat) (hw : 1 ≤ w) (al rv : Bool) (ref cur : List Bool) (href : ref.length = w)
    (hcur : cur.length = w) (chs : List T6.Choice) (buf : List UInt8) (st : St)
    (h : Ready w al rv ref buf st) :
    ∃ st', Ready w al rv cur (buf ++ packLine rv cur) st' ∧ T6.encodeLine ref cur chs ≠ [] ∧
      ∀ (pos : Nat) (rest : List Bool), feedFlat st pos 0 (T6.encodeLine ref cur chs ++ rest) =
        feedFlat st' (pos + (T6.encodeLine ref cur chs).length)
          (skipAfter al (pos + (T6.encodeLine ref cur chs).length)) rest :=
  feed_line hw hcur href chs h

/-- The byte loop of `feedbytes` (with `ByteSkip` dropping the rest of a byte) is the flat bit
semantics used in `run_rt` / `line_rt`. -/
theorem feedbytes_is_flat (bytes : List UInt8) (st : St) :
    feedBytes st bytes = feedFlat st 0 0 (bytes.flatMap bitsOfByte) :=
  feedBytes_flat bytes st 0 rfl

/-- **C19, full statement.**  For every width ≥ 1, every list of rows of that width (any height,
including none), every per-row list of mode choices, with or without `EncodedByteAlign`, with or
without EOFB, and for either polarity, `ccittfaxdecode` applied to the T.6 encoding returns exactly
the packed original rows. -/
theorem image_rt (w : Nat) (hw : 1 ≤ w) (rows : List (List Bool)) (hrows : ∀ r ∈ rows, r.length = w)
    (chs : List (List T6.Choice)) (align eofb blackIs1 : Bool) :
    ccittfaxdecode (some (-1)) (some (w : Int)) align blackIs1 (T6.encodeImage w rows chs align eofb)
      = .ok (T6.packImage blackIs1 rows) := by
  obtain ⟨st1, _, hr1, h⟩ := decode_rows (rv := blackIs1) hw rows chs hrows (T6.encodeImage w rows chs align eofb)
    _ (by rw [encodeImage_bits, T6.encodeImageBits, T6.padTo8, List.append_assoc])
  obtain ⟨st', hf, hb⟩ := feed_end st1 hr1.acc hr1.node eofb (Nat.mod_lt _ (by omega)) _
  rw [h, hf]
  simp only [hb, hr1.bf, packLine_fun]
  rfl

/-- The same through the parameter dictionary (the `CCITTFaxDecode` branch of `PDFStream.decode`
hands `DecodeParms` to `ccittfaxdecode`): keys may be absent when the value is the ISO 32000-1
default — Columns 1728, EncodedByteAlign false, BlackIs1 false. -/
theorem stream_rt (p : Params) (w : Nat) (hw : 1 ≤ w) (hK : p.K = some (-1))
    (hcol : p.columns.getD 1728 = (w : Int)) (rows : List (List Bool)) (hrows : ∀ r ∈ rows, r.length = w)
    (chs : List (List T6.Choice)) (eofb : Bool) :
    ccittfaxdecodeParams p
        (T6.encodeImage w rows chs (p.encodedByteAlign.getD false) eofb)
      = .ok (T6.packImage (p.blackIs1.getD false) rows) := by
  have h := image_rt w hw rows hrows chs (p.encodedByteAlign.getD false) eofb (p.blackIs1.getD false)
  simp only [ccittfaxdecodeParams, hK]
  simp only [ccittfaxdecode, CcittCode.columnsDefault, Option.getD_some, hcol] at h ⊢
  exact h

theorem decodeChain_append (other : String → List UInt8 → Except Err (List UInt8)) :
    ∀ (pre post : List (PObj × PObj)) (raw : List UInt8),
      decodeChain other (pre ++ post) raw =
        match decodeChain other pre raw with
        | .ok mid => decodeChain other post mid
        | .error e => .error e := by
  intro pre
  induction pre with
  | nil => intro post raw; rfl
  | cons fp rest ih =>
    intro post raw
    obtain ⟨f, p⟩ := fp
    simp only [List.cons_append, decodeChain]
    cases decodeStep other f p raw with
    | error e => rfl
    | ok d => exact ih post d

/-- The CCITTFaxDecode branch on a parameter dictionary `d`: `K` is the integer -1, `Columns` an
integer or absent (1728), the two flags anything Python treats as a truth value, and ANY other
entries (/Rows, /EndOfBlock, /EndOfLine, /DamagedRowsBeforeError, …) — they are never read. -/
theorem ccittBranch_rt (d : Dict) (w : Nat) (hw : 1 ≤ w) (c : Option Int) (al rv : Bool)
    (hK : d.lookup CcittStream.keyK = some (.int (-1)))
    (hcols : columnsOf d = .ok c) (hc : c.getD 1728 = (w : Int))
    (hal : flagOf d CcittStream.keyAlign = .ok al) (hrv : flagOf d CcittStream.keyBlackIs1 = .ok rv)
    (rows : List (List Bool)) (hrows : ∀ r ∈ rows, r.length = w) (chs : List (List T6.Choice)) (eofb : Bool) :
    ccittBranch (.dict d) (T6.encodeImage w rows chs al eofb) = .ok (T6.packImage rv rows) := by
  have h := stream_rt ⟨some (-1), c, some al, some rv⟩ w hw rfl hc rows hrows chs eofb
  simp only [ccittfaxdecodeParams, Option.getD_some] at h
  have hk : kOf d = .ok (some (-1)) := by simp only [kOf, hK]
  simp only [ccittBranch, hk, hcols, hal, hrv]
  exact h

/-- **PDFStream.get_data() on a CCITTFaxDecode stream.**  Whatever way the dictionary spells it —
`/Filter` or `/F`, a name or an array, `/DecodeParms`, `/DP` or `/FDecodeParms`, a dictionary or an
array with one entry per filter — if `get_filters` pairs the last filter, named `CCITTFaxDecode` or
`CCF`, with a dictionary `d` as in `ccittBranch_rt` (no `/Predictor`), and the filters in front of it
(any model `other` of them) turn the raw data into the T.6 encoding of the image, then the stream
decodes to exactly the packed rows. -/
theorem pdfstream_rt (other : String → List UInt8 → Except Err (List UInt8)) (attrs : Dict)
    (pre : List (PObj × PObj)) (fname : String) (d : Dict) (raw : List UInt8)
    (w : Nat) (hw : 1 ≤ w) (c : Option Int) (al rv : Bool)
    (rows : List (List Bool)) (hrows : ∀ r ∈ rows, r.length = w) (chs : List (List T6.Choice)) (eofb : Bool)
    (hgf : getFilters attrs = pre ++ [(.name fname, .dict d)])
    (hname : CcittStream.ccittFilterNames.contains fname = true)
    (hpre : decodeChain other pre raw = .ok (T6.encodeImage w rows chs al eofb))
    (hK : d.lookup CcittStream.keyK = some (.int (-1)))
    (hcols : columnsOf d = .ok c) (hc : c.getD 1728 = (w : Int))
    (hal : flagOf d CcittStream.keyAlign = .ok al) (hrv : flagOf d CcittStream.keyBlackIs1 = .ok rv)
    (hpred : d.lookup CcittStream.predictorKey = none) :
    streamDecode other attrs raw = .ok (T6.packImage rv rows) := by
  have hb := ccittBranch_rt d w hw c al rv hK hcols hc hal hrv rows hrows chs eofb
  simp only [streamDecode, hgf, decodeChain_append, hpre, decodeChain, decodeStep, hname, if_true, hb,
    hasPredictor, hpred, Option.isSome_none, Bool.false_eq_true, if_false]

/-- How `get_filters` pairs a single filter name with a single parameter dictionary … -/
theorem getFilters_name_dict (attrs : Dict) (n : String) (d : Dict)
    (hf : getAny attrs CcittStream.filterKeys = some (.name n))
    (hp : getAny attrs CcittStream.parmsKeys = some (.dict d)) :
    getFilters attrs = [(.name n, .dict d)] := by
  simp [getFilters, hf, hp, PObj.falsy]

/-- … an array of filters with an array of parameters (position by position, `zip`) … -/
theorem getFilters_arr_arr (attrs : Dict) (f : PObj) (fs ps : List PObj)
    (hf : getAny attrs CcittStream.filterKeys = some (.arr (f :: fs)))
    (hp : getAny attrs CcittStream.parmsKeys = some (.arr ps)) :
    getFilters attrs = (f :: fs).zip ps := by
  simp [getFilters, hf, hp, PObj.falsy]

/-- … and an array of filters with one dictionary (every filter gets it). -/
theorem getFilters_arr_dict (attrs : Dict) (f : PObj) (fs : List PObj) (d : Dict)
    (hf : getAny attrs CcittStream.filterKeys = some (.arr (f :: fs)))
    (hp : getAny attrs CcittStream.parmsKeys = some (.dict d)) :
    getFilters attrs = (f :: fs).zip (List.replicate (fs.length + 1) (.dict d)) := by
  simp [getFilters, hf, hp, PObj.falsy]

/-- For EVERY byte string and every parameter combination with a positive width, the model of
`ccittfaxdecode` returns data or raises `CCITTG4Parser.InvalidData` (a `PDFException`), or
`PDFValueError` when K is not -1 — nothing else: the internal `unmodelled` branches (a code table
handing out a symbol of the wrong kind, `_state` not being a list, …) are unreachable.  The work is
bounded by construction: `feedBytes`/`feedBits` call `stepBit` once per bit, at most 8·len(data) times. -/
theorem decode_total (K cols : Option Int) (al rv : Bool) (data : List UInt8)
    (hc : 1 ≤ cols.getD 1728) :
    (∃ out, ccittfaxdecode K cols al rv data = .ok out) ∨
    (K = some (-1) ∧ ccittfaxdecode K cols al rv data = .error .invalidData) ∨
    (K ≠ some (-1) ∧ ccittfaxdecode K cols al rv data = .error .valueError) := by
  by_cases hK : K = some (-1)
  · subst hK
    have hc' : ¬ ((cols.getD 1728) ≤ 0) := by omega
    simp only [ccittfaxdecode, CcittCode.columnsDefault, hc']
    rcases feedBytes_ok data _ (wt_mode _ rfl rfl) (initSt_outBound (cols.getD 1728).toNat al rv)
      with ⟨st', h, _⟩ | h
    · left; exact ⟨st'.buf, by simp [CcittCode.kGroup4, h]⟩
    · right; left; exact ⟨trivial, by simp [CcittCode.kGroup4, h]⟩
  · right; right
    refine ⟨hK, ?_⟩
    have : K ≠ some CcittCode.kGroup4 := hK
    simp only [ccittfaxdecode, this, ne_eq, not_false_eq_true, if_true]

/-- Bounded output (hence bounded work per input byte): whatever the data, the decoder emits at most
48 lines — 48·⌈width/8⌉ bytes — per input byte (6 per bit: the longest uncompressed-mode symbol;
a T.6 mode code completes at most one line).  Only K = -1 can meet `h`: any other K gives `PDFValueError`. -/
theorem decode_output_bounded (K cols : Option Int) (al rv : Bool) (data out : List UInt8)
    (hc : 1 ≤ cols.getD 1728) (h : ccittfaxdecode K cols al rv data = .ok out) :
    out.length ≤ 48 * data.length * (((cols.getD 1728).toNat + 7) / 8) := by
  have hc' : ¬ ((cols.getD 1728) ≤ 0) := by omega
  simp only [ccittfaxdecode, CcittCode.columnsDefault, hc'] at h
  split at h
  · cases h
  · simp only [if_false] at h
    rcases feedBytes_ok data _ (wt_mode _ rfl rfl) (initSt_outBound (cols.getD 1728).toNat al rv)
      with ⟨st', hf, g⟩ | hf <;> rw [hf] at h <;> cases h
    simpa only [Nat.zero_add, lineBytes] using g.2.2

/-- The same for the dictionary route, on a well-formed Group 4 dictionary (`K` the integer -1, `Columns`
an integer ≥ 1 or absent, both flags readable): the CCITT branch returns data or raises `InvalidData`.
Other dictionaries are not covered here: `k_not_group4_rejected` and `columns_invalid_rejected` deal with
other `K` and invalid `Columns`. -/
theorem ccittBranch_total (d : Dict) (c : Option Int) (al rv : Bool) (data : List UInt8)
    (hK : d.lookup CcittStream.keyK = some (.int (-1)))
    (hcols : columnsOf d = .ok c) (hc : 1 ≤ c.getD 1728)
    (hal : flagOf d CcittStream.keyAlign = .ok al) (hrv : flagOf d CcittStream.keyBlackIs1 = .ok rv) :
    (∃ out, ccittBranch (.dict d) data = .ok out) ∨ ccittBranch (.dict d) data = .error .invalidData := by
  have hk : kOf d = .ok (some (-1)) := by simp only [kOf, hK]
  have hg : ((-1 : Int) = CcittCode.kGroup4) := rfl
  simp only [ccittBranch, hk, hcols, hal, hrv, ne_eq, hg, not_true_eq_false, if_false]
  rw [← hg]
  rcases decode_total (some (-1)) c al rv data hc with h | ⟨_, h⟩ | ⟨h, _⟩
  · left; exact h
  · right; exact h
  · exact absurd rfl h

/-- A parameter object that is not a dictionary (null, number, name, array, …) means "all defaults",
i.e. K absent: the CCITT branch reports `PDFValueError` whatever the data — never an undocumented
exception (upstream fixes 82c142f and f22e689). -/
theorem ccittBranch_nondict (p : PObj) (h : ∀ d, p ≠ .dict d) (data : List UInt8) :
    ccittBranch p data = .error .valueError := by
  cases p with
  | dict d => exact absurd rfl (h d)
  | null => rfl
  | bool b => rfl
  | int i => rfl
  | name s => rfl
  | other => rfl
  | arr xs => rfl

example : ccittBranch (.arr [.int 7]) [0x80] = .error .valueError :=
  ccittBranch_nondict _ (by intro d hd; cases hd) _

/-! ## The uncompressed-mode extension is outside the property

C19 quantifies over "any admissible mix of pass, vertical and horizontal modes"; the optional
uncompressed mode of T.6 (entered by the extension code 0000001111) is not one of them, and the
source itself says "Bugs: uncompressed mode untested".  The decoder's handling of it is modelled
(`parseUncompressed`, `doUncompressed`) and tied to the code on crafted streams, so that `decode_total`
covers it, but no round trip can be stated: `_do_uncompressed` writes its first pixel to
`curline[-1]` (the LAST column, because `_curpos` starts at -1), so a row never completes after
`width` pixels.  Proved on the smallest instance: -/

/-- Width 2, uncompressed mode, the two pixels `0 1`: no row comes out at all; with a third pixel `1` the
row is complete, and it is `1 1`: the first pixel went to the last column, where the third overwrote it. -/
theorem uncompressed_mode_cex :
    (ccittfaxdecode (some (-1)) (some 2) false false [0x03, 0xD0]).toOption = some [] ∧
    (ccittfaxdecode (some (-1)) (some 2) false false [0x03, 0xD8]).toOption = some [0xC0] := by
  decide +kernel

/-- A 5×3 bitmap whose rows are coded with horizontal+vertical, pass+vertical+horizontal and
horizontal modes, byte aligned, with EOFB. -/
example :
    T6.encodeImage 5 [[true, false, true, true, true], [true, true, true, true, false],
        [false, false, false, false, false]] [[.horiz, .vert], [.pass, .vert, .horiz], []] true true
      = [0x23, 0xA8, 0x14, 0x51, 0xA8, 0x26, 0xA6, 0x00, 0x10, 0x01] := by decide +kernel

example :
    (ccittfaxdecode (some (-1)) (some 5) true false
      [0x23, 0xA8, 0x14, 0x51, 0xA8, 0x26, 0xA6, 0x00, 0x10, 0x01]).toOption = some [0xB8, 0xF0, 0x00] := by
  decide +kernel

/-- The hypotheses of `image_rt` are met by it (and the conclusion is the evaluation above). -/
example : ccittfaxdecode (some (-1)) (some ((5 : Nat) : Int)) true false
    (T6.encodeImage 5 [[true, false, true, true, true], [true, true, true, true, false],
        [false, false, false, false, false]] [[.horiz, .vert], [.pass, .vert, .horiz], []] true true)
      = .ok (T6.packImage false [[true, false, true, true, true], [true, true, true, true, false],
        [false, false, false, false, false]]) :=
  image_rt 5 (by omega) _ (by decide) _ true true false

/-- A run longer than 2623 pixels really uses 2560 + make-up + terminating codes. -/
example : T6.encodeRun false 2700 = T6.runCode false 2560 ++ T6.runCode false 128 ++ T6.runCode false 12 := by
  decide +kernel

/-- Pass mode is really used by the standard choice on some input (b2 < a1). -/
example : T6.encodeLine [true, false, true, true, true] [true, true, true, true, false] []
    = T6.codeP ++ T6.codeV (-1) ++ T6.codeV 0 := by decide +kernel

/-- `pdfstream_rt` on a concrete dictionary: `/F [/AHx /CCF] /DP [null << /K -1 /Columns 5
/EncodedByteAlign true /Rows 3 /EndOfBlock true >>] /Length 21`, the first filter standing for any
decoder that delivers the T.6 data. -/
example :
    streamDecode (fun _ _ => .ok [0x23, 0xA8, 0x14, 0x51, 0xA8, 0x26, 0xA6, 0x00, 0x10, 0x01])
      [("Length", .int 21), ("F", .arr [.name "AHx", .name "CCF"]),
       ("DP", .arr [.null, .dict [("K", .int (-1)), ("Columns", .int 5), ("EncodedByteAlign", .bool true),
                                  ("Rows", .int 3), ("EndOfBlock", .bool true)]])] []
      = .ok (T6.packImage false [[true, false, true, true, true], [true, true, true, true, false],
        [false, false, false, false, false]]) := by
  have henc : T6.encodeImage 5 [[true, false, true, true, true], [true, true, true, true, false],
        [false, false, false, false, false]] [[.horiz, .vert], [.pass, .vert, .horiz], []] true true
      = [0x23, 0xA8, 0x14, 0x51, 0xA8, 0x26, 0xA6, 0x00, 0x10, 0x01] := by decide +kernel
  refine pdfstream_rt _ _ [(.name "AHx", .null)] "CCF"
    [("K", .int (-1)), ("Columns", .int 5), ("EncodedByteAlign", .bool true), ("Rows", .int 3),
     ("EndOfBlock", .bool true)] [] 5 (by omega) (some 5) true false _ (by decide)
    [[.horiz, .vert], [.pass, .vert, .horiz], []] true
    ((getFilters_arr_arr _ (.name "AHx") [.name "CCF"] _ rfl rfl).trans rfl) (by decide) ?_ rfl rfl rfl rfl rfl rfl
  rw [henc]; rfl

/-- `decode_total` is not vacuous in any of its three cases: data, `InvalidData`, `PDFValueError`. -/
example :
    (ccittfaxdecode (some (-1)) (some 3) false false [0x00, 0x80]).toOption = none ∧
    (ccittfaxdecode (some (-1)) (some 3) false false [0xFF, 0x12, 0x34]).toOption = some [0xE0, 0xE0, 0xE0, 0xE0, 0xE0, 0xE0, 0xE0, 0xE0, 0xE0] ∧
    (ccittfaxdecode (some 0) (some 3) false false [0xFF]).toOption = none := by
  decide +kernel

/-- `run_rt`, `line_rt`, `encodeLine_fuel`, `ccittBranch_total`: their hypotheses are met by ordinary states. -/
example : ∃ st1 : St, st1.n1 = 0 + 2700 ∧ st1.color = false :=
  (run_rt true 2700 { initSt 5 false false with acc := .horiz1, node := runTrie true } rfl rfl rfl).elim
    fun st1 h => ⟨st1, h.1, h.2.2.1⟩

example : ∃ st', Ready 5 true false [true, false, false, true, true]
    ([] ++ packLine false [true, false, false, true, true]) st' :=
  (line_rt 5 (by omega) true false (List.replicate 5 true) [true, false, false, true, true] rfl rfl
    [.horiz, .vert] [] (initSt 5 true false) ⟨rfl, rfl, rfl, rfl, rfl, rfl, rfl, rfl, rfl, rfl⟩).elim
    fun st' h => ⟨st', h.1⟩

example : T6.encodeLineAux [true, true, true] [false, true, false] 100 (-1) true [.vert]
    = T6.encodeLine [true, true, true] [false, true, false] [.vert] :=
  encodeLine_fuel [true, true, true] [false, true, false] rfl [.vert] 100 (by decide)

example : (∃ out, ccittBranch (.dict [("K", .int (-1)), ("Columns", .int 3), ("BlackIs1", .int 1)]) [0x00, 0x80] = .ok out) ∨
    ccittBranch (.dict [("K", .int (-1)), ("Columns", .int 3), ("BlackIs1", .int 1)]) [0x00, 0x80] = .error .invalidData :=
  ccittBranch_total _ (some 3) false true _ rfl rfl (by decide) rfl rfl

/-- The arithmetic of `decode_output_bounded` on the all-ones data above (9 bytes out of 3 bytes in, bound
144); the theorem itself is not applied. -/
example : (9 : Nat) ≤ 48 * [0xFF, 0x12, 0x34].length * ((((some 3 : Option Int).getD 1728).toNat + 7) / 8) := by
  decide

/-- **The encoder specification conforms to T.4 / T.6 — a statement that does not mention pdfminer.**
The frozen tables of `Spec/T6.lean` list exactly the run lengths 0..63 and 64·i ≤ 2560, once each, for
either colour; each table is prefix-free and uses the code space 1 - 2⁻⁸ (Kraft), the rest being the
prefix `00000000` of EOL, which no code word starts with; lengths are within T.4's limits; the extended
make-up codes 1792..2560 are common to both colours, the ordinary ones are not; the mode codes P, H,
V0, VR1-3, VL1-3 are prefix-free and leave exactly `0000001…` (extensions) and `0000000…` (EOFB). -/
theorem spec_tables_T4 :
    (T6.white.map (·.1) = runKeys ∧ T6.black.map (·.1) = runKeys) ∧
    (prefixFree (T6.white.map (·.2)) = true ∧ prefixFree (T6.black.map (·.2)) = true) ∧
    (kraft 13 (T6.white.map (·.2)) = 2 ^ 13 - 2 ^ 5 ∧ kraft 13 (T6.black.map (·.2)) = 2 ^ 13 - 2 ^ 5) ∧
    (T6.white ++ T6.black).all (fun e => !isPrefix (List.replicate 8 false) e.2) = true ∧
    (T6.white.all (fun e => decide (4 ≤ e.2.length ∧ e.2.length ≤ 12)) = true ∧
      T6.black.all (fun e => decide (2 ≤ e.2.length ∧ e.2.length ≤ 13)) = true) ∧
    (List.range 13).all (fun i => T6.runCode true (1792 + 64 * i) == T6.runCode false (1792 + 64 * i)
      && (T6.runCode true (1792 + 64 * i)).length ≥ 11) = true ∧
    (List.range 27).all (fun i => T6.runCode true (64 + 64 * i) != T6.runCode false (64 + 64 * i)) = true ∧
    (prefixFree specModeCodes = true ∧ kraft 7 specModeCodes = 2 ^ 7 - 2 ∧
      specModeCodes.all (fun c => !isPrefix (List.replicate 6 false) c) = true ∧
      isPrefix (List.replicate 7 false) T6.codeEOFB = true ∧ T6.codeEOFB.length = 24) :=
  ⟨⟨spec_white_keys, spec_black_keys⟩, ⟨spec_white_prefixFree, spec_black_prefixFree⟩,
    ⟨spec_white_kraft, spec_black_kraft⟩, spec_no_eol_prefix, spec_code_lengths, spec_extended_shared,
    spec_ordinary_differ, spec_mode_codes⟩

/-- Completeness of the specification's code assignment: every terminating length, every make-up
length and every vertical offset |d| ≤ 3 (and no other) has a code word. -/
theorem spec_codes_complete :
    (∀ (c : Bool) (n : Nat), (n < 64 ∨ (64 ≤ n ∧ n ≤ 2560 ∧ n % 64 = 0)) → T6.runCode c n ≠ []) ∧
    (∀ d : Int, T6.codeV d ≠ [] ↔ (-3 ≤ d ∧ d ≤ 3)) :=
  ⟨fun c _ h => (runCode_follow c (mem_runKeys.mpr h)).1, codeV_nonempty_iff⟩

/-- Shape of the specification's run-length code for EVERY run length: k codes for 2560 (k ≥ 1 only
together with a make-up code), at most one make-up code m = 64·j ≤ 2560, exactly one terminating code
t < 64, and `n = 2560·k + m + t`. -/
theorem spec_encodeRun_shape (c : Bool) (n : Nat) :
    ∃ k m t, n = 2560 * k + m + t ∧ t < 64 ∧ m % 64 = 0 ∧ m ≤ 2560 ∧ (1 ≤ k → 64 ≤ m) ∧
      T6.encodeRun c n = (List.replicate k (T6.runCode c 2560)).flatten ++
        (if m = 0 then [] else T6.runCode c m) ++ T6.runCode c t :=
  encodeRun_shape c n

example : T6.encodeRun true 5184 =
    (List.replicate 1 (T6.runCode true 2560)).flatten ++ (if 2560 = 0 then [] else T6.runCode true 2560) ++
      T6.runCode true 64 → False := by decide +kernel   -- 64 is not a terminating code: 5184 = 2·2560 + 64 + 0

example : T6.encodeRun true 5184 = T6.runCode true 2560 ++ T6.runCode true 2560 ++ T6.runCode true 64 ++
    T6.runCode true 0 := by decide +kernel

/-- **EndOfBlock.**  Decoding stops at EOFB: for every image (as in `image_rt`) and every byte string
whose bits start with the rows' code followed by EOFB, the result is exactly the packed rows —
whatever bits follow (fill, further images, garbage).  `/EndOfBlock` and `/Rows` are never consulted. -/
theorem eofb_ends_decoding (w : Nat) (hw : 1 ≤ w) (rows : List (List Bool)) (hrows : ∀ r ∈ rows, r.length = w)
    (chs : List (List T6.Choice)) (align blackIs1 : Bool) (data : List UInt8) (rest : List Bool)
    (hd : data.flatMap bitsOfByte =
      T6.encodeRows align (List.replicate w true) rows chs ++ T6.codeEOFB ++ rest) :
    ccittfaxdecode (some (-1)) (some (w : Int)) align blackIs1 data = .ok (T6.packImage blackIs1 rows) := by
  obtain ⟨st1, _, hr1, h⟩ := decode_rows (rv := blackIs1) hw rows chs hrows data (T6.codeEOFB ++ rest)
    (by rw [hd, List.append_assoc])
  rw [h, feed_eofb st1 hr1.acc hr1.node]
  simp only [hr1.bf, packLine_fun]
  rfl

/-- In particular any bytes appended to a complete encoding with EOFB are ignored. -/
theorem image_rt_trailing (w : Nat) (hw : 1 ≤ w) (rows : List (List Bool)) (hrows : ∀ r ∈ rows, r.length = w)
    (chs : List (List T6.Choice)) (align blackIs1 : Bool) (trail : List UInt8) :
    ccittfaxdecode (some (-1)) (some (w : Int)) align blackIs1 (T6.encodeImage w rows chs align true ++ trail)
      = .ok (T6.packImage blackIs1 rows) := by
  refine eofb_ends_decoding w hw rows hrows chs align blackIs1 _
    (List.replicate ((8 - (T6.encodeRows align (List.replicate w true) rows chs ++ T6.codeEOFB).length % 8) % 8) false
      ++ trail.flatMap bitsOfByte) ?_
  simp only [List.flatMap_append, encodeImage_bits, T6.encodeImageBits, T6.padTo8, if_true, List.append_assoc]

/-- **Extension codes.**  After any number of correctly coded rows, one of the T.6 extension codes
`0000001000 … 0000001110` (`x1..x7` of pdfminer's MODE table; only `0000001111`, uncompressed mode, is
interpreted) makes `ccittfaxdecode` raise `InvalidData` — no partial output, whatever follows. -/
theorem extension_codes_rejected (w : Nat) (hw : 1 ≤ w) (rows : List (List Bool))
    (hrows : ∀ r ∈ rows, r.length = w) (chs : List (List T6.Choice)) (align blackIs1 : Bool) (n : Nat)
    (h1 : 1 ≤ n) (h7 : n ≤ 7) (data : List UInt8) (rest : List Bool)
    (hd : data.flatMap bitsOfByte =
      T6.encodeRows align (List.replicate w true) rows chs ++ extCode n ++ rest) :
    ccittfaxdecode (some (-1)) (some (w : Int)) align blackIs1 data = .error .invalidData := by
  obtain ⟨st1, _, hr1, h⟩ := decode_rows (rv := blackIs1) hw rows chs hrows data (extCode n ++ rest)
    (by rw [hd, List.append_assoc])
  rw [h, feed_ext_code st1 hr1.acc hr1.node n h1 h7]

/-- **K.**  `ccittfaxdecode` implements Group 4 only.  Whatever the dictionary otherwise contains
(also an ill-typed or non-positive `Columns`, `/Rows`, `/EndOfLine`, …) and whatever the data:
K = 0 (Group 3 1-D), K > 0 (Group 3 2-D), K < -1, an absent K (default 0) and a K that is not a number
all end in `PDFValueError` before anything else is read. -/
theorem k_not_group4_rejected (d : Dict) (data : List UInt8) :
    (d.lookup CcittStream.keyK = none → ccittBranch (.dict d) data = .error .valueError) ∧
    (∀ i : Int, d.lookup CcittStream.keyK = some (.int i) → i ≠ -1 →
      ccittBranch (.dict d) data = .error .valueError) ∧
    (∀ o : PObj, d.lookup CcittStream.keyK = some o → (∀ i, o ≠ .int i) → o ≠ .other →
      ccittBranch (.dict d) data = .error .valueError) := by
  refine ⟨fun h => ccittBranch_k d none (by simp only [kOf, h]) (by simp) data,
    fun i h hi => ccittBranch_k d (some i) (by simp only [kOf, h]) (by simpa using hi) data, ?_⟩
  intro o h hint hoth
  -- `kOf` models a K that is neither an integer nor out of the model's domain as `some 0`: with `hint` and
  -- `hoth` in the context, `simp` reduces `kOf d` to that last arm
  refine ccittBranch_k d (some 0) ?_ (by decide) data
  simp only [kOf, h]

/-- Non-vacuity: a 3×2 image, byte aligned, EOFB, then two garbage bytes;
the same rows followed by extension code x3; dictionaries with K = 0, K = 4 and `/Columns /Foo`. -/
example : (ccittfaxdecode (some (-1)) (some 3) true false
    (T6.encodeImage 3 [[true, false, true], [false, false, true]] [[.horiz], []] true true ++ [0xA5, 0x5A])).toOption
      = some [0xA0, 0x20] := by decide +kernel

example : ccittfaxdecode (some (-1)) (some ((3 : Nat) : Int)) true false
    (T6.encodeImage 3 [[true, false, true], [false, false, true]] [[.horiz], []] true true ++ [0xA5, 0x5A])
      = .ok (T6.packImage false [[true, false, true], [false, false, true]]) :=
  image_rt_trailing 3 (by omega) _ (by decide) _ true false _

example : (ccittfaxdecode (some (-1)) (some 3) false false
    (packBits (T6.padTo8 (T6.encodeRows false [true, true, true] [[true, false, true]] [[.horiz]] ++ extCode 3 ++ [true, true]))
      )).toOption = none ∧
    (ccittfaxdecode (some (-1)) (some 3) false false
      (packBits (T6.padTo8 (T6.encodeRows false [true, true, true] [[true, false, true]] [[.horiz]])))).toOption
      = some [0xA0] := by decide +kernel

example : ccittBranch (.dict [("Columns", .name "Foo"), ("K", .int 4), ("Rows", .int 2)]) [0x80] = .error .valueError :=
  (k_not_group4_rejected _ _).2.1 4 rfl (by decide)

example : ccittBranch (.dict [("K", .int 0), ("EndOfLine", .bool true)]) [0x80] = .error .valueError ∧
    ccittBranch (.dict [("Columns", .int 5)]) [0x80] = .error .valueError ∧
    ccittBranch (.dict [("K", .name "G4")]) [0x80] = .error .valueError :=
  ⟨(k_not_group4_rejected _ _).2.1 0 rfl (by decide), (k_not_group4_rejected _ _).1 rfl,
    (k_not_group4_rejected _ _).2.2 _ rfl (by intro i h; cases h) (by intro h; cases h)⟩

/-- All-white and all-black rows of width 1 and of width 2561 (one make-up 2560 + terminating 1),
first pixel black (a0 handling at the line start), last pixel changing (b1/b2 at the line end). -/
example : T6.encodeImage 1 [[true], [false], [false], [true]] [] false true =
    [0xAE, 0xC0, 0x04, 0x00, 0x40] := by decide +kernel

example : ccittfaxdecode (some (-1)) (some ((1 : Nat) : Int)) false true
    (T6.encodeImage 1 [[true], [false], [false], [true]] [] false true)
      = .ok (T6.packImage true [[true], [false], [false], [true]]) :=
  image_rt 1 (by omega) _ (by decide) _ false true true

/-- **Unassigned code words (damaged data, any table).**  Whatever the parser is waiting for — a mode
code, a white or black run length, an uncompressed-mode symbol — bits that lead to a slot of the
current table that no `BitParser.add` filled end in `InvalidData`, whatever follows. -/
theorem unassigned_code_rejected (st : St) (code : List Bool) (hne : code ≠ [])
    (h : Trie.follow st.node code = some .empty) (pos : Nat) (rest : List Bool) :
    feedFlat st pos 0 (code ++ rest) = .error .invalidData :=
  feed_follow_empty code st pos rest hne h

/-- **EndOfLine.**  T.6 data carries no EOL codes and `ccittfaxdecode` never reads `/EndOfLine`: after
any number of correctly coded rows, ONE end-of-line code `000000000001` that is not immediately followed
by a second one (k < 11 zeros and a one, or twelve zeros) raises `InvalidData`; two of them are EOFB
(`eofb_ends_decoding`). -/
theorem eol_rejected (w : Nat) (hw : 1 ≤ w) (rows : List (List Bool))
    (hrows : ∀ r ∈ rows, r.length = w) (chs : List (List T6.Choice)) (align blackIs1 : Bool) (k : Nat)
    (hk : k < 12) (data : List UInt8) (rest : List Bool)
    (hd : data.flatMap bitsOfByte =
      T6.encodeRows align (List.replicate w true) rows chs ++ (codeEOL ++ eolDeviation k) ++ rest) :
    ccittfaxdecode (some (-1)) (some (w : Int)) align blackIs1 data = .error .invalidData := by
  obtain ⟨st1, _, hr1, h⟩ := decode_rows (rv := blackIs1) hw rows chs hrows data
    ((codeEOL ++ eolDeviation k) ++ rest) (by rw [hd, List.append_assoc])
  have hne : codeEOL ++ eolDeviation k ≠ [] := by simp [codeEOL]
  rw [h, feed_follow_empty _ st1 _ rest hne (by rw [hr1.node]; exact eol_deviation_ok ⟨k, hk⟩)]

example : T6.codeEOFB = codeEOL ++ codeEOL := codeEOFB_eq

/-- One row of width 3, then EOL + `1`: InvalidData; the unassigned white run-length code `00000000`
right after an H code: InvalidData as well (`unassigned_code_rejected` in state `_parse_horiz1`). -/
example : (ccittfaxdecode (some (-1)) (some 3) false false
    (packBits (T6.padTo8 (T6.encodeRows false [true, true, true] [[true, false, true]] [[.horiz]] ++
      (codeEOL ++ eolDeviation 0) ++ [false, true])))).toOption = none := by decide +kernel

example : ccittfaxdecode (some (-1)) (some ((3 : Nat) : Int)) false false
    (packBits (T6.padTo8 (T6.encodeRows false [true, true, true] [[true, false, true]] [[.horiz]] ++
      (codeEOL ++ eolDeviation 0) ++ [false, true]))) = .error .invalidData := by
  refine eol_rejected 3 (by omega) [[true, false, true]] (by decide) [[.horiz]] false false 0 (by omega) _
    ([false, true] ++ List.replicate 4 false) ?_
  decide +kernel

example : feedFlat { initSt 3 false false with acc := .horiz1, node := runTrie true } 3 0
    (List.replicate 8 false ++ [true, true]) = .error .invalidData :=
  unassigned_code_rejected _ _ (by decide) (by decide +kernel) 3 _

/-- **BlackIs1, on EVERY input** (conforming or damaged data, any K, Columns, EncodedByteAlign): the flag
changes nothing but the polarity of the output.  Either both settings fail with the same error, or
there is ONE list of rows such that the two results are its packings with white = 1 and with black = 1
(`T6.packImage`, the specification's packing) — `reversed` is read by `output_line` only.  (For Columns ≤ 0
the common error is the model's out-of-scope marker `unmodelled`, which says nothing about pdfminer; see
`columns_invalid_rejected` for those widths.) -/
theorem blackIs1_only_polarity (K cols : Option Int) (al : Bool) (data : List UInt8) :
    (∃ e, ccittfaxdecode K cols al false data = .error e ∧ ccittfaxdecode K cols al true data = .error e) ∨
    (∃ rows : List (List Bool), ccittfaxdecode K cols al false data = .ok (T6.packImage false rows) ∧
      ccittfaxdecode K cols al true data = .ok (T6.packImage true rows)) := by
  unfold ccittfaxdecode
  by_cases hK : K ≠ some CcittCode.kGroup4
  · left; exact ⟨.valueError, by rw [if_pos hK], by rw [if_pos hK]⟩
  · simp only [hK, if_false]
    by_cases hc : cols.getD CcittCode.columnsDefault ≤ 0
    · left; exact ⟨.unmodelled, by rw [if_pos hc], by rw [if_pos hc]⟩
    · simp only [hc, if_false]
      have h0 : Twin [] (initSt (cols.getD CcittCode.columnsDefault).toNat al false)
          (initSt (cols.getD CcittCode.columnsDefault).toNat al true) := ⟨rfl, rfl, rfl⟩
      have hf := feedBytes_twin data h0
      cases hra : feedBytes (initSt (cols.getD CcittCode.columnsDefault).toNat al false) data with
      | error e => rw [hra] at hf; left; exact ⟨e, rfl, by rw [show feedBytes _ data = _ from hf]⟩
      | ok a =>
        rw [hra] at hf
        obtain ⟨b, L, hrb, _, h2, h3⟩ := hf
        right
        refine ⟨L, ?_, ?_⟩
        · simp only [h2, T6.packImage, packLine_fun]
        · simp only [hrb, h3, T6.packImage, packLine_fun]

/-- Non-vacuity on damaged data: the all-ones bytes of the `decode_total` example, both polarities. -/
example :
    (ccittfaxdecode (some (-1)) (some 3) false false [0xFF, 0x12, 0x34]).toOption =
      some (T6.packImage false (List.replicate 9 [true, true, true])) ∧
    (ccittfaxdecode (some (-1)) (some 3) false true [0xFF, 0x12, 0x34]).toOption =
      some (T6.packImage true (List.replicate 9 [true, true, true])) := by decide +kernel

/-- **Invalid `Columns`**, for EVERY such value: an integer ≤ 0 or `false` (`c = some i`), or
any object that is not an integer (`c = none`: null, name, array, dictionary, real, string), every data
and flags.  Direct call: a non-integer raises `TypeError` (`[1] * width`) before any data is read; a
width ≤ 0 gives data, `InvalidData` or `IndexError` (the line arrays are empty) and no unmodelled branch.
Through `PDFStream.get_data()` nothing leaks: `IndexError` and `TypeError` are members of the regenerated
`_DECODE_ERRORS` (`Gen.Filters.DECODE_ERRORS`), so the outcome is data (empty when an error was caught)
or a member of the library's error family (`InvalidData`; `PDFException` when STRICT). -/
theorem columns_invalid_rejected (v : PObj) (c : Option Int) (hv : invalidColumns v = some c)
    (al rv strict : Bool) (data : List UInt8) :
    (c = none → decodeInvalidColumns v al rv data = .error .typeError) ∧
    (c ≠ none → (∃ out, decodeInvalidColumns v al rv data = .ok out) ∨
      decodeInvalidColumns v al rv data = .error .invalidData ∨
      decodeInvalidColumns v al rv data = .error .indexError) ∧
    ((∃ d, streamInvalidColumns strict v al rv data = .data d) ∨
      (∃ n, streamInvalidColumns strict v al rv data = .pdfException n)) := by
  have hwt : WT (initSt 0 al rv) := wt_mode _ rfl rfl
  have hT : Filters.DECODE_ERRORS.contains ColErr.typeError.pyName = true := by decide
  have hI : Filters.DECODE_ERRORS.contains ColErr.indexError.pyName = true := by decide
  cases c with
  | none =>
    have hd : decodeInvalidColumns v al rv data = .error .typeError := by
      simp only [decodeInvalidColumns, hv]
    refine ⟨fun _ => hd, fun h => absurd rfl h, ?_⟩
    simp only [streamInvalidColumns, hd, hT, if_true]
    cases strict
    · left; exact ⟨[], rfl⟩
    · right; exact ⟨_, rfl⟩
  | some i =>
    have hd : decodeInvalidColumns v al rv data = decodeDegenerate al rv data := by
      unfold decodeInvalidColumns; rw [hv]
    refine ⟨fun h => (by cases h), ?_⟩
    simp only [streamInvalidColumns, hd, decodeDegenerate]
    rcases feedBytesD_total data _ hwt with ⟨st', h⟩ | h | h <;> rw [h]
    · exact ⟨fun _ => .inl ⟨_, rfl⟩, .inl ⟨_, rfl⟩⟩
    · exact ⟨fun _ => .inr (.inl rfl), .inr ⟨_, rfl⟩⟩
    · refine ⟨fun _ => .inr (.inr rfl), ?_⟩
      simp only [hI, if_true]
      cases strict
      · left; exact ⟨[], rfl⟩
      · right; exact ⟨_, rfl⟩

/-- Non-vacuity: Columns 0 with a V0 code (`IndexError`), with H + two runs (empty data), with an
extension code (`InvalidData`); Columns `/Foo` (`TypeError`); and what `get_data()` makes of them. -/
example :
    errOf (decodeInvalidColumns (.int 0) false false [0x80]) = some .indexError ∧
    (decodeInvalidColumns (.int (-5)) true false [0x26, 0xA0]).toOption = some [] ∧
    errOf (decodeInvalidColumns (.bool false) false false [0x02, 0x00]) = some .invalidData ∧
    errOf (decodeInvalidColumns (.name "Foo") false false [0x80]) = some .typeError ∧
    streamInvalidColumns false (.int 0) false false [0x80] = .data [] ∧
    streamInvalidColumns true (.name "Foo") false false [0x80] = .pdfException "PDFException" ∧
    streamInvalidColumns false (.int 0) false false [0x02, 0x00] = .pdfException "InvalidData" := by
  decide +kernel

end PdfVerif.Props.C19
