/-
C06 — Simple fonts: code -> Unicode / width follow encoding, glyph names, ToUnicode.

Model: `PdfVerif.Model.SimpleFont` (hand model of encodingdb.py / pdffont.py / cmapdb.py, tied to the
implementation by tools/harness/props/c06.py through real PDF files).  Specification:
`PdfVerif.Spec.SimpleFont` (AGL section 2; last Differences assignment else base table; ToUnicode >
encoding > `(cid:N)`; Widths > standard-14 metric > MissingWidth; x 1/1000 or x FontMatrix[0]).
All theorems are parametric in the tables (glyph list, ENCODING rows, EncodingDB columns, metrics);
`TablesOK` lists the table facts used; `tables_ok` proves them in the kernel for the tables regenerated
from the Python source, and the `…_pdfminer` theorems are the instances for exactly the tables and the
`EncodingDB` the driver runs.
-/
import PdfVerif.Lemmas.SimpleFontBuild
import PdfVerif.Lemmas.Agl
import PdfVerif.Lemmas.SimpleFontInst
import PdfVerif.Lemmas.Type1Roundtrip
import PdfVerif.Lemmas.Utf8

namespace PdfVerif.Props.C06
open PdfVerif PdfVerif.SimpleFont PdfVerif.SimpleFont.Spec PdfVerif.Gen.FontCode

structure TablesOK (T : Tables) : Prop where
  /-- no glyph-list entry has an empty value -/
  glyphs : GlyphListOK T.gl
  /-- every glyph name of the ENCODING rows has a value … -/
  rowsResolve : RowsResolve T.gl T.rows
  /-- … and is an ordinary name (no lenient component, no partially unknown components) -/
  rowsJudged : ∀ r ∈ T.rows, judgedName T.gl (some r.1) = true

/-- `name2unicode` is the Adobe Glyph List algorithm on every judged name (every name except those with a
lower-case `uni`/`u` hexadecimal component and those where only some components are unknown):
list names, `uniXXXX…`, `uXXXX`–`uXXXXXX`, components, suffixes. -/
theorem agl_grammar (gl : GlyphList) (hgl : GlyphListOK gl) (nm : Option Name)
    (hj : judgedName gl nm = true) : name2unicode gl nm = aglText gl nm :=
  name2unicode_eq_aglText hgl nm hj

/-- The statement of the design: on every glyph name of the grammar (list names, `uniXXXX`+, `uXXXX`-`uXXXXXX`,
underscore-joined components, suffix after the first period dropped) `name2unicode` returns the - non-empty -
character string of the Adobe Glyph List algorithm. -/
theorem agl_grammar_wellformed (gl : GlyphList) (hgl : GlyphListOK gl) (n : Name)
    (hw : wellFormedName gl n = true) :
    name2unicode gl (some n) = some (aglSpec gl n) ∧ aglSpec gl n ≠ [] := by
  have hne : aglSpec gl n ≠ [] := by
    refine flatten_ne_nil_of_all _ (by simpa [components] using splitOn_ne_nil '_' (dropSuffix n)) ?_
    rw [List.all_map]
    exact List.all_eq_true.mpr fun c hc => by simp [wf_nonempty hgl (List.all_eq_true.mp hw c hc)]
  rw [agl_grammar gl hgl (some n) (wellFormed_judged hgl n hw)]
  exact ⟨textOpt_of_ne_nil hne, hne⟩

/-- `get_encoding base diff`: the last Differences assignment to the code, else the base table. -/
theorem enc_overlay (gl : GlyphList) (db : EncDB) (name : String) (diff : List DiffTok) (code : Int) :
    tlookup (getEncoding gl db name diff) code =
      match lastAssigned (assignments 0 diff) code with
      | some nm => name2unicode gl nm
      | none => tlookup (db.get name) code :=
  tlookup_getEncoding gl db name diff code

/-- The encoding of a font as Unicode values: AGL value of the last Differences name, else of the base
table's name for the code (StandardEncoding for unknown base names). -/
theorem enc_text (T : Tables) (hT : TablesOK T) (name : String) (diff : List DiffTok) (code : Int)
    (hj : ∀ nm, lastAssigned (assignments 0 diff) code = some nm → judgedName T.gl nm = true) :
    tlookup (getEncoding T.gl (dbOf T) name diff) code = encText T name diff code := by
  rw [tlookup_getEncoding_dbOf T hT.rowsResolve]
  unfold encText
  cases hl : lastAssigned (assignments 0 diff) code with
  | some nm => exact agl_grammar T.gl hT.glyphs nm (hj nm hl)
  | none =>
    cases hb : baseName T.rows (encColumn T.cols T.dflt name) code with
    | none => rfl
    | some n =>
      obtain ⟨r, hr, hrn⟩ := baseName_mem hb
      exact agl_grammar T.gl hT.glyphs (some n) (hrn ▸ hT.rowsJudged r hr)

/-- The built-in encoding of an embedded Type 1 program: AGL value of the last `put` for the code. -/
theorem builtin_text (T : Tables) (hT : TablesOK T) (ff : FontFile) (code : Int)
    (hj : ∀ nm, builtinName ff code = some nm → judgedName T.gl nm = true) :
    tlookup (builtinEncoding T.gl ff) code =
      match builtinName ff code with
      | some nm => aglText T.gl nm
      | none => none := by
  rw [tlookup_builtinEncoding]
  cases hl : builtinName ff code with
  | some nm => exact agl_grammar T.gl hT.glyphs nm (hj nm hl)
  | none => rfl

/-- What the font's encoding gives a code (judged glyph names). -/
theorem encoding_text (T : Tables) (hT : TablesOK T) (fd : FontDict) (code : Int)
    (hj : judgedEncName T fd code = true) :
    tlookup (modelFont T fd).cid2unicode code = encodingText T fd code := by
  rw [congrArg Font.cid2unicode (modelFont_eq T fd)]
  unfold encodingText
  unfold judgedEncName at hj
  cases hb : usesBuiltin T fd with
  | some ff =>
    simp only [hb] at hj ⊢
    apply builtin_text T hT ff code
    intro nm hnm
    simpa [hnm] using hj
  | none =>
    simp only [hb] at hj ⊢
    cases he : fd.enc with
    | absent | named n =>
      simp only [specEncoding]
      exact enc_text T hT _ [] code nofun
    | dict base diff =>
      simp only [specEncoding]
      apply enc_text T hT _ diff code
      intro nm hnm
      simpa [he, hnm] using hj

/-! ## ToUnicode: the space / no-break-space rule -/

/-- **Exact ToUnicode rule** (every map, no exclusion): the value the constructed map holds for a code is the
most recent definition of the code, except that a definition as U+00A0 does not replace U+0020. -/
theorem tounicode_exact (es : List TuEntry) (code : Int) :
    tlookup (buildUmap es) code = tuTextExact (tuDefs es) code :=
  tlookup_buildUmap_exact es code

/-- Without a space / no-break-space pair the exact rule is "the last definition wins". -/
theorem tounicode_exact_noclash (es : List TuEntry) (code : Int) (h : nbspClash (tuDefs es) = false) :
    tuTextExact (tuDefs es) code = tuText (tuDefs es) code :=
  tuTextExact_noclash code h

/-- "The last definition wins" is FALSE for pdfminer in general (documented deviation): `<41> <0020>` followed by
`<41> <00A0>` keeps the space. -/
theorem tounicode_last_wins_cex :
    tlookup (buildUmap [.bfchar [0x41] [0x00, 0x20], .bfchar [0x41] [0x00, 0xA0]]) 0x41 = some [0x20] ∧
    tuText (tuDefs [.bfchar [0x41] [0x00, 0x20], .bfchar [0x41] [0x00, 0xA0]]) 0x41 = some [0xA0] ∧
    nbspClash (tuDefs [.bfchar [0x41] [0x00, 0x20], .bfchar [0x41] [0x00, 0xA0]]) = true := by decide +kernel

/-- **Text precedence, Unicode level, for every ToUnicode map**: ToUnicode entry (exact rule), else the AGL value
of the glyph name the encoding (base + Differences, or the built-in encoding of the Type 1 program) gives the code,
else undefined.  Only the glyph name has to be judged. -/
theorem C06_unicode_precedence_exact (T : Tables) (hT : TablesOK T) (fd : FontDict) (code : Int)
    (hj : judgedCodeX T fd code = true) :
    toUnichr (modelFont T fd) code = specUnicodeX T fd code := by
  rw [toUnichr_modelFont]
  unfold specUnicodeX
  unfold judgedCodeX at hj
  cases htu : fd.toUnicode with
  | none => exact encoding_text T hT fd code (by simpa only [htu] using hj)
  | some es =>
    dsimp only
    cases ht : tuTextExact (tuDefs es) code with
    | some t => rfl
    | none => exact encoding_text T hT fd code (by simpa only [htu, ht] using hj)

/-- The judged domain that excludes maps with a space / no-break-space pair lies inside the one that does not, and
there the two specifications agree. -/
theorem judgedCode_exact (T : Tables) (fd : FontDict) (code : Int) (hj : judgedCode T fd code = true) :
    judgedCodeX T fd code = true ∧ specUnicodeX T fd code = specUnicode T fd code := by
  unfold judgedCode at hj
  unfold judgedCodeX specUnicodeX specUnicode
  cases htu : fd.toUnicode with
  | none => simp only [htu] at hj; exact ⟨hj, rfl⟩
  | some es =>
    simp only [htu] at hj
    cases hc : nbspClash (tuDefs es) with
    | true => simp [hc] at hj
    | false =>
      simp only [hc, Bool.false_eq_true, if_false] at hj
      simp only [tounicode_exact_noclash es code hc]
      exact ⟨hj, trivial⟩

/-- **Text precedence**, Unicode level, with "the last definition wins" as the ToUnicode rule (maps with a
space / no-break-space pair are not judged). -/
theorem C06_unicode_precedence (T : Tables) (hT : TablesOK T) (fd : FontDict) (code : Int)
    (hj : judgedCode T fd code = true) :
    toUnichr (modelFont T fd) code = specUnicode T fd code := by
  obtain ⟨hx, he⟩ := judgedCode_exact T fd code hj
  rw [← he]
  exact C06_unicode_precedence_exact T hT fd code hx

/-- **Text precedence**: the text of the glyph is the ToUnicode entry, else the AGL value of its glyph
name, else the placeholder `(cid:N)` - for every font dictionary of the modelled shape and every judged code
(`judgedCode`; `C06_text_precedence_all` is the statement without that hypothesis). -/
theorem C06_text_precedence (T : Tables) (hT : TablesOK T) (fd : FontDict) (code : Int)
    (hj : judgedCode T fd code = true) :
    glyphText (modelFont T fd) code = specText T fd code := by
  unfold glyphText specText
  simp only [C06_unicode_precedence T hT fd code hj]
  cases specUnicode T fd code <;> rfl

/-- `Widths[code - FirstChar]` is what the width dict of the constructed font holds under `code`. -/
theorem widths_index (T : Tables) (fd : FontDict) (code : Int) :
    wlookup (modelFont T fd).widthsInt code = widthsEntry fd code := by
  rw [congrArg Font.widthsInt (modelFont_eq T fd), wlookup_enumWidths]
  unfold widthsEntry
  cases hw : fd.widths with
  | none => simp
  | some ws =>
    simp only [Option.getD_some]
    by_cases h : fd.firstChar.getD 0 ≤ code <;> simp [h]

/-- The advance of EVERY code (no hypothesis) is the specified function of the code's Unicode value as the font
reports it: Widths entry, else standard-14 metric of that character, else MissingWidth; times the scale. -/
theorem width_of_unicode (T : Tables) (fd : FontDict) (code : Int) :
    glyphAdv (modelFont T fd) code = specWidthOf T fd code (toUnichr (modelFont T fd) code) := by
  unfold glyphAdv charWidth specWidthOf
  rw [widths_index, congrArg Font.hscale (modelFont_eq T fd), congrArg Font.defaultWidth (modelFont_eq T fd)]
  cases widthsEntry fd code with
  | some w => rfl
  | none =>
    rw [← build_strWidth]
    cases toUnichr (modelFont T fd) code with
    | none => rfl
    | some t => simp only [Option.bind_some]; cases strWidth (modelFont T fd) t <;> rfl

/-- **Width precedence**: the advance is the Widths/FirstChar entry, else the standard-14 metric of the
character, else MissingWidth; times 1/1000, or times the Type3 FontMatrix scale - for every judged code
(`C06_width_precedence_all` is the statement without that hypothesis). -/
theorem C06_width_precedence (T : Tables) (hT : TablesOK T) (fd : FontDict) (code : Int)
    (hj : judgedCode T fd code = true) :
    glyphAdv (modelFont T fd) code = specWidth T fd code := by
  rw [width_of_unicode, C06_unicode_precedence T hT fd code hj]
  rfl

/-- **Type3 scale**: the advance of a Type3 glyph is its Widths entry (else MissingWidth) times
`FontMatrix[0]` (and does not depend on the text of the code). -/
theorem type3_scale (T : Tables) (fd : FontDict) (code : Int) (h3 : fd.isType3 = true) :
    glyphAdv (modelFont T fd) code =
      (match widthsEntry fd code with
       | some w => w
       | none => missingWidth fd) * fd.fontMatrix.1 := by
  rw [width_of_unicode]
  simp only [specWidthOf, std14MetricOf, widthScale, h3, if_true]
  rfl

/-- Text and width precedence with the exact ToUnicode rule: the specifications `…X` read ToUnicode through
`tuTextExact`, and their judged domain `judgedCodeX` admits maps with a space / no-break-space pair. -/
theorem C06_text_precedence_exact (T : Tables) (hT : TablesOK T) (fd : FontDict) (code : Int)
    (hj : judgedCodeX T fd code = true) :
    glyphText (modelFont T fd) code = specTextX T fd code := by
  unfold glyphText specTextX
  simp only [C06_unicode_precedence_exact T hT fd code hj]
  cases specUnicodeX T fd code <;> rfl

theorem C06_width_precedence_exact (T : Tables) (hT : TablesOK T) (fd : FontDict) (code : Int)
    (hj : judgedCodeX T fd code = true) :
    glyphAdv (modelFont T fd) code = specWidthX T fd code := by
  rw [width_of_unicode, C06_unicode_precedence_exact T hT fd code hj]
  rfl

/-! ## Differences arrays written as runs -/

/-- **Differences numbering**: for a Differences array made of any number of runs `code name name …` the i-th name
of a run starting at `first` is assigned to code `first + i` (every i: the numbering neither stops nor wraps at 255,
negative first codes included), runs are processed in order and the LAST assignment to a code - in whichever run - wins;
codes no run reaches keep the base encoding. -/
theorem differences_runs (gl : GlyphList) (db : EncDB) (name : String) (runs : List (Int × List (Option Name)))
    (code : Int) :
    tlookup (getEncoding gl db name (diffOfRuns runs)) code =
      match lastAssigned (runs.flatMap (fun r => numberFrom r.1 r.2)) code with
      | some nm => name2unicode gl nm
      | none => tlookup (db.get name) code := by
  rw [enc_overlay, assignments_runs]

theorem run_numbering (first : Int) (names : List (Option Name)) (i : Nat) :
    (numberFrom first names)[i]? = (names[i]?).map (fun nm => (first + i, nm)) :=
  numberFrom_getElem names first i

-- non-vacuity: three runs, one past 255, one negative, one re-assigning a code of the first
example :
    let runs : List (Int × List (Option Name)) :=
      [(254, [some ['A'], some ['B'], some ['A'], some ['B']]), (-1, [some ['B']]), (255, [some ['A']])]
    let t := getEncoding [(['A'], [65]), (['B'], [66])] { tables := [], default := [(70, [70])] } "x" (diffOfRuns runs)
    tlookup t 254 = some [65] ∧ tlookup t 255 = some [65] ∧ tlookup t 257 = some [66] ∧ tlookup t (-1) = some [66] ∧
      tlookup t 0 = none ∧ tlookup t 70 = some [70] := by decide +kernel

/-! ## Widths bounds: inside / outside `FirstChar … FirstChar + len(Widths) - 1` -/

/-- Inside the range of the Widths array the advance is `Widths[code - FirstChar]` times the scale - whatever the
font's encoding, ToUnicode map, metrics or MissingWidth say (LastChar is not consulted). -/
theorem width_in_range (T : Tables) (fd : FontDict) (code : Int) (ws : List Rat) (hw : fd.widths = some ws)
    (h1 : fd.firstChar.getD 0 ≤ code) (h2 : code < fd.firstChar.getD 0 + ws.length) :
    ∃ w, ws[(code - fd.firstChar.getD 0).toNat]? = some w ∧
      glyphAdv (modelFont T fd) code = w * widthScale fd := by
  have hlt : (code - fd.firstChar.getD 0).toNat < ws.length := by omega
  refine ⟨ws[(code - fd.firstChar.getD 0).toNat], List.getElem?_eq_getElem hlt, ?_⟩
  rw [width_of_unicode]
  unfold specWidthOf widthsEntry
  simp [hw, h1, List.getElem?_eq_getElem hlt]

/-- Outside that range (or without Widths) the advance is the standard-14 metric of the code's character, else
MissingWidth (0 without a descriptor entry), times the scale. -/
theorem width_out_of_range (T : Tables) (fd : FontDict) (code : Int)
    (h : fd.widths = none ∨ ∃ ws, fd.widths = some ws ∧
      (code < fd.firstChar.getD 0 ∨ fd.firstChar.getD 0 + ws.length ≤ code)) :
    glyphAdv (modelFont T fd) code =
      (match std14MetricOf T fd (toUnichr (modelFont T fd) code) with
       | some w => w
       | none => missingWidth fd) * widthScale fd := by
  rw [width_of_unicode]
  unfold specWidthOf
  have he : widthsEntry fd code = none := by
    unfold widthsEntry
    rcases h with h | ⟨ws, hw, h⟩
    · simp [h]
    · simp only [hw]
      split
      · exact List.getElem?_eq_none (by omega)
      · rfl
  rw [he]
  rfl

/-! ## Type3 FontMatrix: which matrix the font gets -/

theorem type3_matrix_usable (a b c d e f : Rat) :
    type3Matrix (.list [some a, some b, some c, some d, some e, some f]) = (a, b, c, d, e, f) := by
  simp [type3Matrix, T3_MATRIX_LEN]

/-- Every other FontMatrix entry - absent, not an array, an array of another length, an array with an element that
is not a number - gives the usual glyph space of 1/1000 (constants regenerated from `PDFType3Font.__init__`). -/
theorem type3_matrix_default (ms : MatSpec) (h : matUsable ms = false) :
    type3Matrix ms = ((1 : Rat) / 1000, 0, 0, (1 : Rat) / 1000, 0, 0) := by
  cases ms with
  | absent | notList => simp [type3Matrix, T3_MATRIX_LEN, T3_DEFAULT_MATRIX]
  | list xs =>
    simp only [matUsable] at h
    have hc : (xs.length != T3_MATRIX_LEN || !(xs.all Option.isSome)) = true := by
      rw [T3_MATRIX_LEN, bne, ← Bool.not_and, h]
      rfl
    simp only [type3Matrix, hc, if_true, T3_DEFAULT_MATRIX]

theorem type3_scale_default (T : Tables) (fd : FontDict) (code : Int) (ms : MatSpec) (h3 : fd.isType3 = true)
    (hm : fd.fontMatrix = type3Matrix ms) (hbad : matUsable ms = false) :
    glyphAdv (modelFont T fd) code =
      (match widthsEntry fd code with
       | some w => w
       | none => missingWidth fd) * ((1 : Rat) / 1000) := by
  rw [type3_scale T fd code h3, hm, type3_matrix_default ms hbad]

example : matUsable (.list [some 1, some 0, some 0]) = false ∧ matUsable .absent = false ∧ matUsable .notList = false ∧
    matUsable (.list [some 1, some 0, some 0, none, some 0, some 0]) = false ∧
    matUsable (.list [some 2, some 0, some 0, some 2, some 0, some 0, some 0]) = false ∧
    matUsable (.list [some 2, some 0, some 0, some 2, some 0, some 0]) = true := by decide +kernel

/-! ## The regenerated tables of pdfminer -/

/-- The tables regenerated from glyphlist.py / latin_enc.py satisfy the table facts (kernel computation over
the 4 281 glyph-list entries and the 232 ENCODING rows, `Lemmas/SimpleFontInst.lean`). -/
theorem tables_ok : TablesOK Inst.tables :=
  ⟨Inst.glyphs_ok, Inst.rows_resolve, Inst.rows_judged⟩

/-- The font the driver (and the correspondence check) builds is `modelFont` on the regenerated tables. -/
theorem modelFont_pdfminer (fd : FontDict) :
    modelFont Inst.tables fd = build Inst.glyphs Inst.encDB Inst.metrics fd := rfl

theorem agl_grammar_pdfminer (nm : Option Name) (hj : judgedName Inst.glyphs nm = true) :
    name2unicode Inst.glyphs nm = aglText Inst.glyphs nm :=
  agl_grammar Inst.glyphs Inst.glyphs_ok nm hj

/-- Text precedence for pdfminer's own tables: no hypothesis about the tables is left. -/
theorem C06_text_precedence_pdfminer (fd : FontDict) (code : Int)
    (hj : judgedCode Inst.tables fd code = true) :
    glyphText (build Inst.glyphs Inst.encDB Inst.metrics fd) code = specText Inst.tables fd code :=
  C06_text_precedence Inst.tables tables_ok fd code hj

theorem C06_width_precedence_pdfminer (fd : FontDict) (code : Int)
    (hj : judgedCode Inst.tables fd code = true) :
    glyphAdv (build Inst.glyphs Inst.encDB Inst.metrics fd) code = specWidth Inst.tables fd code :=
  C06_width_precedence Inst.tables tables_ok fd code hj

/-! ## Every name, every font dictionary, every code: no judged domain -/

/-- **`name2unicode` on EVERY glyph name** is the Adobe Glyph List algorithm with exactly two deviations:
(D1) hexadecimal digits after `uni` / `u` may be lower case, (D2) a component without a value makes the whole
name undefined.  (`agl_grammar` is the restriction to names where neither deviation shows.) -/
theorem name2unicode_exact (gl : GlyphList) (hgl : GlyphListOK gl) (nm : Option Name) :
    name2unicode gl nm = pdfminerAgl gl nm :=
  name2unicode_eq_pdfminerAgl hgl nm

theorem pdfminerAgl_judged (gl : GlyphList) (hgl : GlyphListOK gl) (nm : Option Name)
    (hj : judgedName gl nm = true) : pdfminerAgl gl nm = aglText gl nm :=
  pdfminerAgl_eq_aglText gl nm hj

/-- The two deviations, on the exact algorithm (the lower-case rule and the unknown-component rule, stated). -/
theorem pdfminerAgl_deviations :
    pdfminerAgl [] (some ['u', 'n', 'i', '0', '0', 'e', '9']) = some [0xE9] ∧
    pdfminerAgl [] (some ['u', '1', 'f', '6', '0', '0']) = some [0x1F600] ∧
    pdfminerAgl [(['A'], [65])] (some ['A', '_', 'f', 'o', 'o']) = none ∧
    pdfminerAgl [(['A'], [65])] (some ['A', '_', '_', 'A']) = none ∧
    pdfminerAgl [(['A'], [65])] (some ['A', '_', 'u', 'n', 'i', '0', '0', '4', 'a', '.', 'x', '_', 'y']) = some [65, 0x4A] := by
  decide +kernel

theorem name2unicode_exact_pdfminer (nm : Option Name) :
    name2unicode Inst.glyphs nm = pdfminerAgl Inst.glyphs nm :=
  name2unicode_exact Inst.glyphs Inst.glyphs_ok nm

/-- The encoding of a font as Unicode values, for EVERY Differences array (no hypothesis on the names). -/
theorem enc_text_all (T : Tables) (hT : TablesOK T) (name : String) (diff : List DiffTok) (code : Int) :
    tlookup (getEncoding T.gl (dbOf T) name diff) code = encTextP T name diff code := by
  rw [tlookup_getEncoding_dbOf T hT.rowsResolve]
  simp only [encTextP, name2unicode_exact T.gl hT.glyphs]
  rfl

theorem encoding_text_all (T : Tables) (hT : TablesOK T) (fd : FontDict) (code : Int) :
    tlookup (modelFont T fd).cid2unicode code = encodingTextP T fd code := by
  rw [congrArg Font.cid2unicode (modelFont_eq T fd)]
  unfold encodingTextP
  cases hb : usesBuiltin T fd with
  | some ff =>
    simp only [tlookup_builtinEncoding]
    cases builtinName ff code with
    | some nm => exact name2unicode_exact T.gl hT.glyphs nm
    | none => rfl
  | none =>
    simp only
    cases he : fd.enc with
    | absent | named n | dict base diff => simp only [specEncoding]; exact enc_text_all T hT _ _ code

/-- **Text precedence, Unicode level - FULL statement**: for every font dictionary of the modelled shape and every
code, with no judged-domain hypothesis: ToUnicode value (exact rule) > value of the glyph name the encoding (base
+ Differences, or built-in) assigns (exact algorithm) > undefined.  The specifications `…P` value glyph names by
`pdfminerAgl` and read ToUnicode through `tuTextExact`. -/
theorem C06_unicode_precedence_all (T : Tables) (hT : TablesOK T) (fd : FontDict) (code : Int) :
    toUnichr (modelFont T fd) code = specUnicodeP T fd code := by
  rw [toUnichr_modelFont]
  simp only [specUnicodeP, encoding_text_all T hT]
  rfl

/-- **Text precedence - FULL statement** (every font dictionary, every code). -/
theorem C06_text_precedence_all (T : Tables) (hT : TablesOK T) (fd : FontDict) (code : Int) :
    glyphText (modelFont T fd) code = specTextP T fd code := by
  unfold glyphText specTextP
  simp only [C06_unicode_precedence_all T hT fd code]
  cases specUnicodeP T fd code <;> rfl

/-- **Width precedence - FULL statement** (every font dictionary, every code). -/
theorem C06_width_precedence_all (T : Tables) (hT : TablesOK T) (fd : FontDict) (code : Int) :
    glyphAdv (modelFont T fd) code = specWidthP T fd code := by
  rw [width_of_unicode, C06_unicode_precedence_all T hT fd code]
  rfl

/-- On the judged cells the full specification is the property's specification (AGL, ToUnicode exact rule). -/
theorem specP_judged (T : Tables) (hT : TablesOK T) (fd : FontDict) (code : Int)
    (hj : judgedCodeX T fd code = true) :
    specTextP T fd code = specTextX T fd code ∧ specWidthP T fd code = specWidthX T fd code := by
  rw [← C06_text_precedence_all T hT, ← C06_width_precedence_all T hT,
    C06_text_precedence_exact T hT fd code hj, C06_width_precedence_exact T hT fd code hj]
  exact ⟨rfl, rfl⟩

/-- The full statements for pdfminer's own tables: no hypothesis at all. -/
theorem C06_precedence_all_pdfminer (fd : FontDict) (code : Int) :
    glyphText (build Inst.glyphs Inst.encDB Inst.metrics fd) code = specTextP Inst.tables fd code ∧
    glyphAdv (build Inst.glyphs Inst.encDB Inst.metrics fd) code = specWidthP Inst.tables fd code :=
  ⟨C06_text_precedence_all Inst.tables tables_ok fd code, C06_width_precedence_all Inst.tables tables_ok fd code⟩

/-! ## Glue regenerated from the source: font class dispatch, constants -/

/-- `get_font` (regenerated if/elif chain): Type1, MMType1, TrueType and a missing or unknown Subtype are built
as `PDFType1Font` (`PDFTrueTypeFont` adds nothing - checked by the translator), Type3 as `PDFType3Font`;
Type0 and CIDFont dictionaries are composite fonts (C07). -/
theorem subtype_dispatch :
    simpleClass (some "Type1") = some false ∧ simpleClass (some "MMType1") = some false ∧
    simpleClass (some "TrueType") = some false ∧ simpleClass none = some false ∧
    simpleClass (some "NoSuchSubtype") = some false ∧ simpleClass (some "Type3") = some true ∧
    simpleClass (some "Type0") = none ∧ simpleClass (some "CIDFontType0") = none ∧
    simpleClass (some "CIDFontType2") = none := by decide +kernel

/-- The constants the model takes from the source are the ones of the specification: the placeholder is
`(cid:N)`, glyph space is 1/1000 of text space, the default encoding is StandardEncoding, the surrogate
range and the upper bound of `raise_key_error_for_invalid_unicode` are those of a Unicode scalar value. -/
theorem code_constants :
    (∀ c, placeholder c = specPlaceholder c) ∧ DEFAULT_SCALE = 1 / 1000 ∧ DEFAULT_ENCODING = "StandardEncoding" ∧
    (∀ v, validUnicode v = isScalar v) ∧ UNI_PREFIX = ['u', 'n', 'i'] ∧ U_PREFIX = ['u'] ∧ UNI_GROUP = 4 ∧
    U_MIN = 4 ∧ U_MAX = 6 ∧ SUFFIX_SEP = '.' ∧ COMPONENT_SEP = '_' :=
  ⟨fun _ => rfl, rfl, rfl, validUnicode_eq_isScalar, rfl, rfl, rfl, rfl, rfl, rfl, rfl⟩

/-! ## Embedded Type 1 programs as bytes -/

/-- The property for a font dictionary whose FontFile is given as the bytes of the stream: when the
clear-text header can be read (`judgedRaw`), construction succeeds and text and advance of every judged code
are the specified ones, where the built-in encoding is what the tokeniser (`Lexer.specLex`, proved equal
to the buffered tokeniser at every buffer size in C14) and `Type1FontHeaderParser`'s stack machine extract. -/
theorem C06_raw_precedence (T : Tables) (hT : TablesOK T) (raw : RawFontDict) (code : Int)
    (hj : judgedRaw T raw code = true) :
    ∃ f, buildRaw T.gl (dbOf T) T.fm raw = .ok f ∧
      specRaw T raw code = some (glyphText f code, glyphAdv f code) := by
  unfold judgedRaw at hj
  unfold buildRaw specRaw
  cases hr : resolveFontFile T.fm raw with
  | error e => simp [hr] at hj
  | ok fd =>
    simp only [hr] at hj
    exact ⟨_, rfl, congrArg some (Prod.ext (C06_text_precedence T hT fd code hj).symm
      (C06_width_precedence T hT fd code hj).symm)⟩

/-- **Full statement for font dictionaries given with the BYTES of the FontFile**: construction fails exactly when
reading the header raises (same exception); otherwise the font is built and text and advance of EVERY code are the
specified ones (exact glyph-name algorithm, exact ToUnicode rule) - no judged-domain hypothesis. -/
theorem C06_raw_precedence_all (T : Tables) (hT : TablesOK T) (raw : RawFontDict) :
    match resolveFontFile T.fm raw with
    | .ok fd => ∃ f, buildRaw T.gl (dbOf T) T.fm raw = .ok f ∧
        ∀ code, glyphText f code = specTextP T fd code ∧ glyphAdv f code = specWidthP T fd code
    | .error e => buildRaw T.gl (dbOf T) T.fm raw = .error e := by
  unfold buildRaw
  cases hr : resolveFontFile T.fm raw with
  | error e => rfl
  | ok fd =>
    exact ⟨_, rfl, fun code => ⟨C06_text_precedence_all T hT fd code, C06_width_precedence_all T hT fd code⟩⟩

/-- The header is read only for a non-Type3, non-standard-14 font without Encoding entry: otherwise the
FontFile bytes - however malformed - have no influence (and cannot make construction fail). -/
theorem header_ignored (T : Tables) (raw : RawFontDict) (h : headerToRead T.fm raw = none) :
    buildRaw T.gl (dbOf T) T.fm raw = .ok (build T.gl (dbOf T) T.fm (raw.withFontFile none)) := by
  simp [buildRaw, resolveFontFile, h]

deriving instance DecidableEq for Except

/-- A synthetic header (comment holding a `put`, `#5F` escape, CR LF, a `(put)` string, a real-number key, the
`.notdef` loop scanned as one `put` under key 1, a procedure) read by the tokeniser + stack machine, in the kernel. -/
def exampleHeader : Bytes := [37, 33, 80, 83, 45, 65, 100, 111, 98, 101, 70, 111, 110, 116, 45, 49, 46, 48, 58, 32, 83, 121, 110, 116, 104, 32, 48, 48, 49, 46, 48, 48, 49, 10, 49, 49, 32, 100, 105, 99, 116, 32, 98, 101, 103, 105, 110, 10, 47, 70, 111, 110, 116, 66, 66, 111, 120, 32, 123, 48, 32, 45, 50, 48, 48, 32, 49, 48, 48, 48, 32, 56, 48, 48, 125, 32, 114, 101, 97, 100, 111, 110, 108, 121, 32, 100, 101, 102, 10, 47, 69, 110, 99, 111, 100, 105, 110, 103, 32, 50, 53, 54, 32, 97, 114, 114, 97, 121, 10, 48, 32, 49, 32, 50, 53, 53, 32, 123, 49, 32, 105, 110, 100, 101, 120, 32, 101, 120, 99, 104, 32, 47, 46, 110, 111, 116, 100, 101, 102, 32, 112, 117, 116, 125, 32, 102, 111, 114, 10, 100, 117, 112, 32, 54, 53, 32, 47, 65, 32, 112, 117, 116, 32, 37, 32, 100, 117, 112, 32, 54, 54, 32, 47, 66, 32, 112, 117, 116, 10, 100, 117, 112, 32, 54, 54, 32, 47, 117, 110, 105, 50, 48, 65, 67, 32, 112, 117, 116, 13, 10, 100, 117, 112, 32, 54, 55, 32, 47, 102, 35, 53, 70, 105, 32, 112, 117, 116, 10, 100, 117, 112, 32, 54, 53, 32, 47, 103, 49, 50, 51, 32, 112, 117, 116, 10, 40, 112, 117, 116, 41, 32, 51, 46, 53, 32, 47, 88, 32, 112, 117, 116, 10, 114, 101, 97, 100, 111, 110, 108, 121, 32, 100, 101, 102, 10, 99, 117, 114, 114, 101, 110, 116, 100, 105, 99, 116, 32, 101, 110, 100, 10, 99, 117, 114, 114, 101, 110, 116, 102, 105, 108, 101, 32, 101, 101, 120, 101, 99, 10]

theorem exampleHeader_puts :
    t1Puts exampleHeader = .ok [(1, some ['.', 'n', 'o', 't', 'd', 'e', 'f']), (65, some ['A']), (66, some ['u', 'n', 'i', '2', '0', 'A', 'C']), (67, some ['f', '_', 'i']), (65, some ['g', '1', '2', '3'])] := by
  decide +kernel

/-- A `put` without two operands is ignored (it only empties the operand stack): no exception, no assignment. -/
theorem put_underflow_ignored :
    t1Puts [112, 117, 116, 32] = .ok [] ∧
    t1Puts [47, 65, 32, 112, 117, 116, 32, 54, 53, 32, 47, 66, 32, 112, 117, 116, 32] = .ok [(65, some ['B'])] := by
  decide +kernel

/-- An odd number of objects between `<<` and `>>` makes `get_encoding` (and font construction) raise. -/
theorem odd_dict_raises : t1Puts [60, 60, 32, 47, 65, 32, 62, 62, 32] = .error "PSSyntaxError" := by
  decide +kernel

/-! ## Round trip: every written header is read back exactly -/

open PdfVerif.Lexer PdfVerif.Roundtrip in
/-- **General round trip**.  For EVERY header written by `writeHeader` -
any leading white space / comments, then any sequence of `dup <key> /<name> put` lines (key with sign and
leading zeros, name bytes raw or `#xx`-escaped, any white space / comments between the tokens, nothing needed
between key and `/name`), inert keywords and stray integers - the tokeniser and `Type1FontHeaderParser`'s
stack machine return exactly the written pairs, in order, with the name bytes decoded as UTF-8, and no exception.
(`HeaderItem.ok`: the spelling is a spelling - digits are digits, at most 4300 of them (Python's
`int` limit), separators are white space / comments and are not empty after a keyword or name.) -/
theorem t1_roundtrip (pad : List SepItem) (hpad : sepOK pad) (items : List HeaderItem)
    (h : ∀ i ∈ items, i.ok) :
    t1Puts (writeHeader pad items) = .ok ((itemResults items).map (fun r => (r.1, utf8Chars r.2))) := by
  unfold t1Puts
  simp only [header_tokens pad hpad items h]
  obtain ⟨he, hr⟩ := feed_items items {} rfl h
  simp only [he, hr]
  rfl

open PdfVerif.Lexer PdfVerif.Roundtrip in
/-- The same for a header made of `put` lines only: `t1Puts (write puts) = puts`. -/
theorem t1_roundtrip_puts (pad : List SepItem) (hpad : sepOK pad) (puts : List PutSpelling)
    (h : ∀ p ∈ puts, p.ok) :
    t1Puts (writeHeader pad (puts.map HeaderItem.put)) =
      .ok (puts.map (fun p => (p.key, utf8Chars (nameValue p.name)))) := by
  rw [t1_roundtrip pad hpad _ (List.forall_mem_map.mpr h), itemResults_puts, List.map_map]
  rfl

section RoundtripExample
open PdfVerif.Lexer PdfVerif.Roundtrip

/-- `%!PS⏎11 dict 	dup 65/A put⏎dup	-07 %x⍽⏎/f#5Fi put ` -/
def rtPad : List SepItem := [.comment [33, 80, 83] 10]
def rtItems : List HeaderItem :=
  [.num [] [49, 49] [.ws 32], .word 100 [105, 99, 116] [.ws 32, .ws 9],
   .put { sign := [], digits := [54, 53], name := [.raw 65], g1 := [.ws 32], g2 := [], g3 := [.ws 32], g4 := [.ws 10] },
   .put { sign := [45], digits := [48, 55], name := [.raw 102, .esc 53 70, .raw 105], g1 := [.ws 9],
          g2 := [.ws 32, .comment [120] 13, .ws 10], g3 := [.ws 32], g4 := [.ws 32] }]

/-- Non-vacuity of `t1_roundtrip`: the hypotheses hold for a header that uses every freedom. -/
theorem rtItems_ok : sepOK rtPad ∧ ∀ i ∈ rtItems, i.ok := by
  simp only [rtPad, rtItems, sepOK, List.forall_mem_cons, List.not_mem_nil, false_imp_iff, implies_true, ne_eq,
    reduceCtorEq, not_false_eq_true, and_true, true_and, true_or, or_true, HeaderItem.ok, PutSpelling.ok, SepItem.ok,
    digitsOK, signOK, NameItem.ok]
  decide +kernel

example : writeHeader rtPad rtItems =
    [37, 33, 80, 83, 10, 49, 49, 32, 100, 105, 99, 116, 32, 9, 100, 117, 112, 32, 54, 53, 47, 65, 32, 112, 117, 116, 10,
     100, 117, 112, 9, 45, 48, 55, 32, 37, 120, 13, 10, 47, 102, 35, 53, 70, 105, 32, 112, 117, 116, 32] := by decide +kernel
example : t1Puts (writeHeader rtPad rtItems) = .ok [(65, some ['A']), (-7, some ['f', '_', 'i'])] := by
  rw [t1_roundtrip rtPad rtItems_ok.1 rtItems rtItems_ok.2]; decide

end RoundtripExample

/-! ## UTF-8 and the round trip over glyph NAMES -/

/-- **UTF-8 round trip**: decoding (`literal_name`: `str(bytes, "utf-8")`, strict) the encoding (`str.encode("utf-8")`)
of ANY character list gives the list back - one to four byte forms, the boundaries 7F/80, 7FF/800, FFFF/10000, 10FFFF,
and the surrogate gap (a `Char` is a Unicode scalar value). -/
theorem utf8_roundtrip (cs : List Char) : utf8Chars (utf8Encode cs) = some cs :=
  utf8Chars_encode cs

open PdfVerif.Lexer PdfVerif.Roundtrip in
/-- **Round trip over glyph names**: for every list of
`dup <key> /<name> put` lines given by key spelling and glyph NAME - any characters, written as UTF-8 with every
non-regular byte `#XX`-escaped - reading the written header gives exactly `(key, name)`, in order, no exception. -/
theorem t1_roundtrip_names (pad : List SepItem) (hpad : sepOK pad) (puts : List NamedPut)
    (h : ∀ p ∈ puts, p.ok) :
    t1Puts (writeHeader pad (puts.map (fun p => HeaderItem.put p.spelling))) =
      .ok (puts.map (fun p => (intValue p.sign p.digits, some p.name))) := by
  have := t1_roundtrip_puts pad hpad (puts.map NamedPut.spelling)
    (List.forall_mem_map.mpr fun p hp => p.spelling_ok (h p hp))
  simp only [List.map_map, Function.comp_def, NamedPut.spelling_value] at this
  exact this

section Utf8Example
open PdfVerif.Lexer PdfVerif.Roundtrip
-- the boundaries of the four forms and both sides of the surrogate gap
example : utf8Encode [Char.ofNat 0x7F, Char.ofNat 0x80, Char.ofNat 0x7FF, Char.ofNat 0x800, Char.ofNat 0xD7FF,
    Char.ofNat 0xE000, Char.ofNat 0xFFFF, Char.ofNat 0x10000, Char.ofNat 0x10FFFF] =
    [0x7F, 0xC2, 0x80, 0xDF, 0xBF, 0xE0, 0xA0, 0x80, 0xED, 0x9F, 0xBF, 0xEE, 0x80, 0x80, 0xEF, 0xBF, 0xBF,
     0xF0, 0x90, 0x80, 0x80, 0xF4, 0x8F, 0xBF, 0xBF] := by decide +kernel
example : utf8Chars [0xED, 0xA0, 0x80] = none ∧ utf8Chars [0xC0, 0x80] = none ∧ utf8Chars [0xF4, 0x90, 0x80, 0x80] = none := by
  decide +kernel
/-- `dup 8364 /€_é.alt put` -/
def npEx : NamedPut :=
  { sign := [], digits := [56, 51, 54, 52], name := [Char.ofNat 0x20AC, '_', Char.ofNat 0xE9, '.', 'a', 'l', 't'],
    g1 := [.ws 32], g2 := [], g3 := [.ws 32], g4 := [.ws 10] }
theorem npEx_ok : npEx.ok := by
  simp only [npEx, NamedPut.ok, sepOK, List.forall_mem_cons, List.not_mem_nil, false_imp_iff, implies_true, ne_eq,
    reduceCtorEq, not_false_eq_true, and_true, true_and, true_or, SepItem.ok, digitsOK, signOK]
  decide +kernel
example : renderName npEx.spelling.name =
    [35, 69, 50, 35, 56, 50, 35, 65, 67, 95, 35, 67, 51, 35, 65, 57, 46, 97, 108, 116] := by decide +kernel
example : t1Puts (writeHeader [] [HeaderItem.put npEx.spelling]) =
    .ok [(8364, some [Char.ofNat 0x20AC, '_', Char.ofNat 0xE9, '.', 'a', 'l', 't'])] := by
  have := t1_roundtrip_names [] (by intro i hi; cases hi) [npEx] (by simpa using npEx_ok)
  simpa [npEx, intValue, decimalNat] using this
end Utf8Example

/-! ## Font cache -/

/-- Every cached font is the one construction gives for that object's dictionary. -/
def CacheOK (mk : RawFontDict → Except String Font) (doc : Nat → RawFontDict) (m : RsrcMgr) : Prop :=
  ∀ e ∈ m.cache, mk (doc e.1) = .ok e.2

/-- **Cache key rule**: a font without object id (a dictionary written directly into the resource dictionary) is
never served from the cache and never stored in it. -/
theorem getFont_direct (mk : RawFontDict → Except String Font) (m : RsrcMgr) (spec : RawFontDict) :
    getFont mk m 0 spec = (mk spec, m) := by
  unfold getFont
  simp only [bne_self_eq_false, Bool.false_eq_true, if_false, Bool.false_and]
  cases mk spec <;> rfl

theorem getFont_transparent (mk : RawFontDict → Except String Font) (doc : Nat → RawFontDict) (m : RsrcMgr)
    (h : CacheOK mk doc m) (i : Nat) :
    (getFont mk m i (doc i)).1 = mk (doc i) ∧ CacheOK mk doc (getFont mk m i (doc i)).2 := by
  fun_cases getFont mk m i (doc i) with
  | case1 f hl =>
    -- a hit: the id is not 0 and the entry is in the cache
    split at hl
    · exact ⟨(h _ (cacheLookup_mem hl)).symm, h⟩
    · cases hl
  | case2 hl f hb =>
    refine ⟨hb.symm, ?_⟩
    split
    · intro e he
      rcases List.mem_cons.mp he with rfl | he
      · exact hb
      · exact h e he
    · exact h
  | case3 hl e hb => exact ⟨hb.symm, h⟩

/-- **Font construction and caching**: whatever the order and repetition of the pages' font requests and whether
caching is on or off, each request gets exactly the font that constructing it from its dictionary gives
(so text and advance of a glyph do not depend on what was shown before). -/
theorem font_cache_transparent (mk : RawFontDict → Except String Font) (doc : Nat → RawFontDict)
    (reqs : List Nat) : ∀ (m : RsrcMgr), CacheOK mk doc m →
    getFonts mk doc m reqs = reqs.map (fun i => mk (doc i)) := by
  induction reqs with
  | nil => intro m _; rfl
  | cons i rest ih =>
    intro m h
    obtain ⟨h1, h2⟩ := getFont_transparent mk doc m h i
    simp only [getFonts, List.map_cons, h1, ih _ h2]

/-- **Font resources of a page / form** (`PDFPageInterpreter.init_resources`): whatever mixture of referenced and
directly written font dictionaries a /Font resource dictionary lists, in whatever order, with the cache on or off
and whatever earlier pages left in the cache, EVERY entry gets the font constructed from ITS OWN dictionary. -/
theorem init_fonts_own_dictionary (mk : RawFontDict → Except String Font) (doc : Nat → RawFontDict)
    (entries : List (Option Nat × RawFontDict)) :
    ∀ (m : RsrcMgr), CacheOK mk doc m → (∀ e ∈ entries, ∀ i, e.1 = some i → i ≠ 0 → e.2 = doc i) →
      (initFonts mk m entries).1 = entries.map (fun e => mk e.2) ∧ CacheOK mk doc (initFonts mk m entries).2 := by
  induction entries with
  | nil => intro m h _; exact ⟨rfl, h⟩
  | cons e rest ih =>
    intro m h hd
    obtain ⟨ref, spec⟩ := e
    have hrest : ∀ e ∈ rest, ∀ i, e.1 = some i → i ≠ 0 → e.2 = doc i :=
      fun e he => hd e (List.mem_cons_of_mem _ he)
    simp only [initFonts, List.map_cons]
    by_cases h0 : ref.getD 0 = 0
    · rw [h0, getFont_direct]
      obtain ⟨a, b⟩ := ih m h hrest
      exact ⟨by rw [a], b⟩
    · have hs : spec = doc (ref.getD 0) := by
        cases ref with
        | none => exact absurd rfl h0
        | some i => exact hd (some i, spec) (List.mem_cons_self) i rfl (by simpa using h0)
      rw [hs]
      obtain ⟨h1, h2⟩ := getFont_transparent mk doc m h (ref.getD 0)
      obtain ⟨a, b⟩ := ih _ h2 hrest
      exact ⟨by rw [h1, a], b⟩

/-- Non-vacuity: a referenced font followed by a directly written one - the second
entry is constructed from its own dictionary although the first is in the cache. -/
example (mk : RawFontDict → Except String Font) (doc : Nat → RawFontDict) (inl : RawFontDict) :
    (initFonts mk { caching := true, cache := [] } [(some 4, doc 4), (none, inl)]).1 = [mk (doc 4), mk inl] := by
  simpa using (init_fonts_own_dictionary mk doc [(some 4, doc 4), (none, inl)] { caching := true, cache := [] }
    (by intro e he; cases he) (by simp)).1

/-- Non-vacuity: a fresh resource manager satisfies the invariant. -/
example (mk : RawFontDict → Except String Font) (doc : Nat → RawFontDict) (c : Bool) :
    CacheOK mk doc { caching := c, cache := [] } := by intro e he; cases he

/-! ## The excluded region is really excluded: pdfminer's deliberate deviations from AGL -/

/-- The unrestricted statement: `name2unicode` is the AGL algorithm on EVERY name. -/
def agl_all_names_statement : Prop :=
  ∀ (gl : GlyphList), GlyphListOK gl → ∀ nm : Option Name, name2unicode gl nm = aglText gl nm

/-- Lower-case hexadecimal digits are accepted (pinned by pdfminer's unit tests), AGL rejects them. -/
theorem agl_lowercase_cex :
    name2unicode [] (some ['u', 'n', 'i', '0', '0', 'e', '9']) = some [0xE9] ∧
    aglText [] (some ['u', 'n', 'i', '0', '0', 'e', '9']) = none := by decide +kernel

/-- One unknown component makes the whole name unknown; AGL maps it to the empty string and keeps the rest. -/
theorem agl_partial_components_cex :
    name2unicode [(['A'], [65])] (some ['A', '_', 'f', 'o', 'o']) = none ∧
    aglText [(['A'], [65])] (some ['A', '_', 'f', 'o', 'o']) = some [65] := by decide +kernel

theorem agl_all_names_statement_false : ¬ agl_all_names_statement := by
  intro h
  have h1 := h [] (by intro e he; cases he) (some ['u', 'n', 'i', '0', '0', 'e', '9'])
  rw [agl_lowercase_cex.1, agl_lowercase_cex.2] at h1
  cases h1

/-! ## Non-vacuity: small concrete tables and fonts that meet the hypotheses -/

def gl0 : GlyphList := [(['A'], [65]), (['B'], [66]), (['s', 'p', 'a', 'c', 'e'], [32]), (['f', 'i'], [0xFB01])]

def T0 : Tables :=
  { gl := gl0,
    rows := [(['A'], some 65, some 65, some 65, some 65), (['B'], some 66, none, some 66, some 66),
             (['s', 'p', 'a', 'c', 'e'], some 32, some 32, some 32, some 32)],
    cols := [("StandardEncoding", 1), ("WinAnsiEncoding", 3)], dflt := 1,
    fm := [("Helvetica", [(65, 667), (32, 278)])] }

theorem example_tables_ok : TablesOK T0 :=
  ⟨by unfold GlyphListOK; decide +kernel, by unfold RowsResolve; decide +kernel, by decide +kernel⟩

/-- Helvetica, WinAnsi base, Differences [65 /fi /g123 66 /uni00410042], ToUnicode <20> -> U+0058, Widths from 66. -/
def fd0 : FontDict :=
  { isType3 := false, baseFont := some "Helvetica",
    enc := .dict (some "WinAnsiEncoding")
      [.num 65, .name (some ['f', 'i']), .name (some ['g', '1', '2', '3']), .num 66,
       .name (some ['u', 'n', 'i', '0', '0', '4', '1', '0', '0', '4', '2'])],
    toUnicode := some [.bfchar [0x20] [0x00, 0x58]],
    firstChar := some 66, widths := some [500, 600],
    desc := some { missingWidth := some 250, fontFile := none },
    fontMatrix := (1, 0, 0, 1, 0, 0) }

-- names of every class of the grammar are in the judged domain
example : judgedName gl0 (some ['A']) = true := by decide +kernel
example : judgedName gl0 (some ['u', 'n', 'i', '2', '0', 'A', 'C', '0', '3', '0', '8']) = true := by decide +kernel
example : judgedName gl0 (some ['u', '1', '0', '4', '0', 'C']) = true := by decide +kernel
example : judgedName gl0 (some ['A', '_', 'u', 'n', 'i', '0', '0', '4', '2', '.', 's', 'c']) = true := by decide +kernel
example : aglText gl0 (some ['A', '_', 'u', 'n', 'i', '0', '0', '4', '2', '.', 's', 'c']) = some [65, 66] := by decide +kernel
example : aglText gl0 (some ['u', 'n', 'i', 'D', '8', '0', '0']) = none := by decide +kernel
example : aglText gl0 (some ['u', '1', '1', '0', '0', '0', '0']) = none := by decide +kernel

-- names of the grammar are well formed (hypothesis of `agl_grammar_wellformed`), ill-formed ones are not
example : wellFormedName gl0 ['A', '_', 'u', 'n', 'i', '0', '0', '4', '2', '.', 's', 'c'] = true := by decide +kernel
example : wellFormedName gl0 ['u', '1', '0', '4', '0', 'C'] = true := by decide +kernel
example : wellFormedName gl0 ['u', 'n', 'i'] = false := by decide +kernel
example : wellFormedName gl0 ['u', 'n', 'i', 'D', '8', '0', '0'] = false := by decide +kernel
example : wellFormedName gl0 ['A', '_', 'f', 'o', 'o'] = false := by decide +kernel

-- every code of the example font is judged; the specification is not constant on it
example : ∀ c ∈ [(32 : Int), 65, 66, 67], judgedCode T0 fd0 c = true := by decide +kernel
example : specText T0 fd0 32 = [0x58] := by decide +kernel                      -- ToUnicode wins over the encoding
example : specText T0 fd0 65 = [0xFB01] := by decide +kernel                    -- Differences name through the glyph list
example : specText T0 fd0 66 = [65, 66] := by decide +kernel                    -- last Differences assignment (uni0041 0042) wins over g123
example : specText T0 fd0 67 = specPlaceholder 67 := by decide +kernel              -- no name for the code: (cid:67)
example : specWidth T0 fd0 66 = 500 / 1000 := by decide +kernel         -- Widths[66 - FirstChar]
example : specWidth T0 fd0 32 = 250 / 1000 := by decide +kernel         -- text is "X": no metric -> MissingWidth
example : glyphText (modelFont T0 fd0) 66 = [65, 66] := by
  rw [C06_text_precedence T0 example_tables_ok fd0 66 (by decide +kernel)]; decide +kernel

-- the exact ToUnicode rule on a font whose map has the space / no-break-space pair (outside the domain of `judgedCode`)
def fdNb : FontDict :=
  { fd0 with toUnicode := some [.bfchar [0x41] [0x00, 0x20], .bfchar [0x41] [0x00, 0xA0],
                                 .bfchar [0x42] [0x00, 0xA0], .bfchar [0x42] [0x00, 0x20], .bfchar [0x42] [0x00, 0xA0],
                                 .bfchar [0x43] [0x00, 0x20], .bfchar [0x43] [0x00, 0x58], .bfchar [0x43] [0x00, 0xA0]] }
example : judgedCode T0 fdNb 0x41 = false := by decide +kernel
example : ∀ c ∈ [(0x41 : Int), 0x42, 0x43, 0x20], judgedCodeX T0 fdNb c = true := by decide +kernel
example : specTextX T0 fdNb 0x41 = [0x20] := by decide +kernel      -- space, then no-break space: the space stays
example : specTextX T0 fdNb 0x42 = [0x20] := by decide +kernel      -- nbsp, space, nbsp: space
example : specTextX T0 fdNb 0x43 = [0xA0] := by decide +kernel      -- space, X, nbsp: nbsp (X was in effect)
example : specWidthX T0 fdNb 0x41 = 278 / 1000 := by decide +kernel -- Helvetica's metric of the space
example : glyphText (modelFont T0 fdNb) 0x41 = [0x20] := by
  rw [C06_text_precedence_exact T0 example_tables_ok fdNb 0x41 (by decide +kernel)]; decide +kernel

-- the full statements on a font whose Differences use a lower-case uni name and a partially unknown name
def fdLo : FontDict :=
  { fd0 with toUnicode := none,
             enc := .dict (some "WinAnsiEncoding")
               [.num 65, .name (some ['u', 'n', 'i', '0', '0', 'e', '9']), .name (some ['A', '_', 'f', 'o', 'o'])] }
example : judgedCodeX T0 fdLo 65 = false ∧ judgedCodeX T0 fdLo 66 = false := by decide +kernel
example : specTextP T0 fdLo 65 = [0xE9] := by decide +kernel                 -- (D1) lower-case digits accepted
example : specTextP T0 fdLo 66 = specPlaceholder 66 := by decide +kernel     -- (D2) unknown component: undefined
example : glyphText (modelFont T0 fdLo) 65 = [0xE9] := by
  rw [C06_text_precedence_all T0 example_tables_ok fdLo 65]; decide +kernel

-- non-vacuity on `fd0` (FirstChar 66, two widths): 66 and 67 inside, 65 and 68 outside
example : ∃ w, ([500, 600] : List Rat)[((67 : Int) - fd0.firstChar.getD 0).toNat]? = some w ∧
    glyphAdv (modelFont T0 fd0) 67 = w * widthScale fd0 :=
  width_in_range T0 fd0 67 [500, 600] rfl (by decide) (by decide)
example : glyphAdv (modelFont T0 fd0) 67 = 600 / 1000 := by decide +kernel
example : glyphAdv (modelFont T0 fd0) 68 = 250 / 1000 := by decide +kernel     -- MissingWidth
example : glyphAdv (modelFont T0 fd0) 65 = 250 / 1000 := by decide +kernel     -- below FirstChar

-- `C06_raw_precedence_all`: both branches occur (a readable header; an odd `<< >>` that makes construction raise)
def raw0 (bytes : Bytes) : RawFontDict :=
  { isType3 := false, baseFont := some "Foo", enc := .absent, toUnicode := none, firstChar := none, widths := none,
    desc := some { missingWidth := some 250, fontFile := some { data := bytes, length1 := none } },
    fontMatrix := (1, 0, 0, 1, 0, 0) }
example : (match resolveFontFile T0.fm (raw0 exampleHeader) with | .ok _ => true | .error _ => false) = true := by
  -- stated through `exampleHeader_puts`: matching on `resolveFontFile …` directly makes the kernel read the header again
  rw [resolveFontFile_read (rf := ⟨exampleHeader, none⟩) rfl exampleHeader_puts]
example : (match buildRaw T0.gl (dbOf T0) T0.fm (raw0 [60, 60, 32, 47, 65, 32, 62, 62, 32]) with
    | .ok _ => false | .error e => e == "PSSyntaxError") = true := by decide +kernel

-- the instances for pdfminer's own tables are not vacuous either (the first glyph-list entry keeps the kernel
-- lookup short; names deeper in the 4 281-entry list cost minutes of String -> List Char conversion)
example : judgedName Inst.glyphs (some ['A']) = true := by decide +kernel
example : aglText Inst.glyphs (some ['A']) = some [65] := by decide +kernel

end PdfVerif.Props.C06
