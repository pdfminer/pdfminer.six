/-
C17 — Page labels, outlines and named destinations follow their tree definitions.

Models: `PdfVerif.Labels` (decode_text, format_int_roman/alpha, NumberTree, PageLabels),
`PdfVerif.Outline` (get_outlines.search on First/Next unfolded into a term), `PdfVerif.OutlineGraph` (the same
walk over references with its visited set), `PdfVerif.NameTree` (lookup_name, get_dest); the tables
ROMAN_ONES, ROMAN_FIVES, PDFDocEncoding (`Gen.LabelTables`) and the bodies of format_int_roman/alpha,
format_page_label and the label loop (`Gen.LabelCode`, run by `PdfVerif.LabelsGen`) are regenerated from pdfminer
on every run.
Specifications: `PdfVerif.Spec.Labels`, `PdfVerif.Spec.LabelsExtra`, `PdfVerif.Spec.Outline`,
`PdfVerif.Spec.OutlineStore`, `PdfVerif.Spec.NameTree`.
The models are tied to pdfminer by tools/harness/props/c17.py on generated catalogs.
-/
import PdfVerif.Lemmas.Labels
import PdfVerif.Lemmas.LabelRanges
import PdfVerif.Lemmas.LabelsExtra
import PdfVerif.Lemmas.LabelsGen
import PdfVerif.Lemmas.Roman
import PdfVerif.Lemmas.Outline
import PdfVerif.Lemmas.OutlineGraph
import PdfVerif.Lemmas.OutlineStore
import PdfVerif.Lemmas.NameTree
import PdfVerif.Lemmas.NameTreeAny

namespace PdfVerif.Props.C17
open PdfVerif PdfVerif.Labels PdfVerif.Gen.LabelTables
open PdfVerif.Lemmas.Labels PdfVerif.Lemmas.LabelsFinite PdfVerif.Lemmas.LabelsExtra
open PdfVerif.Spec.LabelsExtra

/-! ## Text strings (ISO 32000-1 7.9.2.2, Annex D.2) -/

/-- The translated `PDFDocEncoding` has an entry for every byte (`PDFDocEncoding[c]` cannot raise). -/
theorem pdfdoc_table_total : PDFDocEncoding.length = 256 := pdfDoc_length

/-- Every code that ISO 32000-1 Table D.2 defines is mapped to the code point the table gives
(the three undefined codes 0x7F, 0x9F, 0xAD are outside the statement). -/
theorem pdfdoc_table_spec (c : UInt8) (u : Nat) (h : Spec.Labels.pdfDoc c.toNat = some u) :
    docChar c = u := docChar_spec c u h

/-- `decode_text`: a string with a byte-order mark is decoded as UTF-16BE (surrogate pairs
combined), any other string through PDFDocEncoding — on every string in the domain of the
specification (well-formed UTF-16, defined codes). -/
theorem decode_text_spec (s : Bytes) (t : Text) (h : Spec.Labels.text s = some t) : decodeText s = t :=
  decodeText_of_spec s t h

/-- Non-vacuity: a UTF-16BE string with a surrogate pair and a PDFDocEncoding string with codes
from the 0x18–0x1F and 0x80–0xA0 blocks are in the domain. -/
example : Spec.Labels.text [0xFE, 0xFF, 0xD8, 0x3D, 0xDE, 0x00, 0x00, 0x41] = some [0x1F600, 0x41] := by
  decide +kernel
example : Spec.Labels.text [0x18, 0x80, 0xA0, 0x41] = some [0x2D8, 0x2022, 0x20AC, 0x41] := by decide +kernel
example : decodeText [0xFE, 0xFF, 0xD8, 0x3D, 0xDE, 0x00, 0x00, 0x41] = [0x1F600, 0x41] := by decide +kernel

/-- Round trip against the encoder: every list of Unicode scalar values, written as a UTF-16BE
text string (byte-order mark, big-endian units, surrogate pairs above U+FFFF), is decoded back
to exactly that list. -/
theorem utf16_roundtrip (cs : List Nat) (h : ∀ c ∈ cs, isScalar c = true) :
    decodeText (encodeUtf16BE cs) = cs := by
  have hu : ∀ u ∈ cs.flatMap unitsOfScalar, u < 65536 := by
    intro u hu
    obtain ⟨c, hc, huc⟩ := List.mem_flatMap.mp hu
    have := h c hc
    simp only [isScalar, Bool.and_eq_true, decide_eq_true_eq] at this
    unfold unitsOfScalar at huc
    split at huc <;> simp at huc <;> omega
  unfold decodeText encodeUtf16BE
  simp only [List.cons_append, List.nil_append, hasBOM, List.drop]
  simp [decodeUnits, units_unitBytes _ hu, decodeAux_scalars cs h]

/-- Non-vacuity: BMP and astral scalars are in the domain of the round trip. -/
example : encodeUtf16BE [0x41, 0x4E2D, 0x1F600, 0x10FFFF] =
    [0xFE, 0xFF, 0x00, 0x41, 0x4E, 0x2D, 0xD8, 0x3D, 0xDE, 0x00, 0xDB, 0xFF, 0xDF, 0xFF] := by decide +kernel

/-! ## Numerals (ISO 32000-1 Table 159) -/

/-- `format_int_roman` is the subtractive-notation numeral for EVERY `0 < n < ROMAN_MAX` (the bound
translated from utils.py; one million): the three low digits place by place against the regenerated
ROMAN_* tables, the thousands (any number of them: 4000 ↦ `mmmm`) as repeated `m`. -/
theorem roman_correct_all (n : Nat) (h0 : 0 < n) (h1 : (n : Int) < ROMAN_MAX) :
    formatIntRoman (n : Int) = .ok (Spec.Labels.romanAux Spec.Labels.romanTable n) :=
  PdfVerif.Lemmas.Roman.formatIntRoman_all n h0 h1

/-- The bound the code asserts is the bound of the specification's domain. -/
theorem roman_max_spec : ROMAN_MAX = (Spec.Labels.romanMax : Int) := by decide

theorem roman_correct (n : Nat) (h0 : 0 < n) (h1 : n < 4000) :
    formatIntRoman (n : Int) = .ok (Spec.Labels.romanAux Spec.Labels.romanTable n) :=
  roman_correct_all n h0 (by rw [roman_max_spec]; unfold Spec.Labels.romanMax; omega)

/-- Sanity of the specification itself: reading the numeral back gives `n`. -/
theorem roman_value (n : Nat) (h1 : n < 4000) :
    Spec.Labels.romanValue (Spec.Labels.romanAux Spec.Labels.romanTable n) = (n : Int) :=
  PdfVerif.Lemmas.Roman.romanValue_all n

/-- The same for EVERY `n` (any number of leading `m`, which are never subtracted). -/
theorem roman_value_all (n : Nat) :
    Spec.Labels.romanValue (Spec.Labels.romanAux Spec.Labels.romanTable n) = (n : Int) :=
  PdfVerif.Lemmas.Roman.romanValue_all n

/-- Outside `0 < value < ROMAN_MAX` the code raises `AssertionError` (modelled, not totalised away):
that is ALL it does there — no numeral of unbounded length is ever built. -/
theorem roman_outside (v : Int) (h : v ≤ 0 ∨ ROMAN_MAX ≤ v) : formatIntRoman v = .error .assertion := by
  unfold formatIntRoman
  have : ¬ (0 < v ∧ v < ROMAN_MAX) := by omega
  simp [this]

/-- Inside the asserted range `n` has fewer than 1000 thousands (`romanAux` writes one `m` for each; the length
of the numeral itself is not stated here). -/
theorem roman_length_bound (n : Nat) (h1 : (n : Int) < ROMAN_MAX) :
    n / 1000 < 1000 := by
  have : ROMAN_MAX = 1000000 := rfl
  omega

/-- FULL STATEMENT for styles A/a: the letters numeral of every positive value is the one of
Table 159 (one letter, repeated).  False on the pinned code: `alpha_cex`. -/
def alpha_statement : Prop :=
  ∀ n : Nat, 0 < n → (formatIntAlpha (n : Int)).toOption = Spec.Labels.alpha n

/-- Proved counter-example (open finding `alpha-repeat`): 28 is formatted `ab`, Table 159 says `bb`. -/
theorem alpha_cex : ¬ alpha_statement := by
  intro h
  have := h 28 (by decide)
  revert this
  decide +kernel

theorem alpha_cex_values :
    formatIntAlpha 28 = .ok [97, 98] ∧ Spec.Labels.alpha 28 = some [98, 98] :=
  ⟨rfl, by decide +kernel⟩

/-- Partial version: correct for the first 26 values. -/
theorem alpha_partial (n : Nat) (h0 : 0 < n) (h1 : n ≤ 26) :
    (formatIntAlpha (n : Int)).toOption = Spec.Labels.alpha n := by
  obtain ⟨m, rfl⟩ := Nat.exists_eq_add_one_of_ne_zero (Nat.pos_iff_ne_zero.mp h0)
  have hm : m < 26 := h1
  rw [formatIntAlpha_le_26 m hm, alpha_le_26 m hm]
  rfl

/-- What the code computes for styles A/a, for EVERY positive value: the numeral whose reading in
bijective base 26 (a = 1 … z = 26, spreadsheet columns) is the value — a bijection, but not the
repeated letter of Table 159. -/
theorem alpha_bijective (n : Nat) (h : 0 < n) :
    ∃ t, formatIntAlpha (n : Int) = .ok t ∧ alphaValue t = n :=
  ⟨_, formatIntAlpha_nat n h, Int.ofNat_inj.mp (alphaLoop_isBijNumeral n).2⟩

/-! ### The translated numeral code (`Gen/LabelCode.lean`, regenerated from utils.py on every run)

`format_int_roman` / `format_int_alpha` assembled from the TRANSLATED assert, `while` test, loop
body and tail (only the `while` construct itself is hand-written glue) are the hand models for
every integer — so each theorem above is a theorem about the translated straight-line code, and an
edit of a loop body in utils.py breaks these proofs. -/

open PdfVerif.LabelsGen PdfVerif.Gen.LabelCode in
/-- ONE pass through the translated body of the `while` loop of `format_int_roman`, in ANY state
(any value, any index — including `ROMAN_ONES[index]` out of range — any partial result), is the
hand model's step; IndexError is IndexError. -/
theorem roman_body_translated (n i : Nat) (r : List Text) :
    liftErr (format_int_roman_body (n : Int) (i : Int) r) =
      (romanStep i (n % 10) r).map (fun r' => (((n / 10 : Nat) : Int), (i : Int) + 1, r')) :=
  PdfVerif.Lemmas.LabelsGen.roman_body_eq n i r

open PdfVerif.LabelsGen in
/-- The translated `format_int_roman` is the hand model for EVERY integer (assertion included). -/
theorem roman_translated (v : Int) : genFormatIntRoman v = formatIntRoman v :=
  PdfVerif.Lemmas.LabelsGen.genFormatIntRoman_eq v

open PdfVerif.LabelsGen in
/-- Hence the translated code writes the subtractive-notation numeral for EVERY `0 < n < ROMAN_MAX`,
never exhausts its pass budget, and raises AssertionError everywhere else. -/
theorem roman_translated_correct (n : Nat) (h0 : 0 < n) (h1 : (n : Int) < ROMAN_MAX) :
    genFormatIntRoman (n : Int) = .ok (Spec.Labels.romanAux Spec.Labels.romanTable n) := by
  rw [roman_translated]; exact roman_correct_all n h0 h1

open PdfVerif.LabelsGen in
theorem roman_translated_outside (v : Int) (h : v ≤ 0 ∨ ROMAN_MAX ≤ v) :
    genFormatIntRoman v = .error .assertion := by
  rw [roman_translated]; exact roman_outside v h

open PdfVerif.LabelsGen PdfVerif.Gen.LabelCode in
/-- ONE pass through the translated body of the `while` loop of `format_int_alpha`
(`divmod(value - 1, len(string.ascii_lowercase))`, `string.ascii_lowercase[remainder]`), for every
positive value and partial result: never an IndexError. -/
theorem alpha_body_translated (n : Nat) (h : 0 < n) (r : List Text) :
    liftErr (format_int_alpha_body (n : Int) r) =
      .ok ((((n - 1) / 26 : Nat) : Int), r ++ [[97 + (n - 1) % 26]]) :=
  PdfVerif.Lemmas.LabelsGen.alpha_body_eq n h r

open PdfVerif.LabelsGen in
/-- The translated `format_int_alpha` is the hand model for EVERY integer (assertion included). -/
theorem alpha_translated (v : Int) : genFormatIntAlpha v = formatIntAlpha v :=
  PdfVerif.Lemmas.LabelsGen.genFormatIntAlpha_eq v

open PdfVerif.LabelsGen in
/-- Hence, for EVERY positive value, the translated code returns the numeral whose reading in
bijective base 26 is the value (and for 28 it returns `ab`, not Table 159's `bb`). -/
theorem alpha_translated_bijective (n : Nat) (h : 0 < n) :
    ∃ t, genFormatIntAlpha (n : Int) = .ok t ∧ alphaValue t = n := by
  rw [alpha_translated]; exact alpha_bijective n h

open PdfVerif.LabelsGen in
theorem alpha_translated_cex : genFormatIntAlpha 28 = .ok [97, 98] := by
  rw [alpha_translated]; exact alpha_cex_values.1

open PdfVerif.LabelsGen in
/-- `PageLabels._format_page_label` as the TRANSLATED if/elif chain (`style is LIT("D")` → `str(value)`,
`R` → `format_int_roman(value).upper()`, … in source order, the `None` and `else` labels) over the
translated numeral functions = the hand model, for every value and every style (unknown ones too). -/
theorem format_page_label_translated (v : Int) (style : Option Bytes) :
    genFormatPageLabel v style = formatPageLabel v style :=
  PdfVerif.Lemmas.LabelsGen.genFormatPageLabel_eq v style

open PdfVerif.LabelsGen in
/-- A range of `PageLabels.labels` that is followed by another one, from the TRANSLATED
`label_dict.get("St", 1)`, `label_dict.get("P", b"")`, `range_length = end - start`,
`values = range(first_value, first_value + range_length)`: what the hand model's generator yields for
it (cut after `n` labels), then the generator goes on with the next range. -/
theorem labels_range_translated (s e : Int) (d d' : LabelDict) (rest : List (Int × LabelDict)) (n : Nat) :
    labelsFrom s d ((e, d') :: rest) n =
      (genRangeLabels d s e).take n ++ labelsFrom e d' rest (n - min (e - s).toNat n) := by
  rw [PdfVerif.Lemmas.LabelsGen.genRangeLabels_eq]
  simp only [labelsFrom, rangeLabels, ← List.map_take, List.take_range]
  rw [Nat.min_comm]

/-- Non-vacuity: the translated code evaluated by the kernel — numerals with every kind of digit
(9, 4, ≥ 5, < 5), the assertion, the loop body with an index past the table (IndexError), letters. -/
example : (PdfVerif.LabelsGen.genFormatIntRoman 3949).toOption = some [109, 109, 109, 99, 109, 120, 108, 105, 120] := by
  decide +kernel
example : (PdfVerif.LabelsGen.genFormatIntRoman 1678).toOption = some [109, 100, 99, 108, 120, 120, 118, 105, 105, 105] := by
  decide +kernel
example : (PdfVerif.LabelsGen.genFormatIntRoman 4000).toOption = some [109, 109, 109, 109] := by decide +kernel
example : (formatIntRoman 14999).toOption = some ((List.replicate 14 109) ++ [99, 109, 120, 99, 105, 120]) := by
  decide +kernel
example : (PdfVerif.LabelsGen.genFormatIntRoman 0).toOption = none := by decide +kernel
example : (PdfVerif.LabelsGen.genFormatIntRoman 1000000).toOption = none
    ∧ ((PdfVerif.LabelsGen.genFormatIntRoman 999999).toOption.map List.length) = some 1005
    ∧ (formatIntRoman 1000000000000).toOption = none := by decide +kernel
example : (PdfVerif.LabelsGen.liftErr (PdfVerif.Gen.LabelCode.format_int_roman_body 9 3 [])).toOption = none := by
  decide +kernel
example : (PdfVerif.LabelsGen.liftErr (PdfVerif.Gen.LabelCode.format_int_roman_body 47 1 [[105]])).toOption
    = some (4, 2, [[108], [120, 120], [105]]) := by decide +kernel
example : (PdfVerif.LabelsGen.genFormatIntAlpha 703).toOption = some [97, 97, 97] := by decide +kernel
example : (PdfVerif.LabelsGen.genFormatIntAlpha 0).toOption = none := by decide +kernel
example : (PdfVerif.LabelsGen.genFormatPageLabel 1949 (some styleR)).toOption = some [77, 67, 77, 88, 76, 73, 88] := by
  decide +kernel
example : (PdfVerif.LabelsGen.genFormatPageLabel 5 (some [120])).toOption = some [] := by decide +kernel
example : (PdfVerif.LabelsGen.genRangeLabels { style := some styleD, pfx := some [65, 45] } 3 5).map Except.toOption
    = [some [65, 45, 49], some [65, 45, 50]] := by decide +kernel

/-- The loop bound of the letters model is never the reason it stops: any fuel `≥ value` gives
the same result (the code's `while value != 0` terminates since `(value − 1) / 26 < value`). -/
theorem alpha_fuel_suffices : ∀ (f v : Nat) (acc : Text), v ≤ f →
    ∀ k, alphaLoop (f + k) v acc = alphaLoop f v acc
  | f, v, acc, h, k => by
    fun_induction alphaLoop f v acc
    case case1 => obtain rfl := Nat.le_zero.mp h; exact alphaLoop_zero _ _
    case case2 => exact alphaLoop_zero _ _
    case case3 hv ih => rw [Nat.succ_add, alphaLoop_succ _ _ _ hv]; exact ih (alphaStep_le h)

/-! ## Number trees and page labels (ISO 32000-1 7.9.7, 12.4.2) -/

section PageLabels
open PdfVerif.Spec.Labels PdfVerif.Lemmas.LabelRanges

/-- `NumberTree._parse` is the in-order flattening for a tree of ANY shape: entries of `Nums`
at every depth, `Kids` of every fan-out, nothing lost or reordered. -/
theorem numtree_flatten {α : Type} (t : NumTree α) : t.parse = flatten t := parse_eq_flatten t

/-- On a conforming tree (keys ascending in order) `values` is that flattening itself. -/
theorem numtree_values {α : Type} (t : NumTree α) (h : ascending ((flatten t).map (·.1)) = true) :
    t.values = flatten t := by
  unfold NumTree.values
  rw [parse_eq_flatten]
  exact sortKeys_of_ascending _ h

/-- The label generated for page index `i` is built from the range that contains `i`
(the last one starting at or before `i`): its prefix, its style, and the value
`St + (i − start)` (`St` defaulting to 1) — for every conforming tree and every page. -/
theorem C17_label_range (t : NumTree LabelDict) (n i : Nat) (hi : i < n)
    (hasc : ascending ((flatten t).map (·.1)) = true)
    (h0 : (flatten t).head?.map (·.1) = some 0)
    (start : Int) (d : LabelDict) (hr : rangeOf (flatten t) (i : Int) = some (start, d)) :
    (Labels.labels t n)[i]? = some (labelOf d (d.st.getD 1 + ((i : Int) - start))) := by
  unfold Labels.labels
  rw [numtree_values t hasc]
  obtain ⟨d0, tl, hf⟩ := eq_cons_of_head_zero _ h0
  rw [hf] at hasc hr ⊢
  have hg := labelsFrom_get tl 0 d0 n i hasc hi
  rw [rangeOf_cons_le 0 d0 tl i (Int.natCast_nonneg i), Option.some.injEq] at hr
  rw [Int.zero_add, hr] at hg
  simpa [withZero, labelsAux, firstValue] using hg

/-- With `settings.STRICT = True` (no sort, ordering and "index 0" checks instead) a conforming
tree gives exactly the labels of the default mode — nothing is rejected. -/
theorem C17_label_strict (t : NumTree LabelDict) (n : Nat)
    (hasc : ascending ((flatten t).map (·.1)) = true)
    (h0 : (flatten t).head?.map (·.1) = some 0) :
    labelsStrict t n = .ok (Labels.labels t n) := by
  unfold labelsStrict Labels.labels
  rw [numtree_values t hasc]
  unfold NumTree.valuesStrict
  rw [parse_eq_flatten, nonDecreasing_of_ascending _ hasc]
  obtain ⟨d, tl, hf⟩ := eq_cons_of_head_zero _ h0
  simp [hf, withZero]

/-- The model's numeral is the ISO numeral: decimal, roman (upper/lower) for every `0 < v < ROMAN_MAX`,
letters for `v ≤ 26` (beyond that the statement is false, see `alpha_cex`). -/
theorem numeral_partial (style : Option Bytes) (v : Int) (num : Text)
    (h : numeral style v = some num)
    (ha : (style = some styleA ∨ style = some stylea) → v ≤ 26) :
    formatPageLabel v style = .ok num := by
  have hroman := PdfVerif.Lemmas.Roman.formatIntRoman_of_roman v
  revert h
  fun_cases numeral style v <;> intro h
  case case1 => cases h; rfl
  case case2 => exact congrArg Except.ok (Option.some.inj h)
  case case3 =>
    obtain ⟨r, hr, rfl⟩ := Option.map_eq_some_iff.mp h
    exact congrArg (Except.map upper) (hroman r hr)
  case case4 => exact hroman num h
  case case5 =>
    obtain ⟨r, hr, rfl⟩ := Option.map_eq_some_iff.mp h
    exact congrArg (Except.map upper) (formatIntAlpha_of_alpha v (ha (.inl rfl)) r hr)
  case case6 h0 _ _ _ _ => exact formatIntAlpha_of_alpha v (ha (.inr rfl)) num ((if_pos h0).trans h)
  all_goals cases h

/-- FULL STATEMENT for page labels: on every conforming tree, the label the code generates for
page `i` is the one ISO 32000-1 12.4.2 defines (whenever that is defined: known style, roman
value in `0 < v < ROMAN_MAX`, prefix a valid text string).  False on the pinned code because of the letters
numeral (`C17_label_cex`); `C17_label_partial` proves it with values of the letter styles ≤ 26. -/
def C17_label_statement : Prop :=
  ∀ (t : NumTree LabelDict) (n i : Nat) (l : Text), i < n →
    ascending ((flatten t).map (·.1)) = true → (flatten t).head?.map (·.1) = some 0 →
    label (flatten t) i = some l → (Labels.labels t n)[i]? = some (.ok l)

theorem C17_label_partial (t : NumTree LabelDict) (n i : Nat) (l : Text) (hi : i < n)
    (hasc : ascending ((flatten t).map (·.1)) = true)
    (h0 : (flatten t).head?.map (·.1) = some 0)
    (hl : label (flatten t) i = some l)
    (hsmall : ∀ start d, rangeOf (flatten t) (i : Int) = some (start, d) →
      (d.style = some styleA ∨ d.style = some stylea) → d.st.getD 1 + ((i : Int) - start) ≤ 26) :
    (Labels.labels t n)[i]? = some (.ok l) := by
  obtain ⟨⟨start, d⟩, hr, hl⟩ := Option.bind_eq_some_iff.mp hl
  obtain ⟨pre, hpre, hl⟩ := Option.bind_eq_some_iff.mp hl
  obtain ⟨num, hnum, hl⟩ := Option.bind_eq_some_iff.mp hl
  obtain rfl := Option.some.inj hl
  rw [C17_label_range t n i hi hasc h0 start d hr,
    labelOf_ok d _ pre num hpre (numeral_partial d.style _ num hnum (hsmall start d hr))]

/-- Proved counter-example to the full statement: one range `<< /S /a >>`, page index 27. -/
theorem C17_label_cex : ¬ C17_label_statement := by
  intro h
  have := h (.node [(0, { style := some stylea })] []) 28 27 [98, 98] (by decide) (by decide +kernel)
    (by decide +kernel) (by decide +kernel)
  have h2 := congrArg (fun o => o.map Except.toOption) this
  revert h2
  decide +kernel

/-! ### Full statements with the pinned letters numeral

The letters numeral of the pinned code is not Table 159's (`alpha_cex`), but it is determined
completely: it is THE bijective base-26 numeral of the value.  With it the label of every page of
every conforming tree — every style, every value — is characterised exactly. -/

/-- For EVERY `n > 0` the code's letters numeral is characterised: `t` is returned iff `t` consists of
lowercase letters and reads `n` in bijective base 26. -/
theorem alpha_characterised (n : Nat) (h : 0 < n) (t : Text) :
    formatIntAlpha (n : Int) = .ok t ↔ isBijNumeral t (n : Int) := by
  rw [formatIntAlpha_nat n h]
  constructor
  · intro ht
    rw [← Except.ok.inj ht]
    exact alphaLoop_isBijNumeral n
  · intro hb
    rw [eq_alphaLoop_of_isBijNumeral t n hb]

/-- Such a numeral is unique (so `isBijNumeral · v` names one string). -/
theorem bijNumeral_unique (t t' : Text) (v : Int) (h : isBijNumeral t v) (h' : isBijNumeral t' v) : t = t' := by
  obtain ⟨n, rfl⟩ : ∃ n : Nat, v = n := ⟨alphaValue t, h.2.symm⟩
  rw [eq_alphaLoop_of_isBijNumeral t n h, eq_alphaLoop_of_isBijNumeral t' n h']

/-- FULL numeral statement for the pinned code: wherever ISO 32000-1 defines a numeral (known style,
roman value in `0 < v < ROMAN_MAX`, positive value for letters), `_format_page_label` returns normally —
decimal and roman exactly as Table 159, letters as the unique bijective base-26 numeral. -/
theorem numeral_full (style : Option Bytes) (v : Int) (h : (numeral style v).isSome = true) :
    ∃ num, formatPageLabel v style = .ok num ∧ numeralPinned style v num := by
  have hletters : (if 0 < v then alpha v.toNat else none).isSome = true →
      ∃ t, formatIntAlpha v = .ok t ∧ isBijNumeral t v := by
    intro h
    by_cases h0 : 0 < v
    · obtain ⟨n, rfl⟩ := Int.eq_ofNat_of_zero_le (Int.le_of_lt h0)
      exact ⟨_, formatIntAlpha_nat n (Int.natCast_pos.mp h0), alphaLoop_isBijNumeral n⟩
    · rw [if_neg h0] at h
      cases h
  by_cases hA : style = some styleA
  · subst hA
    obtain ⟨t, ht, hb⟩ := hletters (Option.isSome_map.symm.trans h)
    exact ⟨upper t, congrArg (Except.map upper) ht, by simp only [numeralPinned, if_true]; exact ⟨t, hb, rfl⟩⟩
  by_cases ha : style = some stylea
  · subst ha
    obtain ⟨t, ht, hb⟩ := hletters h
    exact ⟨t, ht, by simp only [numeralPinned, hA, if_false, if_true]; exact hb⟩
  · obtain ⟨num, hnum⟩ := Option.isSome_iff_exists.mp h
    exact ⟨num, numeral_partial style v num hnum (fun hc => (hc.elim hA ha).elim),
      by simp only [numeralPinned, hA, ha, if_false]; exact hnum⟩

/-- FULL page-label statement for the pinned code: on every conforming tree, for EVERY page whose
label ISO 32000-1 12.4.2 defines (valid prefix, known style, roman value in `0 < v < ROMAN_MAX`, positive
letters value — no other bound), the generator yields prefix ++ numeral with the numeral of `numeral_full`: the
ISO label for styles D/R/r/none, and for A/a the ISO label with the letters numeral replaced by the
unique bijective base-26 one (the open finding, and nothing else). -/
theorem C17_label_full (t : NumTree LabelDict) (n i : Nat) (hi : i < n)
    (hasc : ascending ((flatten t).map (·.1)) = true)
    (h0 : (flatten t).head?.map (·.1) = some 0)
    (start : Int) (d : LabelDict) (hr : rangeOf (flatten t) (i : Int) = some (start, d))
    (pre : Text) (hpre : Spec.Labels.text (d.pfx.getD []) = some pre)
    (hnum : (numeral d.style (d.st.getD 1 + ((i : Int) - start))).isSome = true) :
    ∃ num, (Labels.labels t n)[i]? = some (.ok (pre ++ num))
      ∧ numeralPinned d.style (d.st.getD 1 + ((i : Int) - start)) num := by
  obtain ⟨num, hf, hp⟩ := numeral_full d.style _ hnum
  refine ⟨num, ?_, hp⟩
  rw [C17_label_range t n i hi hasc h0 start d hr, labelOf_ok d _ pre num hpre hf]

/-- Non-vacuity: letters past 26 and roman past 3999 in one tree; the numerals are the pinned ones. -/
example :
    let t : NumTree LabelDict := .node []
      [.node [(0, { style := some stylea, st := some 27 })] [],
       .node [(2, { style := some styleR, st := some 3999 })] []]
    ascending ((flatten t).map (·.1)) = true
    ∧ (flatten t).head?.map (·.1) = some 0
    ∧ (Labels.labels t 4).map Except.toOption =
        [some [97, 97], some [97, 98], some [77, 77, 77, 67, 77, 88, 67, 73, 88], some [77, 77, 77, 77]] := by
  decide +kernel
example : isBijNumeral [97, 98] 28 := ⟨by decide, by decide⟩

/-- Non-vacuity: a two-level tree with three ranges (roman front matter, decimal body with a
prefix, letters appendix) satisfies the hypotheses, and the model produces the ISO labels. -/
example :
    let t : NumTree LabelDict := .node []
      [.node [(0, { style := some styler })] [],
       .node [(3, { style := some styleD, pfx := some [65, 45], st := some 7 }), (5, { style := some styleA })] []]
    ascending ((flatten t).map (·.1)) = true
    ∧ (flatten t).head?.map (·.1) = some 0
    ∧ (List.range 7).mapM (label (flatten t)) =
        some [[105], [105, 105], [105, 105, 105], [65, 45, 55], [65, 45, 56], [65], [66]]
    ∧ (Labels.labels t 7).map Except.toOption =
        [some [105], some [105, 105], some [105, 105, 105], some [65, 45, 55], some [65, 45, 56],
         some [65], some [66]] := by
  decide +kernel

end PageLabels

/-! ## Outlines (ISO 32000-1 12.3.3) -/

section Outline
open PdfVerif.Outline PdfVerif.Spec.Outline PdfVerif.Lemmas.Outline

/-- `search` over the First/Next representation of ANY forest (any fan-out, any depth), started
at any level, yields exactly the items in document order (preorder) with their nesting levels
and decoded titles. -/
theorem C17_outline_forest (forest : List OTree) (lvl : Nat) (items : List Item)
    (h : (preForest lvl forest).mapM id = some items) :
    search (encForest forest) lvl = items := by
  have hl := mapM_id_some _ _ h
  have hdom : ∀ o ∈ preForest lvl forest, o.isSome = true := by
    intro o ho
    rw [hl] at ho
    obtain ⟨x, _, rfl⟩ := List.mem_map.mp ho
    rfl
  have := search_encForest forest lvl hdom
  rw [hl] at this
  exact map_some_inj _ _ this

/-- `get_outlines()` on the `Outlines` dictionary of a forest: top-level items have level 1. -/
theorem C17_outline (forest : List OTree) (items : List Item)
    (h : Spec.Outline.outline forest = some items) :
    getOutlines (encRoot forest) = items := by
  have h1 := C17_outline_forest forest 1 items h
  unfold getOutlines encRoot
  cases forest with
  | nil =>
    simp [Spec.Outline.outline, preForest] at h
    simp [search, visible, h]
  | cons t ts =>
    simp only [search, visible, List.isEmpty_cons, Bool.not_false, if_true, List.nil_append, List.append_nil]
    exact h1

/-- Non-vacuity: a forest with two levels, a UTF-16 title and both kinds of target is in the
domain, and the model lists it in document order. -/
example :
    let f : List OTree :=
      [.mk { title := some [65], dest := some 1 }
          [.mk { title := some [0xFE, 0xFF, 0x4E, 0x2D], a := some 2 } [],
           .mk { title := some [66], dest := some 3, se := some 9 } []],
       .mk { title := some [67], a := some 4 } []]
    Spec.Outline.outline f = some
      [⟨1, [65], some 1, none, none⟩, ⟨2, [0x4E2D], none, some 2, none⟩,
       ⟨2, [66], some 3, none, some 9⟩, ⟨1, [67], none, some 4, none⟩]
    ∧ getOutlines (encRoot f) =
      [⟨1, [65], some 1, none, none⟩, ⟨2, [0x4E2D], none, some 2, none⟩,
       ⟨2, [66], some 3, none, some 9⟩, ⟨1, [67], none, some 4, none⟩] := by
  decide +kernel

end Outline

/-! ### Outlines as object graphs: termination (fix 331cdea keeps a visited set) -/

section OutlineGraph
open PdfVerif.Outline PdfVerif.OutlineGraph PdfVerif.Lemmas.OutlineGraph

/-- **Termination.** On EVERY finite store of outline dictionaries — First/Next links that
dangle, are shared, point back to an ancestor or to the item itself — the walk with the visited
set never exhausts the budget `|store| + 1`, and no object id is visited twice. -/
theorem C17_outline_terminates (g : Store) (root : Nat) :
    ∃ items vis, searchG g (g.length + 1) [] root 0 = some (items, vis) ∧ vis.Nodup := by
  obtain ⟨items, vis, h, _, hn⟩ := searchO_total g (g.length + 1) [] (some root) 0 (unvisited_lt_length g [])
  exact ⟨items, vis, h, hn List.nodup_nil⟩

theorem C17_outline_graph_total (g : Store) (root : Nat) : (getOutlinesG g root).isSome = true := by
  obtain ⟨items, vis, h, _⟩ := C17_outline_terminates g root
  simp [getOutlinesG, h]

/-- A damaged outline: item 2 has itself as `Next`, item 3's `First` points back to the root,
item 4 hangs off a dangling reference.  The walk ends and lists each reachable item once. -/
example :
    let g : Store :=
      [(1, { info := {}, first := some 2, hasLast := true }),
       (2, { info := { title := some [65], dest := some 7 }, first := some 3, hasLast := true, next := some 2 }),
       (3, { info := { title := some [66], a := some 8 }, first := some 1, hasLast := true, next := some 9 }),
       (4, { info := { title := some [67], dest := some 9 } })]
    getOutlinesG g 1 = some [⟨1, [65], some 7, none, none⟩, ⟨2, [66], none, some 8, none⟩] := by
  decide +kernel

/-! ### The graph walk on an outline stored as indirect objects

`C17_outline` speaks about the term model (`First`/`Next` unfolded); the code after fix 331cdea
walks REFERENCES with a visited set.  These theorems close the gap: whenever the object graph
stores an entry under distinct object ids (what every PDF writer does), the visited set never
suppresses anything and the graph walk yields exactly what the term model yields — hence the
preorder with levels, for every forest, any fan-out and depth. -/

open PdfVerif.Spec.OutlineStore in
/-- EVERY store, EVERY entry stored in it without sharing: `get_outlines` on the object graph
(visited set, budget `|store| + 1`) = the term model on that entry. -/
theorem C17_outline_graph_eq (g : Store) (root : Nat) (e : Entry) (ids : List Nat)
    (hs : Stored g (some root) e ids) : getOutlinesG g root = some (getOutlines e) :=
  PdfVerif.Lemmas.OutlineStore.getOutlinesG_stored g root e ids hs

open PdfVerif.Spec.OutlineStore PdfVerif.Spec.Outline in
/-- FULL outline statement for the repaired code's graph walk: for every forest in the domain, stored
anywhere in an object graph as indirect objects, `get_outlines` = the items in document order with
their nesting levels (ISO 32000-1 12.3.3). -/
theorem C17_outline_graph (g : Store) (root : Nat) (forest : List OTree) (ids : List Nat) (items : List Item)
    (hs : Stored g (some root) (encRoot forest) ids)
    (h : Spec.Outline.outline forest = some items) :
    getOutlinesG g root = some items := by
  rw [C17_outline_graph_eq g root _ ids hs, C17_outline forest items h]

/-- Data of the non-vacuity example: root (object 1) → item A (2) with child B (4) → sibling C (3). -/
def exStore : Store :=
  [(1, { info := {}, first := some 2, hasLast := true }),
   (2, { info := { title := some [65], dest := some 1 }, first := some 4, hasLast := true, next := some 3 }),
   (3, { info := { title := some [67], a := some 4 } }),
   (4, { info := { title := some [66], dest := some 3 } })]

def exForest : List PdfVerif.Spec.Outline.OTree :=
  [.mk { title := some [65], dest := some 1 } [.mk { title := some [66], dest := some 3 } []],
   .mk { title := some [67], a := some 4 } []]

open PdfVerif.Spec.OutlineStore PdfVerif.Spec.Outline in
/-- Non-vacuity: the hypotheses of `C17_outline_graph` hold for a two-level outline written as four
indirect objects, and the graph walk lists A (1), B (2), C (1). -/
example :
    Stored exStore (some 1) (encRoot exForest) [1, 2, 4, 3]
    ∧ Spec.Outline.outline exForest = some
        [⟨1, [65], some 1, none, none⟩, ⟨2, [66], some 3, none, none⟩, ⟨1, [67], none, some 4, none⟩]
    ∧ getOutlinesG exStore 1 = some
        [⟨1, [65], some 1, none, none⟩, ⟨2, [66], some 3, none, none⟩, ⟨1, [67], none, some 4, none⟩] := by
  have h4 := Stored.mk (g := exStore) 4 _ .nil .nil [] [] rfl .nil .nil (by decide) (by decide) (by decide)
  have h3 := Stored.mk (g := exStore) 3 _ .nil .nil [] [] rfl .nil .nil (by decide) (by decide) (by decide)
  have h2 := Stored.mk (g := exStore) 2 _ _ _ [4] [3] rfl h4 h3 (by decide) (by decide) (by decide)
  have h1 := Stored.mk (g := exStore) 1 _ _ .nil _ [] rfl h2 .nil (by decide) (by decide) (by decide)
  exact ⟨h1, by decide +kernel, by decide +kernel⟩

end OutlineGraph

/-! ## Name trees and named destinations (ISO 32000-1 7.9.6, 12.3.2.3) -/

section NameTree
open PdfVerif.NameTree PdfVerif.Spec.NameTree PdfVerif.Lemmas.NameTree

/-- `lookup_name` on ANY conforming name tree (any depth and fan-out; Limits on every node but
the root — or on the root as well —, bounding the keys below it, siblings separated): the result
is the value associated with the key in the in-order flattening, and `KeyError` for an absent
key. -/
theorem C17_nametree (t : Node) (hwf : wf true t = true) (key : Key) :
    lookupName (some t) (.bytes key) =
      match assoc (flatten t) key with
      | some v => .found v
      | none => .keyError := by
  have g := lookup_good key true t hwf
  cases ha : assoc (flatten t) key with
  | some v =>
    have := (g.1 v (mem_of_assoc ha)).1
    simp [lookupName, this]
  | none =>
    rcases g.2 (not_mem_of_assoc_none ha) with h | h <;> simp [lookupName, h]

/-- The in-order flattening of a conforming name tree is strictly ascending in the byte-string
order (derived from the local conditions of `wf`: leaves ascending, Limits bounding, siblings
separated) — so keys are unique and "the value associated with the key" is unambiguous. -/
theorem C17_nametree_sorted (t : Node) (hwf : wf true t = true) :
    List.Pairwise (fun x y => klt x y = true) ((flatten t).map (·.1)) :=
  flatten_sorted true t hwf

/-- `get_dest`: a string is looked up in the name tree, a name in the catalog's `Dests`
dictionary; everything else is `PDFDestinationNotFound`. -/
theorem C17_dest (tree : Option Node) (dests : Option (List (Key × Int))) (key : QKey)
    (hdom : Spec.NameTree.domain tree dests = true) :
    getDest tree dests key = Spec.NameTree.dest tree dests key := by
  cases key with
  | bytes k =>
    rw [getDest_bytes]
    cases tree with
    | none => rfl
    | some t =>
      simp only [Spec.NameTree.domain, Bool.and_eq_true] at hdom
      rw [C17_nametree t hdom.1 k]
      simp only [Spec.NameTree.dest, Option.bind_some]
      cases assoc (flatten t) k <;> rfl
  | name n => exact getDest_name tree dests n

/-- Non-vacuity: a three-level tree (root without Limits, an intermediate node, two leaves) is
conforming; present keys are found, absent ones (below, between, above, a prefix) are not. -/
example :
    let leaf1 : Node := .node (some ([97], [99])) (some [([97], 1), ([99], 2)]) []
    let leaf2 : Node := .node (some ([101], [103, 0])) (some [([101], 3), ([103, 0], 4)]) []
    let t : Node := .node none none [.node (some ([97], [103, 0])) none [leaf1, leaf2]]
    wf true t = true
    ∧ getDest (some t) none (.bytes [99]) = .value 2
    ∧ getDest (some t) none (.bytes [103, 0]) = .value 4
    ∧ getDest (some t) none (.bytes [98]) = .notFound
    ∧ getDest (some t) none (.bytes [100]) = .notFound
    ∧ getDest (some t) none (.bytes [103]) = .notFound
    ∧ getDest (some t) none (.bytes []) = .notFound
    ∧ getDest (some t) (some [([102, 111, 111], 9)]) (.name [102, 111, 111]) = .value 9 := by
  decide +kernel

/-! ### Arbitrary name trees: unsorted, duplicate keys, wrong or missing Limits -/

/-- SOUNDNESS on EVERY name tree, conforming or not: whatever `lookup_name` returns for a key is a
value the tree associates with that key (never a neighbour's value, whatever the Limits say). -/
theorem C17_nametree_sound (t : Node) (key : Key) (v : Int)
    (h : lookupName (some t) (.bytes key) = .found v) : (key, v) ∈ flatten t := by
  simp only [lookupName] at h
  split at h
  · cases h
  · exact PdfVerif.Lemmas.NameTreeAny.lookup_sound key t v h

/-- WHICH DUPLICATE WINS: in a node with a `Names` array (sorted or not, `Kids` ignored), a key inside
the node's Limits gets the value of its LAST occurrence in the array (`dict(...)` semantics), and
`KeyError` when it does not occur. -/
theorem C17_nametree_last_wins (lim : Option (Key × Key)) (ns : List (Key × Int)) (kids : List Node) (key : Key)
    (hin : outside key lim = false) :
    lookup key (.node lim (some ns) kids) =
      match assoc ns.reverse key with
      | some v => .found v
      | none => .keyError := by
  unfold lookup
  simp only [hin, Bool.false_eq_true, if_false, PdfVerif.Lemmas.NameTreeAny.dictGet_eq_assoc_reverse]
  cases assoc ns.reverse key <;> rfl

/-- SOUNDNESS of `get_dest` on EVERY catalog: a value returned for a string comes from the name tree
under that key, a value returned for a name object from the legacy `/Dests` dictionary under that
name — never from the other structure. -/
theorem C17_dest_sound (tree : Option Node) (dests : Option (List (Key × Int))) (key : QKey) (v : Int)
    (h : getDest tree dests key = .value v) :
    match key with
    | .bytes k => ∃ t, tree = some t ∧ (k, v) ∈ flatten t
    | .name n => ∃ d, dests = some d ∧ (n, v) ∈ d := by
  cases key with
  | bytes k =>
    rw [getDest_bytes] at h
    split at h
    · next w hl =>
      cases h
      cases tree with
      | none => cases hl
      | some t => exact ⟨t, rfl, C17_nametree_sound t k _ hl⟩
    · cases h
  | name n =>
    rw [getDest_name] at h
    split at h
    · next w ha =>
      cases h
      cases dests with
      | none => cases ha
      | some d => exact ⟨d, rfl, mem_of_assoc ha⟩
    · cases h

/-- Non-vacuity: an unsorted leaf with a duplicate key (the last `b` wins); a root with Names AND Kids
(Kids ignored); Kids without Limits where the first kid lacks the key (`KeyError` although a later
kid has it — the reason ISO requires Limits); the returned values are in the flattening. -/
example :
    let leaf : Node := .node none (some [([98], 1), ([97], 2), ([98], 3)]) []
    let mixed : Node := .node none (some [([97], 5)]) [.node none (some [([98], 6)]) []]
    let nolim : Node := .node none none [.node none (some [([97], 7)]) [], .node none (some [([98], 8)]) []]
    lookupName (some leaf) (.bytes [98]) = .found 3
    ∧ lookupName (some leaf) (.bytes [97]) = .found 2
    ∧ lookupName (some mixed) (.bytes [98]) = .keyError
    ∧ lookupName (some nolim) (.bytes [97]) = .found 7
    ∧ lookupName (some nolim) (.bytes [98]) = .keyError
    ∧ getDest (some leaf) (some [([98], 9)]) (.name [98]) = .value 9
    ∧ getDest (some leaf) (some [([98], 9)]) (.bytes [98]) = .value 3 := by
  decide +kernel

end NameTree

end PdfVerif.Props.C17
