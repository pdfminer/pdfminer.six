/-
C08 — Layout analysis conserves content and keeps its hierarchy well-formed.

All statements are about `PdfVerif.Layout.analyze` (Model/Layout.lean), the executable model of
`LTLayoutContainer.analyze`; its geometric predicates, sort keys and `dist` are `PdfVerif.Gen.Layout.*`,
regenerated from pdfminer/layout.py on every run; the spatial index is the model of C20.  The model is tied to the
implementation by tools/harness/props/c08.py (tree dump correspondence).

Domain: any list of items (glyphs with any box and text, other items), any LAParams (rationals, `boxes_flow`
none or any number), a page box with x0 ≤ x1, y0 ≤ y1.
-/
import PdfVerif.Lemmas.LayoutFigures
import PdfVerif.Lemmas.LayoutHeap
import PdfVerif.Lemmas.LayoutAnno
import PdfVerif.Lemmas.LayoutColumns

namespace PdfVerif.Props.C08
open PdfVerif PdfVerif.Gen.Layout PdfVerif.Layout

/- Every theorem below holds for an arbitrary comparison `le` by which the heap of `group_textboxes` chooses the
next entry (`Cmp`, no order axioms); `HEntry.le` is the implementation's tuple order `(skip_isany, d, seq1, seq2)`.
So no statement of C08 depends on how pairs at the same distance are ordered. -/
variable {le : Cmp}

/-- **Termination.**  The only unbounded loop of the analysis (`while len(dists) > 0` in
`group_textboxes`) ends by itself: the model never runs out of its fuel of `3·n² + 1` iterations for `n` text boxes. -/
theorem C08_terminates (p : LAParams) (pageBB : BB) (items : List Item) :
    (analyze le p pageBB items).flags.fuel = false :=
  (analyze_flags p pageBB items).1

/-- The heap loop itself, whatever boxes it is given. -/
theorem C08_gtb_fuel_suffices (pageBB : BB) (boxes : List Box) :
    (gtbLoop le (gtbFuel boxes.length) (gtbInit pageBB boxes)).2 = true :=
  gtbLoop_terminates _ _ (gtbInit_inv pageBB boxes) (gtbInit_phi pageBB boxes)

/-- No `KeyError` from `plane.remove` and no dangling heap entry. -/
theorem C08_no_internal_error (p : LAParams) (pageBB : BB) (items : List Item) :
    (analyze le p pageBB items).flags.err = false :=
  (analyze_flags p pageBB items).2

/-- Stage 1: `group_objects` puts every glyph into exactly one line, in content order. -/
theorem C08_group_objects_conserve (p : LAParams) (gs : List Glyph) :
    (groupObjects p gs).flatMap Line.glyphs = gs :=
  groupObjects_conserve p gs

/-- Stage 2: `group_textlines` puts every (non-empty) line into exactly one box. -/
theorem C08_group_textlines_conserve (p : LAParams) (pageBB : BB) (hp : WfPage pageBB) (lines : List Line)
    (hne : ∀ l ∈ lines, l.isEmpty = false) :
    ((groupTextlines p pageBB lines).flatMap (·.lines)).Perm lines :=
  (groupTextlines_spec p pageBB hp lines hne).1

/-- Stage 3: `group_textboxes` makes every box a leaf of exactly one returned group. -/
theorem C08_group_textboxes_conserve (pageBB : BB) (boxes : List Box) :
    ((groupTextboxes le pageBB boxes).1.flatMap Node.leaves).Perm boxes :=
  (groupTextboxes_spec (le := le) pageBB boxes).1

/-- **Conservation of glyphs.**  The glyphs found in the result (in the lines of the text boxes, in the empty
lines, or untouched when nothing is analysed) are, as a multiset, exactly the input glyphs. -/
theorem C08_conserve_glyphs (p : LAParams) (pageBB : BB) (hp : WfPage pageBB) (items : List Item) :
    ((analyze le p pageBB items).children.flatMap Child.glyphs).Perm (items.filterMap Item.glyph?) := by
  cases h : (items.filterMap Item.glyph?).isEmpty with
  | true => rw [analyze_of_no_glyphs le p pageBB h, toChild_glyphs]
  | false =>
    have s := stages le p pageBB items h
    have hspec := s.spec hp
    -- the boxes hold the glyphs of the non-empty lines, the kept lines those of the empty ones
    have hboxes : ((finalBoxes le p pageBB s.boxes).1.flatMap Box.glyphs).Perm
        ((s.lines.filter (fun l => !l.isEmpty)).flatMap Line.glyphs) := by
      refine (finalBoxes_glyphs (le := le) p pageBB s.boxes hspec.2.1).trans ?_
      have := hspec.1.flatMap_right Line.glyphs
      rwa [List.flatMap_assoc] at this
    have hall := (List.filter_append_perm Line.isEmpty s.lines).flatMap_right Line.glyphs
    rw [s.hlines, groupObjects_conserve, ← s.hlines] at hall
    rw [s.children]
    simp only [List.flatMap_append, List.flatMap_map, Child.glyphs, glyphs_analyze] at hall ⊢
    rw [List.flatMap_eq_nil_iff.mpr fun _ _ => rfl, List.append_nil]
    exact ((hboxes.append_right _).trans List.perm_append_comm).trans hall

/-- **Conservation of the other items** (figures, shapes, images): kept exactly once, in order. -/
theorem C08_conserve_others (p : LAParams) (pageBB : BB) (items : List Item) :
    (analyze le p pageBB items).children.filterMap Child.other? = items.filterMap Item.other? := by
  cases h : (items.filterMap Item.glyph?).isEmpty with
  | true => rw [analyze_of_no_glyphs le p pageBB h]; exact toChild_others items
  | false => exact othersOf_stages (stages le p pageBB items h)

/-- A figure is analysed like a page when `all_texts` is set and left untouched otherwise. -/
theorem C08_figure (allTexts : Bool) (p : LAParams) (bb : BB) (items : List Item) :
    analyzeFigure le allTexts p bb items =
      if allTexts then analyze le p bb items
      else { children := items.map Item.toChild, groups := none, flags := {} } := by
  unfold analyzeFigure; split <;> rfl

/-- Figures inside figures: the glyphs found anywhere below the analysed figures of a container are
exactly the glyphs that were inside those figures (whatever `all_texts` is). -/
theorem C08_conserve_glyphs_figures (allTexts : Bool) (p : LAParams) : ∀ items : List FItem, wfFigsL items →
    (outGlyphsL (analyzeFigs le allTexts p items)).Perm (figGlyphsL items) := by
  intro items
  induction items using analyzeFigs.induct with
  | case1 => intro; rw [analyzeFigs, outGlyphsL, figGlyphsL]
  | case2 i bb ch rest ihch ihrest =>
    intro h
    rw [analyzeFigs, figGlyphsL, outGlyphsL]
    refine List.Perm.append ?_ (ihrest h.2)
    cases allTexts with
    | false => exact .refl _
    | true =>
      exact ((C08_conserve_glyphs (le := le) p bb h.1.1 (ch.map FItem.flat)).append (ihch h.1.2)).trans
        (glyphsL_split ch).symm
  | case3 head rest hhead ih =>
    intro h
    rw [analyzeFigs, figGlyphsL]
    exacts [ih h.2, hhead, hhead]

/-- **Conservation over the whole page tree** (figures nested to any depth, `all_texts` on or off): the glyphs
found anywhere in the analysed tree, raw figures included, are the glyphs of the input tree. -/
theorem C08_conserve_glyphs_nested (allTexts : Bool) (p : LAParams) (pageBB : BB) (hp : WfPage pageBB)
    (items : List FItem) (hf : wfFigsL items) :
    (analyzePage le allTexts p pageBB items).glyphs.Perm (glyphsL items) := by
  simp only [analyzePage, FOut.glyphs]
  exact ((C08_conserve_glyphs p pageBB hp (items.map FItem.flat)).append
    (C08_conserve_glyphs_figures allTexts p items hf)).trans (glyphsL_split items).symm

/-- **Lines.**  Every line of the result - in a text box or kept as an empty line - has ≥ 1 glyph, holds glyphs of
one orientation, has the tight hull of its glyphs as bounding box, and ends in exactly one line-break annotation;
vertical lines only exist with `detect_vertical`. -/
theorem C08_lines (p : LAParams) (pageBB : BB) (hp : WfPage pageBB) (items : List Item) :
    ∀ l ∈ linesOf (analyze le p pageBB items), LineOK p l := by
  intro l hl
  obtain ⟨l0, hl0, rfl⟩ := linesOf_origin (le := le) p pageBB hp items l hl
  exact lineOK_of_inv (groupObjects_inv p _ l0 hl0)

/-- **The heap order is a total order.**  `HEntry.le` - the tuple order `(skip_isany, d, seq1, seq2)` of the heap of
`group_textboxes`, with creation numbers as the code uses them since fix 0d18780 - is total, transitive and
antisymmetric: no tie is left to memory addresses or to the internal layout of `heapq`. -/
theorem C08_heap_order :
    (∀ a b : HEntry, a.le b = true ∨ b.le a = true) ∧
    (∀ a b c : HEntry, a.le b = true → b.le c = true → a.le c = true) ∧
    (∀ a b : HEntry, a.le b = true → b.le a = true → a = b) :=
  ⟨HEntry.le_total, HEntry.le_trans, HEntry.le_antisymm⟩

/-- **The shape of the code's heap entries.**  `Gen.Layout.HEAP_SHAPE` (the pushes, the pop, the sequence numbers
and the liveness test of `group_textboxes`, re-read from pdfminer/layout.py on every run) is the description from
which `HEntry`, `HEntry.le` and `gtbStep` were written; an edit of the tuples or of the numbering breaks this.
Nothing in Lean ties the strings to the model. -/
theorem C08_heap_shape : HEAP_SHAPE =
    ["seq seq.setdefault(box, len(seq))",
     "push False | dist(box1, box2) | seq[box1] | seq[box2]",
     "call heapq.heapify(dists)",
     "pop skip_isany | d | id1 | id2",
     "live id1 not in done and id2 not in done",
     "push True | d | id1 | id2",
     "call done.update([id1, id2])",
     "seq seq[group] = len(seq)",
     "push False | dist(group, other) | seq[group] | seq[other]"] := rfl

/-- **`popMin` is `heappop`.**  The popped entry is a member of the heap, the rest are exactly the other entries,
it is below every entry and the only member that is - so every correct priority queue pops the same entry. -/
theorem C08_pop_least (h : List HEntry) (m : HEntry) (r : List HEntry) (hp : popMin HEntry.le h = some (m, r)) :
    m ∈ h ∧ h.Perm (m :: r) ∧ (∀ e ∈ h, m.le e = true) ∧
    ∀ m' ∈ h, (∀ e ∈ h, m'.le e = true) → m' = m :=
  ⟨popMin_mem hp, popMin_perm h m r hp, popMin_least HEntry.le_total HEntry.le_trans h m r hp,
   fun m' hm' hl => popMin_unique HEntry.le_total HEntry.le_trans HEntry.le_antisymm hp m' hm' hl⟩

/-- … and a non-empty heap always pops. -/
theorem C08_pop_some (le : Cmp) (h : List HEntry) (hne : h ≠ []) : ∃ m r, popMin le h = some (m, r) := by
  cases hp : popMin le h with
  | none => exact absurd (popMin_none.mp hp) hne
  | some q => exact ⟨q.1, q.2, rfl⟩

/-- **Annotations, stage 1.**  Every line that `group_objects` yields has exactly the members the word-margin
specification prescribes: its glyphs in content order, a space before a glyph iff the documented predicate holds
between it and the glyph before. -/
theorem C08_anno_group_objects (p : LAParams) (gs : List Glyph) :
    ∀ l ∈ groupObjects p gs, l.elems = Spec.lineElems l.vertical p.word_margin l.glyphs :=
  groupObjects_anno p gs

/-- **Annotations, whole analysis.**  The same for every line of the result, plus the one final line break: every
`LTAnno` of the page is accounted for. -/
theorem C08_anno_exact (p : LAParams) (pageBB : BB) (hp : WfPage pageBB) (items : List Item) :
    ∀ l ∈ linesOf (analyze le p pageBB items), l.elems = Spec.lineElemsBreak l.vertical p.word_margin l.glyphs := by
  intro l hl
  obtain ⟨l0, hl0, rfl⟩ := linesOf_origin (le := le) p pageBB hp items l hl
  exact analyze_anno _ l0 (groupObjects_anno p _ l0 hl0)

/-- **A page without glyphs** (empty, or shapes / figures only) is left as it is: the items in content order, no
groups. -/
theorem C08_no_glyphs (p : LAParams) (pageBB : BB) (items : List Item) (h : items.filterMap Item.glyph? = []) :
    (analyze le p pageBB items).children = items.map Item.toChild ∧ (analyze le p pageBB items).groups = none := by
  simp [analyze, h]

/-- **Boxes.**  Every text box of the result has ≥ 1 line, its bounding box is the tight hull of its lines' boxes,
and its lines are ordered top-to-bottom (a vertical box: right-to-left). -/
theorem C08_boxes (p : LAParams) (pageBB : BB) (hp : WfPage pageBB) (items : List Item) :
    ∀ b ∈ boxesOf (analyze le p pageBB items),
      b.lines ≠ [] ∧ IsUnion b.bb (b.lines.map (·.bb)) ∧
      b.lines.Pairwise (fun l₁ l₂ => if b.vertical then l₂.bb.x1 ≤ l₁.bb.x1 else l₂.bb.y1 ≤ l₁.bb.y1) := by
  intro b' hb'
  obtain ⟨b, hb, -, hvert, hlines, hbb'⟩ := boxesOf_origin (le := le) p pageBB hp items b' hb'
  obtain ⟨-, hne, hbb, -⟩ := (groupTextlines_spec p pageBB hp _ (nonEmpty_filter _)).2.2 b hb
  have hperm := box_analyze_perm b
  rw [hlines, hbb', hvert, hbb]
  refine ⟨fun hnil => hne ?_, ?_, box_analyze_sorted b⟩
  · rw [hnil] at hperm
    exact List.map_eq_nil_iff.mp hperm.symm.eq_nil
  · refine isUnion_perm ?_ (bbOfList_isUnion (b.lines.map (·.bb)) (by simpa using hne))
    have := (hperm.map (·.bb)).symm
    rwa [List.map_map] at this

/-- A text box only holds lines of its own class (horizontal box: horizontal lines). -/
theorem C08_box_uniform (p : LAParams) (pageBB : BB) (hp : WfPage pageBB) (items : List Item) :
    ∀ b ∈ boxesOf (analyze le p pageBB items), ∀ l ∈ b.lines, l.vertical = b.vertical := by
  intro b' hb' l hl
  obtain ⟨b, hb, -, hvert, hlines, -⟩ := boxesOf_origin (le := le) p pageBB hp items b' hb'
  rw [hlines] at hl
  obtain ⟨l0, hl0, rfl⟩ := List.mem_map.mp ((box_analyze_perm b).subset hl)
  rw [hvert]
  exact groupTextlines_uniform p pageBB hp _ (nonEmpty_filter _) b hb l0 hl0

/-- **Numbering.**  The text boxes are numbered `0, 1, …, n−1` in output order - with the hierarchy
(`IndexAssigner`) and, since the repair of the code, also when `boxes_flow` is `None`. -/
theorem C08_index (p : LAParams) (pageBB : BB) (hp : WfPage pageBB) (items : List Item) :
    (boxesOf (analyze le p pageBB items)).map (·.index)
      = (List.range' 0 (boxesOf (analyze le p pageBB items)).length).map Int.ofNat := by
  cases h : (items.filterMap Item.glyph?).isEmpty with
  | true => rw [boxesOf_of_no_glyphs le p pageBB h]; rfl
  | false =>
    have s := stages le p pageBB items h
    have hfin := finalBoxes_spec (le := le) p pageBB s.boxes (s.spec hp).2.1
    have hlen : (finalBoxes le p pageBB s.boxes).1.length = s.boxes.length := by
      simpa only [List.length_map] using hfin.1.length_eq
    rw [boxesOf_stages s, hfin.2.1, hlen]

/-- **Hierarchy.**  With a numeric `boxes_flow` the group hierarchy exists, its leaves in depth-first order are the
page's text boxes in output order, and every group is well-formed (`GroupOK`: box = tight hull of its two members,
TBRL class iff a member is vertical, members in key order).  With `boxes_flow = None` there is no hierarchy. -/
theorem C08_hierarchy (p : LAParams) (pageBB : BB) (hp : WfPage pageBB) (items : List Item)
    (hne : (items.filterMap Item.glyph?).isEmpty = false) :
    ((analyze le p pageBB items).groups = none ↔ p.boxes_flow = none) ∧
    ∀ gs, (analyze le p pageBB items).groups = some gs →
      gs.flatMap Node.leaves = boxesOf (analyze le p pageBB items) ∧
      ∀ bf, p.boxes_flow = some bf → ∀ g ∈ gs, GroupOK bf g := by
  have s := stages le p pageBB items hne
  have hfin := finalBoxes_spec (le := le) p pageBB s.boxes (s.spec hp).2.1
  rw [s.groups, boxesOf_stages s]
  refine ⟨hfin.2.2.2.2.2, fun gs hgs => ⟨hfin.2.2.2.2.1 gs hgs, fun bf hbf g hg => ?_⟩⟩
  exact finalBoxes_groupsOK (le := le) p pageBB s.boxes bf hbf gs hgs g hg

/-- The hierarchy has a single root (`group_textboxes` ends with one object in the plane). -/
theorem C08_single_root (p : LAParams) (pageBB : BB) (items : List Item) :
    ∀ gs, (analyze le p pageBB items).groups = some gs → gs.length ≤ 1 := by
  intro gs hgs
  cases h : (items.filterMap Item.glyph?).isEmpty with
  | true => rw [analyze_of_no_glyphs le p pageBB h] at hgs; cases hgs
  | false =>
    rw [(stages le p pageBB items h).groups] at hgs
    unfold finalBoxes at hgs
    cases hbf : p.boxes_flow with
    | none => rw [hbf] at hgs; cases hgs
    | some bf =>
      simp only [hbf, Option.some.injEq] at hgs
      subst hgs
      rw [analyzeGroups_length]
      exact groupTextboxes_single_root (le := le) pageBB _

/-- **Without `detect_vertical` nothing is vertical**: every text line, text box and group of the hierarchy, at
any depth, is of the horizontal / left-to-right class. -/
theorem C08_detect_vertical (p : LAParams) (pageBB : BB) (hp : WfPage pageBB) (items : List Item)
    (hdv : p.detect_vertical = false) :
    (∀ l ∈ linesOf (analyze le p pageBB items), l.vertical = false) ∧
    (∀ b ∈ boxesOf (analyze le p pageBB items), b.vertical = false) ∧
    (∀ gs, (analyze le p pageBB items).groups = some gs → ∀ g ∈ gs, g.groupsLRTB) := by
  have hlines : ∀ l ∈ linesOf (analyze le p pageBB items), l.vertical = false := fun l hl =>
    Bool.eq_false_iff.mpr fun hv => Bool.false_ne_true
      (hdv.symm.trans ((C08_lines (le := le) p pageBB hp items l hl).vertical_only_if_detected hv))
  have hboxes : ∀ b ∈ boxesOf (analyze le p pageBB items), b.vertical = false := by
    intro b hb
    have hne := (C08_boxes (le := le) p pageBB hp items b hb).1
    obtain ⟨l, hl⟩ := List.exists_mem_of_ne_nil _ hne
    rw [← C08_box_uniform (le := le) p pageBB hp items b hb l hl]
    exact hlines l (List.mem_append_left _ (List.mem_flatMap.mpr ⟨b, hb, hl⟩))
  refine ⟨hlines, hboxes, ?_⟩
  intro gs hgs g hg
  cases hne : (items.filterMap Item.glyph?).isEmpty with
  | true => rw [analyze_of_no_glyphs le p pageBB hne] at hgs; cases hgs
  | false =>
    have hh := C08_hierarchy (le := le) p pageBB hp items hne
    obtain ⟨hleaves, hok⟩ := hh.2 gs hgs
    cases hbf : p.boxes_flow with
    | none => rw [hh.1.mpr hbf] at hgs; cases hgs
    | some bf =>
      refine (groupOK_lrtb (hok bf hbf g hg) ?_).2
      intro b hb
      exact hboxes b (by rw [← hleaves]; exact List.mem_flatMap.mpr ⟨g, hg, hb⟩)

/- The text of a line / box / group is the concatenation of its members' text (the next three are the
defining equations of `get_text`). -/
theorem C08_text_line (l : Line) : l.text = l.elems.flatMap Elem.text := rfl
theorem C08_text_box (b : Box) : b.text = b.lines.flatMap Line.text := rfl
theorem C08_text_group (t : Bool) (bb : BB) (l r : Node) : (Node.grp t bb l r).text = l.text ++ r.text := rfl
/-- A line's text ends with the line break that `analyze` appended. -/
theorem C08_text_line_break (l : Line) : l.analyze.text = l.text ++ [10] := text_analyze l

/- a concrete page: two words on one line, a second paragraph, a blank glyph -/

def exGlyphs : List Item :=
  [.ch ⟨1, ⟨10, 100, 16, 110⟩, [72]⟩, .ch ⟨2, ⟨16, 100, 22, 110⟩, [105]⟩,
   .ch ⟨3, ⟨30, 100, 36, 110⟩, [33]⟩, .other 7,
   .ch ⟨4, ⟨10, 40, 16, 50⟩, [120]⟩, .ch ⟨5, ⟨300, 40, 306, 50⟩, [32]⟩]

def exParams : LAParams := ⟨1/2, 2, 1/2, 1/10, some (1/2), false⟩
def exPage : BB := ⟨0, 0, 612, 792⟩

def exLines : List Line := groupObjects exParams (exGlyphs.filterMap Item.glyph?)

example : WfPage exPage := by unfold WfPage exPage; decide +kernel
-- three lines: "Hi !" (with a word space), "x", and a blank one
example : exLines.map (·.text) = [[72, 105, 32, 33], [120], [32]] := by decide +kernel
example : exLines.map Line.isEmpty = [false, false, true] := by decide +kernel
-- the two non-empty lines are too far apart to share a box
example : (groupTextlines exParams exPage (exLines.filter (fun l => !l.isEmpty))).map (·.lines.length) = [1, 1] := by
  decide +kernel

/- the heap order decides a tie by the creation numbers; `popMin` finds that entry anywhere in the list -/
example : popMin HEntry.le [⟨false, 5, 0, 2⟩, ⟨true, 1, 0, 1⟩, ⟨false, 5, 0, 1⟩, ⟨false, 7, 1, 2⟩]
    = some (⟨false, 5, 0, 1⟩, [⟨false, 5, 0, 2⟩, ⟨true, 1, 0, 1⟩, ⟨false, 7, 1, 2⟩]) := by decide +kernel

/- every line of the example page has the members the word-margin specification prescribes (an instance of
`groupObjects_anno`); after `analyze` they are "Hi" · space · "!" · line break, "x" · line break, " " · line break -/
example : (exLines.all fun l => decide (l.elems = Spec.lineElems l.vertical exParams.word_margin l.glyphs)) = true :=
  List.all_eq_true.mpr fun l hl => decide_eq_true (groupObjects_anno exParams _ l hl)
example : ((exLines.map (·.analyze)).map fun l => l.elems.map (fun e => match e with | .ch g => g.id | .anno c => 1000 + c))
    = [[1, 2, 1032, 3, 1010], [4, 1010], [5, 1010]] := by decide +kernel

end PdfVerif.Props.C08
