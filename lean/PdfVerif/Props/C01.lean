/-
C01 — every conformant spelling of a value reads back as that value.

Token level: theorems about the buffer-free byte automaton `Lexer.foldBytes` / `Lexer.specLex`;
by `C14_run_eq_spec` the buffered tokenizer yields the same tokens for EVERY buffer size, which is
the "independent of buffer boundaries" half of the property.  Tree level: the stack parser
(`StackParser.feed`, model of PSStackParser.nextobject + PDFStreamParser) rebuilds any tree from its tokens.

In the order of the file: the four kinds of token (`C01_int_token` … `C01_string_token`, each with its
`_eof` and `_buffered` form; for hexadecimal strings what ISO says, what the code reads, and where the two
part); nesting, for `PDFStreamParser` (`C01_nesting`) and for the `getobj` reader `PDFParser`
(`C01_getobj_nesting`); from bytes to value for spelled trees `STree` (`C01_tokens`, `C01_roundtrip_partial`,
`C01_offset_partial`), for sequences of them (`C01_sequence_*`) and for `n g obj … endobj`
(`C01_getobj_roundtrip_partial`); that the run-time oracle accepts the whole family (`C01_spec_complete`);
the second sentence of the property for every byte string (`C01_bufsize_indep`, `C01_offset_indep`,
`C01_concat_feed`, `C01_context_indep`); stream objects (`C01_stream_object_partial`, `_spelled`).
-/
import PdfVerif.Lemmas.LexTokens
import PdfVerif.Lemmas.StackParser
import PdfVerif.Lemmas.Roundtrip
import PdfVerif.Lemmas.SpecSound
import PdfVerif.Props.C14
import PdfVerif.Props.C03
import PdfVerif.Lemmas.StreamSeam

namespace PdfVerif.Props.C01
open PdfVerif PdfVerif.Lexer PdfVerif.Gen.LexTables PdfVerif.StackParser PdfVerif.Roundtrip PdfVerif.SpecSound

/-- Every spelling `[+-]?d+` (at most 4300 digits, CPython's limit) followed by any byte that is not
    a digit or `.` lexes to its value at its own position; lexing then continues in the main
    scanner at that byte.  Leading zeros, `+` and `-0` included. -/
theorem C01_int_token (st : St) (hm : st.mode = .main) (sign ds : Bytes) (d : UInt8) (rest : Bytes) (pos : Nat)
    (hs : sign = [] ∨ sign = [43] ∨ sign = [45]) (hne : ds ≠ []) (hd : ∀ c ∈ ds, isDigit c = true)
    (hlen : ds.length ≤ 4300) (hend : isEND_NUMBER d = true) (h46 : d ≠ 46) :
    (foldBytes st (sign ++ ds ++ d :: rest) pos).2 =
      (pos, Token.int (intValue sign ds)) ::
        (foldBytes { st with tpos := pos, cur := sign ++ ds, mode := .main } (d :: rest)
          (pos + (sign ++ ds).length)).2 :=
  int_token st hm sign ds d rest pos hs hne hd hlen hend h46

/-- …in particular at the very end of the data (the flushed newline ends the token). -/
theorem C01_int_token_eof (sign ds : Bytes)
    (hs : sign = [] ∨ sign = [43] ∨ sign = [45]) (hne : ds ≠ []) (hd : ∀ c ∈ ds, isDigit c = true)
    (hlen : ds.length ≤ 4300) :
    specLex (sign ++ ds) = [(0, Token.int (intValue sign ds))] := by
  have h := C01_int_token St.init rfl sign ds 10 [] 0 hs hne hd hlen (by rw [isEND_NUMBER_eq]; rfl) (by decide)
  unfold specLex
  rw [h, handover_newline (.inl rfl)]

/-- The same tokens come out of the buffered tokenizer at every buffer size. -/
theorem C01_int_token_buffered (b : Nat) (hb : 1 ≤ b) (sign ds : Bytes)
    (hs : sign = [] ∨ sign = [43] ∨ sign = [45]) (hne : ds ≠ []) (hd : ∀ c ∈ ds, isDigit c = true)
    (hlen : ds.length ≤ 4300) :
    run b (sign ++ ds) = some [(0, Token.int (intValue sign ds))] := by
  rw [C14.C14_run_eq_spec b hb, C01_int_token_eof sign ds hs hne hd hlen]

example : run 2 [43, 48, 48, 55, 49] = some [(0, Token.int 71)] := by decide +kernel

/-- Every spelling `/` + (raw regular bytes 21h–7Eh | `#xx` for any byte, either hex case), followed
    by a white-space or delimiter byte, lexes to the name's bytes at its position; lexing continues in
    the main scanner at that byte. -/
theorem C01_name_token (st : St) (hm : st.mode = .main) (items : List NameItem) (hok : ∀ i ∈ items, i.ok)
    (d : UInt8) (rest : Bytes) (pos : Nat) (hd : isEND_LITERAL d = true) (h35 : d ≠ 35) :
    ∃ st', st'.mode = .main ∧
      (foldBytes st (47 :: renderName items ++ d :: rest) pos).2 =
        (pos, Token.lit (nameValue items)) ::
          (foldBytes st' (d :: rest) (pos + 1 + (renderName items).length)).2 :=
  name_token st hm items hok d rest pos hd h35

/-- …in particular at the very end of the data, `#xx` last included (the flushed newline ends it). -/
theorem C01_name_token_eof (items : List NameItem) (hok : ∀ i ∈ items, i.ok) :
    specLex (47 :: renderName items) = [(0, Token.lit (nameValue items))] := by
  obtain ⟨st', hm, h⟩ := C01_name_token St.init rfl items hok 10 [] 0 (by rw [isEND_LITERAL_eq]; rfl) (by decide)
  unfold specLex
  rw [show (47 :: renderName items) ++ [10] = 47 :: renderName items ++ 10 :: [] from rfl, h,
    handover_newline (.inl hm)]

theorem C01_name_token_buffered (b : Nat) (hb : 1 ≤ b) (items : List NameItem) (hok : ∀ i ∈ items, i.ok) :
    run b (47 :: renderName items) = some [(0, Token.lit (nameValue items))] := by
  rw [C14.C14_run_eq_spec b hb, C01_name_token_eof items hok]

/-- Non-vacuity: `/A#20#2fb` is the name `A /b`. -/
example : (∀ i ∈ [NameItem.raw 65, .esc 50 48, .esc 50 102, .raw 98], i.ok) ∧
    renderName [NameItem.raw 65, .esc 50 48, .esc 50 102, .raw 98] = [65, 35, 50, 48, 35, 50, 102, 98] ∧
    nameValue [NameItem.raw 65, .esc 50 48, .esc 50 102, .raw 98] = [65, 32, 47, 98] := by
  decide +kernel

/-- the hexadecimal digits of a body, white space (incl. NUL) removed -/
def hexDigits (body : Bytes) : Bytes := body.filter (fun c => !isSPC c)

/-- FULL statement (ISO 32000-1 7.3.4.3): `<` + hex digits of either case with white space anywhere +
    `>` reads as the bytes of the digit pairs, a final odd digit being followed by an assumed 0. -/
def C01_hex_statement : Prop :=
  ∀ (body : Bytes), (∀ c ∈ body, isHEX c = true ∨ isSPC c = true) →
    specLex (60 :: body ++ [62]) = [(0, Token.str (pairUp (hexDigits body)))]

/-- Proved for an even number of digits (any case, white space anywhere, any position, any state
    of the other parser attributes); the `>` leaves the tokenizer in `_parse_wclose`. -/
theorem C01_hex_token_partial (st : St) (hm : st.mode = .main) (body : Bytes) (pos : Nat) (n : Nat)
    (hb : ∀ c ∈ body, isHEX c = true ∨ isSPC c = true) (heven : (hexDigits body).length = 2 * n) :
    foldBytes st (60 :: body ++ [62]) pos =
      ({ st with tpos := pos + 1 + body.length, cur := [], mode := .wclose },
       [(pos, Token.str (pairUp (hexDigits body)))]) :=
  hex_spelling st hm body pos n hb heven

/-- After the `>` of a hexadecimal string any byte but `>` is handled by the main scanner. -/
theorem C01_hex_then (st : St) (hm : st.mode = .wclose) (d : UInt8) (p : Nat) (hd : d ≠ 62) :
    stepByte st d p = stepByte { st with mode := .main } d p :=
  wclose_other st d p hm hd

theorem C01_hex_token_eof_partial (body : Bytes) (n : Nat)
    (hb : ∀ c ∈ body, isHEX c = true ∨ isSPC c = true) (heven : (hexDigits body).length = 2 * n) :
    specLex (60 :: body ++ [62]) = [(0, Token.str (pairUp (hexDigits body)))] := by
  unfold specLex
  rw [foldBytes_append, C01_hex_token_partial St.init rfl body 0 n hb heven, handover_newline (.inr rfl)]
  rfl

/-- What the code reads for EVERY hexadecimal string, with no restriction on the digit count: the digit
    pairs, a final odd digit as the LOW nibble (`codePairUp`).  Together with `C01_hex_code_even` this says
    exactly where the code leaves ISO 32000-1 7.3.4.3 (`pairUp`): only in the last byte of an odd-length
    string — the open finding, nothing else. -/
theorem C01_hex_token_code (body : Bytes) (hb : ∀ c ∈ body, isHEX c = true ∨ isSPC c = true) :
    specLex (60 :: body ++ [62]) = [(0, Token.str (codePairUp (hexDigits body)))] := by
  unfold specLex
  rw [foldBytes_append, hex_spelling_code St.init rfl body 0 hb, handover_newline (.inr rfl)]
  rfl

theorem C01_hex_token_code_buffered (b : Nat) (hb1 : 1 ≤ b) (body : Bytes)
    (hb : ∀ c ∈ body, isHEX c = true ∨ isSPC c = true) :
    run b (60 :: body ++ [62]) = some [(0, Token.str (codePairUp (hexDigits body)))] := by
  rw [C14.C14_run_eq_spec b hb1, C01_hex_token_code body hb]

theorem C01_hex_code_even (ds : Bytes) (n : Nat) (h : ds.length = 2 * n) : codePairUp ds = pairUp ds :=
  codePairUp_even n ds h

/-- Non-vacuity: `<4 1<NUL>4a7>` (odd): code 41 4A 07, ISO 41 4A 70. -/
example : (∀ c ∈ ([52, 32, 49, 0, 52, 97, 55] : Bytes), isHEX c = true ∨ isSPC c = true) ∧
    codePairUp (hexDigits [52, 32, 49, 0, 52, 97, 55]) = [65, 74, 7] ∧
    pairUp (hexDigits [52, 32, 49, 0, 52, 97, 55]) = [65, 74, 112] := by decide +kernel

/-- The code breaks the full statement on an odd digit count: `<2>` reads as 0x02, ISO says 0x20
    (open finding `odd-hex-digit`; the unit tests pin this behaviour). -/
theorem C01_odd_hex_cex : specLex [60, 50, 62] = [(0, Token.str [2])] ∧ pairUp (hexDigits [50]) = [32] := by
  constructor <;> decide +kernel

theorem C01_hex_statement_fails : ¬ C01_hex_statement := by
  intro h
  have h1 := h [50] (by intro c hc; simp at hc; subst hc; left; decide +kernel)
  have h2 := C01_odd_hex_cex
  simp only [List.cons_append, List.nil_append] at h1
  rw [h2.1, h2.2] at h1
  exact absurd h1 (by decide)

/-- Non-vacuity: `<4 1\x00 4a>` (white space and NUL inside, mixed case) meets the hypotheses. -/
example : (∀ c ∈ ([52, 32, 49, 0, 52, 97] : Bytes), isHEX c = true ∨ isSPC c = true) ∧
    (hexDigits [52, 32, 49, 0, 52, 97]).length = 2 * 2 ∧ pairUp (hexDigits [52, 32, 49, 0, 52, 97]) = [65, 74] := by
  decide +kernel

/-- Every spelling `(` + items + `)` — raw bytes, the escapes of Table 3, 1–3 digit octal escapes
    (overflow above \377 ignored), backslash + LF / CR / CR LF continuations, an ignored backslash
    before any other byte, raw balanced parentheses to any depth — reads as exactly the bytes the
    items denote, at the position of the `(`, and leaves the tokenizer in the main scanner.
    `chainOK`: a 1–2 digit octal escape is not followed by an octal digit and backslash-CR not by LF
    (otherwise the spelling means something else). -/
theorem C01_string_token (st : St) (hm : st.mode = .main) (items : List StrItem) (pos : Nat)
    (hok : ∀ i ∈ items, i.ok) (hch : chainOK items) (hbal : depthAfter 0 items = some 0) :
    ∃ st', st'.mode = .main ∧
      foldBytes st (40 :: renderStr items ++ [41]) pos = (st', [(pos, Token.str (strValue items))]) :=
  string_token st hm items pos hok hch hbal

theorem C01_string_token_eof (items : List StrItem)
    (hok : ∀ i ∈ items, i.ok) (hch : chainOK items) (hbal : depthAfter 0 items = some 0) :
    specLex (40 :: renderStr items ++ [41]) = [(0, Token.str (strValue items))] := by
  obtain ⟨st', hm, h⟩ := C01_string_token St.init rfl items 0 hok hch hbal
  unfold specLex
  rw [foldBytes_append, h, handover_newline (.inl hm)]
  rfl

/-- …and therefore from the buffered tokenizer at every buffer size (a continuation or an escape may
    straddle any buffer boundary). -/
theorem C01_string_token_buffered (b : Nat) (hb : 1 ≤ b) (items : List StrItem)
    (hok : ∀ i ∈ items, i.ok) (hch : chainOK items) (hbal : depthAfter 0 items = some 0) :
    run b (40 :: renderStr items ++ [41]) = some [(0, Token.str (strValue items))] := by
  rw [C14.C14_run_eq_spec b hb, C01_string_token_eof items hok hch hbal]

/-- Non-vacuity: `(a\<CR><LF>(\5)\053\n\Z)` = `a(<05>)+<LF>Z`: continuation, raw balanced parentheses, a short octal
    escape followed by `)`, a three-digit one, an escape letter, an ignored backslash. -/
example :
    let items := [StrItem.raw 97, .cont .crlf, .popen, .oct1 53, .pclose, .oct3 48 53 51, .esc 110, .ign 90]
    (∀ i ∈ items, i.ok) ∧ chainOK items ∧ depthAfter 0 items = some 0 ∧
      renderStr items = [97, 92, 13, 10, 40, 92, 53, 41, 92, 48, 53, 51, 92, 110, 92, 90] ∧
      strValue items = [97, 40, 5, 41, 43, 10, 90] := by
  refine ⟨by decide +kernel, ?_, by decide, by decide, by decide +kernel⟩
  simp [chainOK, StrItem.nextOK, StrItem.render]
  decide +kernel

/-- Arrays and dictionaries nested to ANY depth, and a bare `n g R`: feeding the token sequence of a tree
    to the stack parser (PDFStreamParser: `flush` holds back up to two trailing integers, `nextobject`
    hands them out at PSEOF = `finish`) yields exactly that tree (null-valued dictionary entries
    absent), nothing else, no error. -/
theorem C01_nesting (v : PObj) (hc : clean v) :
    finish (feedAll {} (ser v)) = { results := [norm v] } :=
  finish_top _ _ (top_ser [] {} v hc ⟨rfl, rfl, rfl, rfl⟩)

/-- The `getobj` reader (PDFParser behind PDFDocument.getobj): on the tokens `objid gen obj <tree> endobj …`
    it returns exactly the tree's value — for EVERY clean tree, a bare `n g R` included. -/
theorem C01_getobj_nesting (objid gen : Int) (v : PObj) (hc : clean v) (more : List Token) :
    getobjToks objid (Token.int objid :: Token.int gen :: Token.kwd kwObj :: (ser v ++ Token.kwd kwEndobj :: more))
      = .ok (norm v) := by
  have hend : feedWith objDialect (push {} (norm v)) (Token.kwd kwEndobj) = { results := [norm v] } := by
    rw [feedWith_kwd _ kwEndobj rfl (by decide)]
    simp +decide [endIter, push, objDialect, doKeywordP, popToResults]
  simp only [getobjToks, bne_self_eq_false, Bool.false_eq_true, if_false]
  rw [(nextobjectP_ser v hc _).2, nextobjectP_step _ _ _ rfl rfl, hend, nextobjectP_done _ _ (by simp)]

/-- Non-vacuity: `<< /K [ 1 7 R null (s) ] /N null >>` — two levels, a reference, a dropped entry —
    meets the hypotheses. -/
example : clean (.dict [([75], .arr [.ref 1 7, .null, .str [115]]), ([78], .null)]) := by
  simp only [clean, cleanEntries, cleanList, keysOf, and_self, true_and]
  exact ⟨by decide, by intro k hk; simp at hk; rcases hk with rfl | rfl <;> decide⟩

theorem ho_newline (st : St) (p : Nat) (h : HO st) : (foldBytes st [10] p).2 = [] :=
  handover_newline h p

theorem C01_tokens (pad : List SepItem) (hpad : sepOK pad) (t : STree) (hwf : wf t) :
    tokVals (specLex (renderSep pad ++ bytesOf t)) = ser (valueOf t) :=
  (LexUnit.append_free (LexUnit.sep pad hpad) (lex_tree t hwf)).specLex

/-- END-TO-END round trip for spelled trees of ANY depth: every token-level spelling freedom (integer
    signs / leading zeros, every real form, `#xx` names, all string escapes / octal / continuations /
    nested parentheses, hex case and inner white space incl. NUL), any separator between tokens —
    white space of every kind, comments, or NOTHING where a delimiter follows (minimal delimiters,
    e.g. `[/A/B(s)<41>]`, `<</K<41>>>`) — any generation number: reading the bytes with the tokenizer
    and the stack parser yields exactly the value, once, with no error.
    A bare `n g R` is read too (PDFStreamParser holds back trailing integers).
    `_partial` only because of the even hex digit count (open finding `odd-hex-digit`). -/
theorem C01_roundtrip_partial (t : STree) (hwf : wf t) :
    objects (specLex (bytesOf t)) = { results := [norm (valueOf t)] } :=
  objects_spelled [] sepOK_nil t hwf

/-- …at every read-buffer size: the result does not depend on where the buffer boundaries fall. -/
theorem C01_roundtrip_buffered_partial (b : Nat) (hb : 1 ≤ b) (t : STree) (hwf : wf t) :
    (run b (bytesOf t)).map objects = some { results := [norm (valueOf t)] } := by
  rw [C14.C14_run_eq_spec b hb, Option.map_some, C01_roundtrip_partial t hwf]

/-- Independence of the object's offset: any white space and comments in front (so any absolute
    position, any alignment with the read buffers) leave the value read unchanged. -/
theorem C01_offset_partial (b : Nat) (hb : 1 ≤ b) (pad : List SepItem) (hpad : sepOK pad) (t : STree) (hwf : wf t) :
    (run b (renderSep pad ++ bytesOf t)).map objects = some { results := [norm (valueOf t)] } := by
  rw [C14.C14_run_eq_spec b hb, Option.map_some, objects_spelled pad hpad t hwf]

/-- Several objects in a row, read by successive `nextobject()` calls (content / object streams): the
    operand stack and the results queue carried from one call to the next — with up to two trailing
    integers held back by `flush` and handed out at PSEOF — deliver every value exactly once, in
    order, whatever the sequence ends with. -/
theorem C01_sequence_nesting (vs : List PObj) (hc : cleanList vs) :
    (finish (feedAll {} (serList vs))).results = normList vs ∧ (finish (feedAll {} (serList vs))).error = none := by
  have h := finish_top _ _ (top_serList vs [] {} hc ⟨rfl, rfl, rfl, rfl⟩)
  unfold feedAll
  rw [h]
  exact ⟨rfl, rfl⟩

/-- …end to end, from the bytes, at every buffer size, behind any separator. -/
theorem C01_sequence_roundtrip_partial (b : Nat) (hb : 1 ≤ b) (pad : List SepItem) (hpad : sepOK pad)
    (ts : List STree) (hwf : wfList ts) :
    (run b (renderSep pad ++ bytesList ts)).map (fun toks => ((objects toks).results, (objects toks).error))
      = some (normList (valueList ts), none) := by
  rw [C14.C14_run_eq_spec b hb, Option.map_some, objects_spelled_list pad hpad ts hwf]

/-- Non-vacuity: `3 4 ` — the two trailing integers of seeded change C01-m7 — is a well-formed sequence. -/
example : wfList [.int [] [51] [.ws 32], .int [] [52] [.ws 32]] := by
  simp only [wfList, wfListE, wfE, endsReg]
  exact ⟨by decide, ⟨by decide, trivial, by simp⟩, by simp⟩

/-- END-TO-END for the `getobj` reader: an indirect object `n g obj <spelled tree> endobj` (any separators,
    minimal delimiters and comments included, any white space / comments in front, any buffer size)
    read by the tokenizer and `PDFDocument._getobj_parse` / `PDFParser.nextobject` yields exactly the
    tree's value — a bare `n g R` included.  (`_partial`: even hex digit count only; the offset comes from
    the cross-reference table, which is C02's business; for a stream object see `C01_stream_object_partial`.) -/
theorem C01_getobj_roundtrip_partial (b : Nat) (hb : 1 ≤ b) (pad : List SepItem) (hpad : sepOK pad)
    (o : ObjSpelling) (ho : o.wf) :
    (run b (renderSep pad ++ o.bytes)).map (fun ts => getobjToks (intValue [] o.ds) (tokVals ts))
      = some (.ok (norm (valueOf o.body))) := by
  have htok : tokVals (specLex (renderSep pad ++ o.bytes)) =
      Token.int (intValue [] o.ds) :: Token.int (intValue [] o.gs) :: Token.kwd kwObj ::
        (ser (valueOf o.body) ++ Token.kwd kwEndobj :: []) :=
    (LexUnit.append_free (LexUnit.sep pad hpad) (lex_obj o ho)).specLex
  rw [C14.C14_run_eq_spec b hb, Option.map_some, htok,
    C01_getobj_nesting _ _ _ (clean_tree o.body ho.body) []]

/-- Non-vacuity: `12 0 obj<</K 7 3 R>>endobj` (no white space around the dictionary) is a well-formed object
    spelling whose body is a dictionary holding a reference with generation 3; a bare reference body works too. -/
example : (ObjSpelling.mk [49, 50] [.ws 32] [48] [.ws 32] []
      (.dict [] [([.raw 75], [.ws 32], .ref [55] [.ws 32] [51] [.ws 32] [])] []) []).wf ∧
    (ObjSpelling.mk [49, 50] [.ws 32] [48] [.ws 10] [.ws 32] (.ref [55] [.ws 32] [51] [.ws 32] [.ws 10]) []).wf := by
  have hr : wf (.ref [55] [.ws 32] [51] [.ws 32] []) := by simp only [wf, wfE]; decide
  have hr2 : wf (.ref [55] [.ws 32] [51] [.ws 32] [.ws 10]) := by simp only [wf, wfE]; decide
  have hd : wf (.dict [] [([.raw 75], [.ws 32], .ref [55] [.ws 32] [51] [.ws 32] [])] []) := by
    simp only [wf, wfE, wfEntriesE, valueEntries, keysOf] at hr ⊢
    exact ⟨by decide, ⟨by decide +kernel, by decide, by simp, hr, trivial⟩, by decide, by decide, by decide +kernel⟩
  exact ⟨⟨by decide, by decide, by decide, by decide, by decide, by decide, by decide,
      fun _ rest => by simp [bytesOf, isDW], hd, rfl, by decide⟩,
    ⟨by decide, by decide, by decide, by decide, by decide, by decide, by decide, by simp, hr2, rfl, by decide⟩⟩

/-- The executable ISO 32000-1 reader used as run-time oracle (`Spec/Syntax.spellcheck`) accepts EVERY
    conformant spelled tree — odd hex digit counts included (`wfE false`) — behind any separator, and
    returns the value the theorems are about (`specValue`: `intValue`, `realRat`, `nameValue`, `strValue`,
    `pairUp`, …).  So the family of the round-trip theorems lies inside the oracle's domain and both
    assign the same values; the tables of the tokenizer (`ESC_STRING`, white space, octal / hex digits) are
    proved equal to the ISO ones on the way (`esc_eq`, `oct_eq`, `hex_spec`, `isEOL_eq`, …). -/
theorem C01_spec_complete (e : Bool) (pad : List SepItem) (hpad : sepOK pad) (t : STree) (h : wfE e t) :
    Syntax.spellcheck (renderSep pad ++ bytesOf t) = some (specValue t) :=
  spellcheck_complete pad hpad t h

/-- …in particular `<2>` is accepted by the oracle with the ISO value 0x20 (where the code reads 0x02). -/
example : Syntax.spellcheck [60, 50, 62] = some (.str (pairUp (hexDigitsOf [50]))) ∧ pairUp (hexDigitsOf [50]) = [32] := by
  have hw : wfE false (.hex [50] []) := by
    simp only [wfE]
    exact ⟨by decide +kernel, by simp, by decide⟩
  have := C01_spec_complete false [] sepOK_nil (.hex [50] []) hw
  exact ⟨by simpa [renderSep, bytesOf, specValue] using this, by decide +kernel⟩

/-- Non-vacuity, with minimal delimiters, a comment and a generation number:
    `[-07/A#20(a\)b)<4 1><</K/V>>3 7 R]%c<LF>`. -/
example : wf (.arr [] [.int [45] [48, 55] [], .name [.raw 65, .esc 50 48] [], .str [.raw 97, .esc 41, .raw 98] [],
      .hex [52, 32, 49] [], .dict [] [([.raw 75], [], .name [.raw 86] [])] [],
      .ref [51] [.ws 32] [55] [.ws 32] []] [.comment [99] 10]) := by
  have h1 : wf (.int [45] [48, 55] []) := by simp only [wf, wfE]; decide
  have h2 : wf (.name [.raw 65, .esc 50 48] []) := by simp only [wf, wfE]; decide +kernel
  have h3 : wf (.str [.raw 97, .esc 41, .raw 98] []) := by
    simp only [wf, wfE]
    exact ⟨by decide +kernel, by simp [chainOK, StrItem.nextOK], by decide, by decide⟩
  have h4 : wf (.hex [52, 32, 49] []) := by
    simp only [wf, wfE]
    exact ⟨by decide +kernel, fun _ => ⟨1, by decide +kernel⟩, by decide⟩
  have h5 : wf (.dict [] [([.raw 75], [], .name [.raw 86] [])] []) := by
    simp only [wf, wfE, wfEntriesE, valueEntries, keysOf]
    exact ⟨by decide, ⟨by decide +kernel, by decide, fun _ rest => by simp [bytesOf, isDW], by decide +kernel, trivial⟩,
      by decide, by decide, by decide +kernel⟩
  have h6 : wf (.ref [51] [.ws 32] [55] [.ws 32] []) := by simp only [wf, wfE]; decide
  have hc : sepOK [.comment [99] 10] := by decide +kernel
  simp only [wf, wfE, wfListE, wfEntriesE]
  simp only [wf, wfE, wfEntriesE] at h1 h2 h3 h4 h5 h6
  refine ⟨by decide, ⟨h1, ⟨h2, ⟨h3, ⟨h4, ⟨h5, ⟨h6, trivial, ?_⟩, ?_⟩, ?_⟩, ?_⟩, ?_⟩, ?_⟩, hc⟩
  -- what follows each item: nothing (last), or the item does not end in a regular run, or a delimiter
  · intro _ h; exact absurd rfl h
  · intro h; cases h
  · intro h; cases h
  · intro h; cases h
  · intro _ _ rest; simp [bytesList, bytesOf, isDW]
  · intro _ _ rest; simp [bytesList, bytesOf, isDW]

/-! ### the second sentence of the property, for EVERY byte string (no `_partial`)

"The result does not depend on where the reader's buffer boundaries fall or on the object's absolute
offset in the file."  These statements do not say WHICH value is read, so they hold for every input —
conformant or damaged, odd hexadecimal strings included. -/

theorem tokVals_shift (k : Nat) (ts : List PTok) : tokVals (shiftToks k ts) = tokVals ts := by
  simp [tokVals, shiftToks]

theorem objects_tokVals (ts ts' : List PTok) (h : tokVals ts = tokVals ts') : objects ts = objects ts' := by
  unfold objects; simp only [tokVals] at h; rw [h]

/-- Buffer boundaries: the objects read do not depend on the read-buffer size, on any input. -/
theorem C01_bufsize_indep (b₁ b₂ : Nat) (h₁ : 1 ≤ b₁) (h₂ : 1 ≤ b₂) (data : Bytes) :
    (run b₁ data).map objects = (run b₂ data).map objects := by
  rw [C14.C14_bufsize_indep b₁ b₂ h₁ h₂ data]

/-- Offset: a prefix that holds no token and leaves the lexer in its main scanner (white space, complete
    comments) changes nothing but the token positions, which the stack parser does not look at: the
    objects read from `pre ++ data` are those read from `data`, for EVERY `data` and buffer size. -/
theorem C01_offset_indep (b : Nat) (hb : 1 ≤ b) (pre data : Bytes) (hm : modeAfter pre = .main)
    (hno : specLex pre = []) : (run b (pre ++ data)).map objects = (run b data).map objects := by
  rw [C14.C14_run_eq_spec b hb, C14.C14_run_eq_spec b hb, Option.map_some, Option.map_some,
    C14.C14_compositional_main pre data hm, hno, List.nil_append]
  exact congrArg some (objects_tokVals _ _ (tokVals_shift _ _))

/-- … in particular behind any run of white-space bytes (every byte of the regenerated SPC table). -/
theorem C01_offset_indep_ws (b : Nat) (hb : 1 ≤ b) (pad data : Bytes) (hws : ∀ c ∈ pad, isSPC c = true) :
    (run b (pad ++ data)).map objects = (run b data).map objects := by
  have h := main_skip_all pad St.init 0 rfl hws
  refine C01_offset_indep b hb pad data h.2 ?_
  unfold specLex
  rw [foldBytes_append, h.1]
  have := fun p => main_nl (foldBytes St.init pad 0).1 p h.2
  simp [foldBytes, this]

/-- Splitting (content streams, C05): when `a` ends in a complete token, the stack parser fed with the
    tokens of `a ++ ws ++ b` is in the state reached by feeding the tokens of `a` and then those of `b` —
    operands left on the stack by `a` are seen by `b`. -/
theorem C01_concat_feed (a ws b : Bytes) (hc : Complete (modeAfter a) = true) (hne : ws ≠ [])
    (hws : ∀ c ∈ ws, isSPC c = true) :
    feedAll {} (tokVals (specLex (a ++ ws ++ b))) = feedAll (feedAll {} (tokVals (specLex a))) (tokVals (specLex b)) := by
  rw [C14.C14_compositional a ws b hc hne hws]
  have h : tokVals (concatLex a ws b) = tokVals (specLex a) ++ tokVals (specLex b) := by
    unfold concatLex
    rw [show ∀ x y : List PTok, tokVals (x ++ y) = tokVals x ++ tokVals y from fun x y => List.map_append,
      tokVals_shift]
  rw [h]
  simp [feedAll, feedAllWith, List.foldl_append]

theorem ho_fresh (st : St) (h : HO st) (d : UInt8) (tl : Bytes) (p : Nat) (hd : d ≠ 62) :
    tokVals (foldBytes st (d :: tl) p).2 = tokVals (foldBytes St.init (d :: tl) 0).2 :=
  handover_fresh st h d tl p hd

/-- Context independence: what follows a spelled value — after ANY white-space or delimiter byte `d` but
    `>` — never changes the tokens of the value, and is itself tokenised as if it stood alone:
    `rest` is an arbitrary byte string (the next object, `endobj`, binary data, damaged input).  Full
    statement for the tokens: no restriction on the hex digit count, no size bound. -/
theorem C01_context_indep (pad : List SepItem) (hpad : sepOK pad) (t : STree) (hwf : wf t)
    (d : UInt8) (rest : Bytes) (hd : isDW d = true) (hd62 : d ≠ 62) :
    tokVals (specLex (renderSep pad ++ bytesOf t ++ d :: rest)) = ser (valueOf t) ++ tokVals (specLex (d :: rest)) := by
  have hu := LexUnit.append_free (LexUnit.sep pad hpad) (lex_tree t hwf)
  obtain ⟨st', hHO, h⟩ := hu St.init d (rest ++ [10]) 0 (Or.inl rfl) (fun _ => hd)
  unfold specLex
  have e : (renderSep pad ++ bytesOf t ++ d :: rest) ++ [10] = (renderSep pad ++ bytesOf t) ++ d :: (rest ++ [10]) := by
    simp
  rw [e, h, ho_fresh st' hHO d (rest ++ [10]) _ hd62]
  simp

/-- Non-vacuity: `[1/A]` followed by NUL and an unbalanced, damaged tail. -/
example : tokVals (specLex ([91, 49, 47, 65, 93] ++ 0 :: [60, 50, 62, 41, 40, 97]))
    = [.kwd [91], .int 1, .lit [65], .kwd [93]] ++ tokVals (specLex (0 :: [60, 50, 62, 41, 40, 97])) := by
  decide +kernel

/-- Non-vacuity: a damaged input (odd hex string, unbalanced bracket) behind NUL / CR / a comment. -/
example : modeAfter [0, 13, 37, 99, 10, 32] = .main ∧ specLex [0, 13, 37, 99, 10, 32] = [] ∧
    showState (objects (specLex ([0, 13, 37, 99, 10, 32] ++ [60, 50, 62, 93, 49])))
      = showState (objects (specLex [60, 50, 62, 93, 49])) ∧
    showState (objects (specLex [60, 50, 62, 93, 49])) ≠ showState {} := by decide +kernel
example : Complete (modeAfter [49, 32, 50]) = true ∧
    showState (feedAll {} (tokVals (specLex ([49, 32, 50] ++ [10] ++ [82]))))
      = showState (feedAll (feedAll {} (tokVals (specLex [49, 32, 50]))) (tokVals (specLex [82]))) ∧
    showState (feedAll {} (tokVals (specLex ([49, 32, 50] ++ [10] ++ [82])))) ≠
      showState (feedAll {} (tokVals (specLex [49, 32, 50]))) := by decide +kernel

open PdfVerif.Gen.Filters in
/-- `objid gen obj <<dict>>` + white space + `stream` + LF|CRLF + payload `d` + (marker-free `tail`) +
    `endstream endobj` + EOL + anything, with a direct `/Length` equal to `|d|`: `getobj` yields the stream
    object with exactly that dictionary and exactly that payload, at every buffer size.  The tokenizer
    (`C14_compositional`), the stack parser (`feed_ser`, `nextobjectP_prefix`) and C03's model of the `stream`
    branch (`Filters.streamRead`, `C03.stream_read_exact`) are COMPOSED: the position the tokenizer reports for the keyword
    is the position from which `streamRead` returns the payload, and the position `streamRead` leaves the
    parser at is where the tokenizer finds `endstream endobj`.
    `_partial`: the reading of the part in front of the keyword is a hypothesis on `pre` (`hc`: it ends in a
    complete token; `hpre`: its tokens are `objid gen obj` + the tokens of a clean dictionary).  Both are decidable
    for any concrete `pre` and checked on every generated stream object; for the spelled family both are proved
    (`C01_stream_object_spelled`). -/
theorem C01_stream_object_partial (b : Nat) (hb : 1 ≤ b) (objid gen : Int) (v : PObj) (es : List (Bytes × SObj))
    (pre ws eol0 d tail eol rest : Bytes)
    (hc : Complete (modeAfter pre) = true)
    (hpre : tokVals (specLex pre) = Token.int objid :: Token.int gen :: Token.kwd kwObj :: ser v)
    (hclean : clean v) (hdict : norm v = .dict es) (hlen : ObjParser.lookupLength es = some (.int d.length))
    (hne : ws ≠ []) (hws : ∀ c ∈ ws, isSPC c = true) (heol0 : eol0 = [10] ∨ eol0 = [13, 10])
    (htail : Filters.findSub ENDSTREAM_MARK (tail ++ ENDSTREAM_MARK) = some tail.length)
    (heol : Filters.EolOk eol rest) :
    ObjParser.getobjS b objid
      ((pre ++ ws) ++ kwStream ++ eol0 ++ (d ++ (tail ++ ENDSTREAM_MARK ++ ([32] ++ kwEndobj) ++ eol ++ rest)))
      = .ok (.stream es d) := by
  have hkwq : ∀ c ∈ ([32] ++ kwEndobj : Bytes), c ≠ 10 ∧ c ≠ 13 := by decide
  have heol0' : Filters.EolOk eol0 (d ++ (tail ++ ENDSTREAM_MARK ++ ([32] ++ kwEndobj) ++ eol ++ rest)) := by
    rcases heol0 with h | h <;> simp [Filters.EolOk, h]
  have hread := C03.stream_read_exact (pre ++ ws) kwStream eol0 d tail ([32] ++ kwEndobj) eol rest
    StreamSeam.kwStream_noeol heol0' htail hkwq heol
  have hdrop : List.drop ((pre ++ ws).length + kwStream.length + eol0.length + d.length + tail.length)
      ((pre ++ ws) ++ kwStream ++ eol0 ++ (d ++ (tail ++ ENDSTREAM_MARK ++ ([32] ++ kwEndobj) ++ eol ++ rest))) =
        ENDSTREAM_MARK ++ [32] ++ (kwEndobj ++ eol ++ rest) := by
    rw [show (pre ++ ws) ++ kwStream ++ eol0 ++ (d ++ (tail ++ ENDSTREAM_MARK ++ ([32] ++ kwEndobj) ++ eol ++ rest)) =
      ((pre ++ ws) ++ kwStream ++ eol0 ++ d ++ tail) ++ (ENDSTREAM_MARK ++ [32] ++ (kwEndobj ++ eol ++ rest)) by
        simp [List.append_assoc]]
    exact List.drop_left' (by simp [Nat.add_assoc])
  exact StreamSeam.getobjS_stream b objid gen _ (specLex pre) _ _ (pre ++ ws).length _ v es d _
    (by rw [C14.C14_run_eq_spec b hb, StreamSeam.lex_to_stream pre ws eol0 _ hc hne hws heol0]) hpre hclean hdict hlen
    hread (by rw [C14.C14_run_eq_spec b hb, hdrop, StreamSeam.lex_after_stream eol rest heol]) rfl

open PdfVerif.Gen.Filters in
/-- The same for the proved spelled family: `objid gen obj` and the dictionary spelled with every freedom of
    `ObjSpelling.wf` / `wf` (separators incl. comments, minimal delimiters, `#xx` names, nested values, references).
    The token hypothesis of `C01_stream_object_partial` is discharged (`StreamSeam.head_tokens`, from `lex_tree`);
    `_partial`: `hc` — that the scanner is in a `Complete` state after the dictionary — remains a hypothesis. -/
theorem C01_stream_object_spelled_partial (b : Nat) (hb : 1 ≤ b) (o : ObjSpelling) (ho : o.wf)
    (es : List (Bytes × SObj)) (ws eol0 d tail eol rest : Bytes)
    (hc : Complete (modeAfter (StreamSeam.headBytes o)) = true)
    (hdict : norm (valueOf o.body) = .dict es) (hlen : ObjParser.lookupLength es = some (.int d.length))
    (hne : ws ≠ []) (hws : ∀ c ∈ ws, isSPC c = true) (heol0 : eol0 = [10] ∨ eol0 = [13, 10])
    (htail : Filters.findSub ENDSTREAM_MARK (tail ++ ENDSTREAM_MARK) = some tail.length)
    (heol : Filters.EolOk eol rest) :
    ObjParser.getobjS b (intValue [] o.ds)
      ((StreamSeam.headBytes o ++ ws) ++ kwStream ++ eol0 ++
        (d ++ (tail ++ ENDSTREAM_MARK ++ ([32] ++ kwEndobj) ++ eol ++ rest)))
      = .ok (.stream es d) :=
  C01_stream_object_partial b hb (intValue [] o.ds) (intValue [] o.gs) (valueOf o.body) es (StreamSeam.headBytes o)
    ws eol0 d tail eol rest hc (StreamSeam.head_tokens o ho) (clean_tree o.body ho.body) hdict hlen hne hws
    heol0 htail heol

open PdfVerif.Gen.Filters in
/-- FULL for the spelled family: no hypothesis on the scanner state is left.
    `Complete (modeAfter head)` comes from `StreamSeam.unit_complete`, the mode-tracking companion of `LexUnit`:
    a scanner inside a string / hex string / comment would read ` 1 ` and ` 2 ` alike, the unit says it does not. -/
theorem C01_stream_object_spelled (b : Nat) (hb : 1 ≤ b) (o : ObjSpelling) (ho : o.wf)
    (es : List (Bytes × SObj)) (ws eol0 d tail eol rest : Bytes)
    (hdict : norm (valueOf o.body) = .dict es) (hlen : ObjParser.lookupLength es = some (.int d.length))
    (hne : ws ≠ []) (hws : ∀ c ∈ ws, isSPC c = true) (heol0 : eol0 = [10] ∨ eol0 = [13, 10])
    (htail : Filters.findSub ENDSTREAM_MARK (tail ++ ENDSTREAM_MARK) = some tail.length)
    (heol : Filters.EolOk eol rest) :
    ObjParser.getobjS b (intValue [] o.ds)
      ((StreamSeam.headBytes o ++ ws) ++ kwStream ++ eol0 ++
        (d ++ (tail ++ ENDSTREAM_MARK ++ ([32] ++ kwEndobj) ++ eol ++ rest)))
      = .ok (.stream es d) :=
  C01_stream_object_spelled_partial b hb o ho es ws eol0 d tail eol rest
    (StreamSeam.unit_complete _ _ (StreamSeam.lex_head o ho)) hdict hlen hne hws heol0 htail heol

/-- The scanner state after any spelled value that does not end in a regular run (containers, strings, or
    anything followed by a separator) is a `Complete` one — the hypothesis of `C14_compositional` holds
    for the whole family. -/
theorem C01_tree_complete (pad : List SepItem) (hpad : sepOK pad) (t : STree) (hwf : wf t) (hreg : endsReg t = false) :
    Complete (modeAfter (renderSep pad ++ bytesOf t)) = true := by
  have hu := LexUnit.append_free (LexUnit.sep pad hpad) (lex_tree t hwf)
  rw [hreg] at hu
  exact StreamSeam.unit_complete _ _ hu

/-- Non-vacuity of the spelled form: `12 0 obj<</Length 4>>` is a well-formed head whose scanner state is
    `Complete`, whose value is a dictionary with a direct `/Length 4`. -/
example : ∃ o : ObjSpelling, o.wf ∧ Complete (modeAfter (StreamSeam.headBytes o)) = true ∧
    (norm (valueOf o.body)).show = (SObj.dict [([76, 101, 110, 103, 116, 104], .int 4)]).show := by
  -- the scanner state follows from well-formedness (`unit_complete`); only the value is computed
  suffices hwf : (ObjSpelling.mk [49, 50] [.ws 32] [48] [.ws 32] []
      (.dict [] [([.raw 76, .raw 101, .raw 110, .raw 103, .raw 116, .raw 104], [.ws 32], .int [] [52] [])] []) []).wf from
    ⟨_, hwf, StreamSeam.unit_complete _ _ (StreamSeam.lex_head _ hwf), by decide +kernel⟩
  have hd : wf (.dict [] [([.raw 76, .raw 101, .raw 110, .raw 103, .raw 116, .raw 104], [.ws 32], .int [] [52] [])] []) := by
    simp only [wf, wfE, wfEntriesE, valueEntries, keysOf]
    exact ⟨by decide, ⟨by decide +kernel, by decide, by simp, by decide, trivial⟩, by decide, by decide, by decide +kernel⟩
  exact ⟨by decide, by decide, by decide, by decide, by decide, by decide, by decide,
    fun _ rest => by simp [bytesOf, isDW], hd, rfl, by decide⟩

/-- Non-vacuity: `5 0 obj<</Length 4>>` LF `stream` CRLF `a)` NUL `e` LF `endstream endobj` LF `x`, buffer size 3. -/
example :
    Complete (modeAfter [53, 32, 48, 32, 111, 98, 106, 60, 60, 47, 76, 101, 110, 103, 116, 104, 32, 52, 62, 62]) = true ∧
    tokVals (specLex [53, 32, 48, 32, 111, 98, 106, 60, 60, 47, 76, 101, 110, 103, 116, 104, 32, 52, 62, 62])
      = Token.int 5 :: Token.int 0 :: Token.kwd kwObj :: ser (.dict [([76, 101, 110, 103, 116, 104], .int 4)]) ∧
    (ObjParser.getobjS 3 5
      (([53, 32, 48, 32, 111, 98, 106, 60, 60, 47, 76, 101, 110, 103, 116, 104, 32, 52, 62, 62] ++ [10]) ++ kwStream ++
        [13, 10] ++ ([97, 41, 0, 101] ++ ([10] ++ PdfVerif.Gen.Filters.ENDSTREAM_MARK ++ ([32] ++ kwEndobj) ++ [10] ++ [120])))).show
      = (GetObj.ok (.stream [([76, 101, 110, 103, 116, 104], .int 4)] [97, 41, 0, 101])).show := by
  decide +kernel

end PdfVerif.Props.C01
