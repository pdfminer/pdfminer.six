/-
C15 — Filesystem confinement: documents cannot steer file access outside the allowed directories.

Property theorems only.  Model: Model/Path.lean (posix join/normpath, CMapDB._load_data file
names, ImageWriter._create_unique_image_name) and Model/ImageName.lean (the naming loop).
"Directly inside directory d" is expressed on normalised paths: norm p = norm d / f for a plain
component f (no separator, not empty, not `.` or `..`).
-/
import PdfVerif.Lemmas.Path
import PdfVerif.Lemmas.ImageName
import PdfVerif.Model.Image

namespace PdfVerif.Props.C15
open PdfVerif PdfVerif.Path PdfVerif.ImageName PdfVerif.PathLemmas PdfVerif.ImageNameLemmas

/-- `p` denotes a file directly inside directory `d` (lexically, after normalisation). -/
def DirectlyIn (d p : Bytes) : Prop :=
  ∃ f, PlainComp f ∧ norm p = ((norm d).1, (norm d).2 ++ [f])

/-! ## CMap resources -/

/-- **cmap_confined.** Whatever name the document supplies (Encoding, CMapName, usecmap,
    Registry-Ordering), every path `_load_data` probes or opens is a file directly inside one of
    the resource directories. -/
theorem C15_cmap_confined (dirs : List Bytes) (name p : Bytes) (hp : p ∈ cmapProbes dirs name) :
    ∃ d ∈ dirs, DirectlyIn d p := by
  obtain ⟨hname, d, hd, rfl⟩ := mem_cmapProbes hp
  have hf := cmapFilename_plain name hname
  exact ⟨d, hd, cmapFilename name, hf, norm_join_plain d _ hf⟩

/-- Benign names are still looked up: the guard removes nothing that has no separator. -/
theorem C15_cmap_lookup_kept (dirs : List Bytes) (name : Bytes) (h : ¬ 47 ∈ name) :
    cmapProbes dirs name = dirs.map (fun d => join d (cmapFilename name)) :=
  (cmapProbes_eq dirs name).trans (if_neg h)

/-- Non-vacuity: the name `H` with the two usual directories. -/
example : cmapProbes [[47, 117], [47, 118, 47]] [72] =
    [[47, 117, 47, 72, 46, 112, 105, 99, 107, 108, 101, 46, 103, 122],
     [47, 118, 47, 72, 46, 112, 105, 99, 107, 108, 101, 46, 103, 122]] := by decide +kernel

/-- The pinned code (no guard) breaks confinement: the name `../../e` probed from `/u/s/p`
    normalises to `/u/e.pickle.gz`, two levels above the resource directory. -/
theorem C15_cmap_pinned_cex :
    ¬ (∀ (dirs : List Bytes) (name p : Bytes), p ∈ cmapProbesPinned dirs name → ∃ d ∈ dirs, DirectlyIn d p) := by
  intro h
  obtain ⟨d, hd, f, _, hn⟩ := h [[47, 117, 47, 115, 47, 112]] [46, 46, 47, 46, 46, 47, 101] _ (List.mem_singleton_self _)
  obtain rfl := List.mem_singleton.mp hd
  -- two components on the left, three and the file name on the right
  have hlen : (norm _).2.length = ((norm _).2 ++ [f]).length := congrArg (·.2.length) hn
  rw [List.length_append, List.length_singleton] at hlen
  exact absurd hlen (by decide +kernel)

/-- The Registry-Ordering route: `get_unicode_map` asks for `to-unicode-<cidcoding>`; whatever
    the CIDSystemInfo strings are, the probed files stay inside the resource directories. -/
theorem C15_unicode_map_confined (dirs : List Bytes) (cidcoding p : Bytes)
    (hp : p ∈ cmapProbes dirs (unicodeMapName cidcoding)) : ∃ d ∈ dirs, DirectlyIn d p :=
  C15_cmap_confined dirs _ p hp

example : cmapProbes [[47, 117]] (unicodeMapName [65, 45, 66]) =
    [[47, 117, 47, 116, 111, 45, 117, 110, 105, 99, 111, 100, 101, 45, 65, 45, 66, 46, 112, 105, 99, 107, 108, 101, 46, 103, 122]] := by
  decide +kernel

/-- **cmap_probe_exact.** The CMap lookup hands to `os.path.exists` / `gzip.open` exactly the paths
    `<dir>/<name without NULs>.pickle.gz` for `dir` in the configured list, in the order of that list — and none at
    all when the name contains a separator.  The last component of every probed path (after normalisation) is that
    file name: nothing in the name can select another file. -/
theorem C15_cmap_probe_exact (dirs : List Bytes) (name : Bytes) :
    cmapProbes dirs name = (if 47 ∈ name then [] else dirs.map (fun d => join d (cmapFilename name))) ∧
    ∀ p ∈ cmapProbes dirs name, (norm p).2.getLast? = some (cmapFilename name) := by
  refine ⟨cmapProbes_eq dirs name, fun p hp => ?_⟩
  obtain ⟨hname, d, _, rfl⟩ := mem_cmapProbes hp
  rw [norm_join_plain d _ (cmapFilename_plain name hname)]
  exact List.getLast?_concat

example : cmapProbes [[47, 117], [47, 118]] [72, 0, 47, 120] = [] ∧
    cmapProbes [[47, 117]] [72, 0, 120] = [[47, 117, 47, 72, 120, 46, 112, 105, 99, 107, 108, 101, 46, 103, 122]] := by
  decide +kernel

/-- **cmap_dirs_absolute.** Where the CMap lookup searches when `CMAP_PATH` is not set: the regenerated default and
    `<package>/cmap` are absolute directories, so for a package installed at an absolute path every probed path is
    absolute — it cannot depend on the process's working directory — and lies directly inside one of these two. -/
theorem C15_cmap_dirs_absolute (pkgdir name p : Bytes) (hpkg : isAbs pkgdir = true)
    (hp : p ∈ cmapProbes (cmapDirs none pkgdir) name) :
    isAbs p = true ∧ (DirectlyIn Gen.PathGen.cmapPathDefault p ∨ DirectlyIn (join pkgdir Gen.PathGen.cmapPkgSubdir) p) := by
  obtain ⟨d, hd, hin⟩ := C15_cmap_confined _ name p hp
  -- a path directly inside `d` is absolute when `d` is
  have habs : isAbs p = isAbs d := by
    obtain ⟨f, _, hn⟩ := hin
    exact congrArg Prod.fst hn
  rcases List.mem_cons.mp hd with rfl | hd
  · exact ⟨habs, Or.inl hin⟩
  · obtain rfl := List.mem_singleton.mp hd
    exact ⟨habs.trans ((isAbs_join _ _).trans (by rw [hpkg, Bool.true_or])), Or.inr hin⟩

/-- Non-vacuity: package at `/p`, name `H`, `CMAP_PATH` not set. -/
example : cmapProbes (cmapDirs none [47, 112]) [72] =
    [[47, 117, 115, 114, 47, 115, 104, 97, 114, 101, 47, 112, 100, 102, 109, 105, 110, 101, 114, 47, 72, 46, 112, 105, 99, 107,
      108, 101, 46, 103, 122],
     [47, 112, 47, 99, 109, 97, 112, 47, 72, 46, 112, 105, 99, 107, 108, 101, 46, 103, 122]] := by decide +kernel

/-! ## Image files -/

/-- **image_confined.** Whatever the XObject name (or inline image id), the file that
    `_create_unique_image_name` picks lies directly inside `outdir`. -/
theorem C15_image_confined (outdir name ext nm p : Bytes) (existing : List Bytes) (hext : ValidExt ext)
    (h : imagePath outdir name ext existing = some (nm, p)) : DirectlyIn outdir p := by
  obtain ⟨_, ⟨j, rfl⟩, rfl⟩ := imagePath_eq_some h
  have hf := candidate_plain name ext hext j
  exact ⟨_, hf, norm_join_plain outdir _ hf⟩

/-- **no_overwrite.** The chosen file name is not one of the files already in `outdir`. -/
theorem C15_no_overwrite (outdir name ext nm p : Bytes) (existing : List Bytes)
    (h : imagePath outdir name ext existing = some (nm, p)) : nm ∉ existing :=
  (imagePath_eq_some h).1

/-- **unique_terminates.** The `while os.path.exists(path)` loop finds a name: the fuel of the model's loop,
    `existing.length + 1` probes (`ImageName.uniqueName`), is never exhausted.  The bound is that of the
    definition; the statement itself only says that a name is returned. -/
theorem C15_unique_terminates (outdir name ext : Bytes) (existing : List Bytes) :
    (imagePath outdir name ext existing).isSome = true := by
  rw [imagePath, Option.isSome_map]
  exact uniqueName_isSome existing (safeName name) ext

/-- Whatever integers the image dictionary gives for bits, width and height — negative ones included —
    the `.<bits>.<w>x<h>.img` suffix of a raw dump consists of digits, `-`, `.`, `x` and letters: it
    cannot add a path separator after the name has been sanitised. (Non-numbers make `%d` raise.) -/
theorem C15_raw_ext_valid (bits w h : Int) : ValidExt (Image.rawExtZ bits w h) := by
  have hdot : ¬ (47 : UInt8) ∈ [46] := by simp
  unfold Image.rawExtZ
  exact validExt_append
    (List.not_mem_append (List.not_mem_append (List.not_mem_append (List.not_mem_append (List.not_mem_append
      hdot (decInt_no_slash bits)) hdot) (decInt_no_slash w)) (by simp)) (decInt_no_slash h))
    ⟨by simp, by decide⟩

/-- `.bmp`, `.jpg`, `.img` (undecoded stream) and the raw-dump suffix `.<bits>.<w>x<h>.img` are valid
    extensions; the `.jp2` literal of `Image.exportImage` and `Image.exportBranch` is not among the four. -/
theorem C15_model_exts_valid : ValidExt Gen.ImageGen.extBmp ∧ ValidExt Gen.ImageGen.extJpeg ∧
    ValidExt Gen.ImageGen.extUndecoded ∧ ∀ bits w h, ValidExt (Image.rawExt bits w h) := by
  have hlit : ValidExt Gen.ImageGen.extBmp ∧ ValidExt Gen.ImageGen.extJpeg ∧ ValidExt Gen.ImageGen.extUndecoded := by
    unfold ValidExt
    decide +kernel
  exact ⟨hlit.1, hlit.2.1, hlit.2.2, fun bits w h => rawExtZ_natCast bits w h ▸ C15_raw_ext_valid bits w h⟩

example : Image.rawExtZ 4 (-3) 1 = [46, 52, 46, 45, 51, 120, 49, 46, 105, 109, 103] := by decide +kernel

/-- Non-vacuity: the hostile name `../x` with `.._x.bmp` already present. -/
example : imagePath [47, 111] [46, 46, 47, 120] [46, 98, 109, 112] [[46, 46, 95, 120, 46, 98, 109, 112]] =
    some ([46, 46, 95, 120, 46, 48, 46, 98, 109, 112], [47, 111, 47, 46, 46, 95, 120, 46, 48, 46, 98, 109, 112]) := by
  decide +kernel

/-- The pinned code joins the raw name: `../x` leaves `/o/d` (the file becomes `/o/x.bmp`), and an
    absolute name replaces the directory altogether. -/
theorem C15_image_pinned_cex :
    norm (imagePathPinned [47, 111, 47, 100] [46, 46, 47, 120] [46, 98, 109, 112]) =
      (true, [[111], [120, 46, 98, 109, 112]]) ∧
    norm (imagePathPinned [47, 111, 47, 100] [47, 120] [46, 98, 109, 112]) = (true, [[120, 46, 98, 109, 112]]) := by
  constructor <;> decide +kernel

/-- **safe_name_algebra.** For EVERY byte string used as an image name (empty, `.`, `..`, absolute, drive or UNC
    forms, NULs, trailing dots or blanks, any length): the sanitised name has the same length, contains neither a
    separator nor a NUL, is a fixed point of the sanitiser, is given byte by byte by "NUL and `/` become the
    replacement character, everything else is kept", and names without those two bytes are not changed at all.
    (`imageReplacedChars` and `imageReplacement` are regenerated from `_create_unique_image_name`.) -/
theorem C15_safe_name_algebra (name : Bytes) :
    (safeName name).length = name.length ∧ ¬ 47 ∈ safeName name ∧ ¬ 0 ∈ safeName name ∧
    safeName (safeName name) = safeName name ∧
    (∀ i : Nat, (safeName name)[i]? = (name[i]?).map (fun c => if c = 0 ∨ c = 47 then Gen.PathGen.imageReplacement else c)) ∧
    ((¬ 47 ∈ name ∧ ¬ 0 ∈ name) → safeName name = name) := by
  refine ⟨safeName_length name, safeName_no_slash name, safeName_no_nul name, safeName_idem name,
    safeName_getElem name, fun ⟨h47, h0⟩ => safeName_id name fun c hc hr => ?_⟩
  rcases List.mem_cons.mp hr with rfl | hr
  · exact h0 hc
  · exact h47 (List.mem_singleton.mp hr ▸ hc)

/-- Non-vacuity: the forms the property's quantifier names, as byte strings on POSIX: empty, `.`, `..`, `/`,
    `//h/s` (UNC), `C:\x` (drive), `a. ` (trailing dot and blank), `a\0/b`. -/
example : safeName [] = [] ∧ safeName [46] = [46] ∧ safeName [46, 46] = [46, 46] ∧ safeName [47] = [95] ∧
    safeName [47, 47, 104, 47, 115] = [95, 95, 104, 95, 115] ∧ safeName [67, 58, 92, 120] = [67, 58, 92, 120] ∧
    safeName [97, 46, 32] = [97, 46, 32] ∧ safeName [97, 0, 47, 98] = [97, 95, 95, 98] := by decide +kernel

/-- ... and where each of them ends up below `/o` with extension `.bmp` (first candidate, nothing exists): always a
    plain file directly inside `/o`. -/
example : (imagePath [47, 111] [] [46, 98, 109, 112] []).map (·.2) = some [47, 111, 47, 46, 98, 109, 112] ∧
    (imagePath [47, 111] [46, 46] [46, 98, 109, 112] []).map (·.2) = some [47, 111, 47, 46, 46, 46, 98, 109, 112] ∧
    (imagePath [47, 111] [47, 47, 104, 47, 115] [46, 98, 109, 112] []).map (·.2) =
      some [47, 111, 47, 95, 95, 104, 95, 115, 46, 98, 109, 112] := by decide +kernel

/-- **history.** For EVERY history of exports `(image name, extension)` into one output directory that already
    holds arbitrary files: every request gets a file (the naming loop never gives up), the file names are pairwise
    distinct, so are the paths, none of them is a file that was there before, each path is `outdir/<name>` and lies
    directly inside `outdir`. -/
theorem C15_history (outdir : Bytes) : ∀ (reqs : List (Bytes × Bytes)) (existing : List Bytes),
    (∀ r ∈ reqs, ValidExt r.2) →
    (exportHistory outdir reqs existing).length = reqs.length ∧
    ((exportHistory outdir reqs existing).map (·.1)).Nodup ∧
    ((exportHistory outdir reqs existing).map (·.2)).Nodup ∧
    ∀ r ∈ exportHistory outdir reqs existing,
      r.1 ∉ existing ∧ PlainComp r.1 ∧ r.2 = join outdir r.1 ∧ DirectlyIn outdir r.2 := by
  intro reqs existing hv
  fun_induction exportHistory outdir reqs existing with
  | case1 => exact ⟨rfl, List.nodup_nil, List.nodup_nil, fun _ h => absurd h List.not_mem_nil⟩
  | case3 name ext _ existing h =>
    exact absurd (C15_unique_terminates outdir name ext existing) (h ▸ Bool.false_ne_true)
  | case2 name ext _ existing nm p h ih =>
    obtain ⟨hext, hrest⟩ := List.forall_mem_cons.mp hv
    -- the later requests see `nm` in the listing, so none of them gets it again
    obtain ⟨ih1, ih2, ih3, ih4⟩ := ih hrest
    obtain ⟨hfresh, ⟨j, hj⟩, hp⟩ := imagePath_eq_some h
    have hplain : PlainComp nm := hj ▸ candidate_plain name ext hext j
    refine ⟨congrArg (· + 1) ih1, List.nodup_cons.mpr ⟨?_, ih2⟩, List.nodup_cons.mpr ⟨?_, ih3⟩,
      List.forall_mem_cons.mpr ⟨⟨hfresh, hplain, hp, C15_image_confined outdir name ext nm p existing hext h⟩, ?_⟩⟩
    · intro hmem
      obtain ⟨r, hr, hrn⟩ := List.mem_map.mp hmem
      exact (ih4 r hr).1 (hrn ▸ List.mem_cons_self)
    · -- equal paths would be equal names: `join outdir` is injective on plain names
      intro hmem
      obtain ⟨r, hr, hrp⟩ := List.mem_map.mp hmem
      obtain ⟨hr1, hr2, hr3, _⟩ := ih4 r hr
      have : r.1 = nm := join_right_injective outdir _ _ (isAbs_of_not_mem hr2.1) (isAbs_of_not_mem hplain.1)
        (hr3.symm.trans (hrp.trans hp))
      exact hr1 (this ▸ List.mem_cons_self)
    · intro r hr
      obtain ⟨a, b, c, d⟩ := ih4 r hr
      exact ⟨fun he => a (List.mem_cons_of_mem _ he), b, c, d⟩

/-- Non-vacuity: the same hostile name `../x` three times (twice as `.bmp`, once as `.jpg`) into `/o`, which
    already holds `.._x.bmp` and `.._x.1.bmp`. -/
example : (exportHistory [47, 111] [([46, 46, 47, 120], [46, 98, 109, 112]), ([46, 46, 47, 120], [46, 98, 109, 112]),
      ([46, 46, 47, 120], [46, 106, 112, 103])]
      [[46, 46, 95, 120, 46, 98, 109, 112], [46, 46, 95, 120, 46, 49, 46, 98, 109, 112]]).map (·.1) =
    [[46, 46, 95, 120, 46, 48, 46, 98, 109, 112], [46, 46, 95, 120, 46, 50, 46, 98, 109, 112],
     [46, 46, 95, 120, 46, 106, 112, 103]] := by decide +kernel

/-! ## Normal forms -/

/-- **norm_canonical.** `normpath` of EVERY byte string yields canonical components: none is empty or `.`, none
    contains a separator, and an absolute path keeps no `..` at all (a relative one only what could not be resolved). -/
theorem C15_norm_canonical (p : Bytes) : ∀ c ∈ (norm p).2,
    c ≠ [] ∧ c ≠ [46] ∧ (¬ 47 ∈ c) ∧ (isAbs p = true → c ≠ [46, 46]) :=
  norm_canon p

/-- What "directly inside" is worth: for an absolute directory `d`, the normal form of a path that is `DirectlyIn d`
    is the normal form of `d` followed by one plain file name, and contains no `..` anywhere — it denotes an entry of
    that directory and nothing else. -/
theorem C15_directly_in_no_dotdot (d p : Bytes) (hd : isAbs d = true) (h : DirectlyIn d p) :
    (norm p).1 = true ∧ ∀ c ∈ (norm p).2, c ≠ [46, 46] ∧ c ≠ [] ∧ ¬ 47 ∈ c := by
  obtain ⟨f, hf, hn⟩ := h
  rw [hn]
  refine ⟨hd, fun c hc => ?_⟩
  rcases List.mem_append.mp hc with hc | hc
  · obtain ⟨h1, _, h3, h4⟩ := norm_canon d c hc
    exact ⟨h4 hd, h1, h3⟩
  · obtain rfl := List.mem_singleton.mp hc
    exact ⟨hf.2.2.2, hf.2.1, hf.1⟩

/-- Non-vacuity: `/a/./b//../c/` → `/a/c`; `../x/..` → `..`; `/../..` → `/`. -/
example : norm [47, 97, 47, 46, 47, 98, 47, 47, 46, 46, 47, 99, 47] = (true, [[97], [99]]) ∧
    norm [46, 46, 47, 120, 47, 46, 46] = (false, [[46, 46]]) ∧ norm [47, 46, 46, 47, 46, 46] = (true, []) := by
  decide +kernel

end PdfVerif.Props.C15
